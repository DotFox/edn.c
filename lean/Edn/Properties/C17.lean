/-
  Property C17 — reading is deterministic, reentrant and leaves the input untouched.

  In the model `read` is a mathematical function of (configuration, options, input bytes): it
  has no access to earlier reads, to addresses, to the heap or to other threads, and its input
  is an immutable value.  Determinism of the *model* is therefore by construction, and what this
  property needs from the proof side is (1) that the model's answer does not depend on the
  artefacts the model itself introduces or abstracts (recursion budget; order in which the
  duplicate check examines elements, which in C depends on qsort and addresses; which scratch
  allocations succeed; state of the hash caches; what follows or precedes a form in the buffer),
  and (2) the correspondence run, which shows every build (gcc at -O0, -O2 and -O3, clang at -O2,
  ASan+UBSan, TSan), every history, heap fill pattern, placement and thread schedule explored
  to compute this one function.  Compiler, heap and scheduler behaviour themselves cannot be
  exhibited by the model: that half is monitoring.
-/
import Edn.Proofs.Run
import Edn.Proofs.Equal
import Edn.Proofs.ReReadCut

namespace Edn.Properties.C17
open Edn.Model Edn.Spec Edn.Proofs

/-- same bytes, same result (the model is a function; stated for the record) -/
theorem same_bytes_same_result (cfg : Cfg) (opts : Opts) (a b : Bytes) (h : a = b) :
    (read cfg opts a).out = (read cfg opts b).out ∧ (read cfg opts a).calls = (read cfg opts b).calls := by
  subst h; exact ⟨rfl, rfl⟩

/-- the answer is not an artefact of the recursion budget -/
theorem independent_of_recursion_budget (ctx : Ctx) (f f' d : Nat) (dm : Bool) (st : St)
    (h : 2 * st.rest.length + 2 ≤ f) (h' : 2 * st.rest.length + 2 ≤ f') :
    readValue ctx f d dm st = readValue ctx f' d dm st :=
  readValue_fuel_irrelevant ctx f f' d dm st h h'

/-- the duplicate verdict does not depend on the order in which elements are examined (in C:
    on how qsort arranges elements with equal hashes, i.e. on addresses) -/
theorem independent_of_examination_order (cfg : Cfg) (xs ys : List Val) (h : Elems cfg xs) (hp : xs.Perm ys) :
    (hasDuplicates cfg xs).1 = (hasDuplicates cfg ys).1 := hasDuplicates_perm cfg xs ys h hp

/-- … nor on which scratch allocations succeed -/
theorem independent_of_scratch_memory (cfg : Cfg) (callocOk mallocOk : Bool) (xs : List Val) (h : Elems cfg xs) :
    (hasDuplicatesF cfg callocOk mallocOk xs).1 = (hasDuplicates cfg xs).1 :=
  (hasDuplicatesF_verdict cfg callocOk mallocOk xs h).1

/-- equality does not depend on which hashes have been computed and cached before -/
theorem independent_of_cache_state (cfg : Cfg) (a b : Val)
    (hda : depth a < maxDepthFuel) (hdb : depth b < maxDepthFuel)
    (ha : WF cfg a) (hb : WF cfg b) (hca : cacheOK cfg a = true) (hcb : cacheOK cfg b = true) :
    equal cfg a b = true ↔ Eqv cfg a b := equal_iff_Eqv cfg a b hda hdb ha hb hca hcb

/-- a form is read the same whatever follows it in the buffer … -/
theorem independent_of_what_follows (ctx : Ctx) (hreg : ctx.opts.registry = none) (f d : Nat) (dm : Bool) (tok r : Bytes) (cl cl' : List Call) (v : Val)
    (h : readValue ctx f d dm { rest := tok ++ r, calls := cl } = .ok v { rest := r, calls := cl' }) :
    ∃ v', readValue ctx f d dm { rest := tok, calls := cl } = .ok v' { rest := [], calls := cl' } ∧
      shiftV r.length v' = v :=
  readValue_cut ctx hreg f d dm tok r cl cl' v h

/-- … and whatever blanks precede it -/
theorem independent_of_leading_blanks (ctx : Ctx) (f d : Nat) (dm : Bool) (tr s : Bytes) (cl : List Call) (h : PlainTrivia tr) :
    readValue ctx (f + 1) d dm { rest := tr ++ s, calls := cl } = readValue ctx (f + 1) d dm { rest := s, calls := cl } :=
  readValue_trivia_prefix ctx f d dm tr s cl h

end Edn.Properties.C17
