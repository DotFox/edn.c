/-
  Property C06 — string contents, length and termination are exact and stable.

  `StrContent cfg sp dn` (Edn.Spec.StringLit) says that the literal text `sp` between the
  quotes spells units (plain bytes other than `"` and `\`, or escapes of the build's escape
  set) denoting the bytes `dn`.  In the model a string value *is* the list of bytes that
  `edn_string_get` returns, so "reported length = number of bytes, NUL included" and
  "repeated calls return the same bytes" hold by construction; that the real accessor
  returns a stable, NUL-terminated buffer of that length is checked by the correspondence run.
-/
import Edn.Proofs.Str
import Edn.Proofs.StrSound

namespace Edn.Properties.C06
open Edn.Model Edn.Spec Edn.Proofs

/-- the closing quote is found exactly at the end of the content, and the escape flag is set
    exactly when the content contains a backslash -/
theorem closing_quote_exact (cfg : Cfg) (sp dn : Bytes) (h : StrContent cfg sp dn) (rest : Bytes) :
    findQuote (sp ++ 0x22 :: rest) = some (0x22 :: rest, sp.contains 0x5C) := by
  rw [findQuote_eq, findQuoteScalar_quote (contentX_rawStr (strContent_toX h))]; simp

/-- a literal without its closing quote is unterminated -/
theorem unterminated (cfg : Cfg) (sp dn : Bytes) (h : StrContent cfg sp dn) : findQuote sp = none := by
  rw [findQuote_eq]; exact findQuoteScalar_open (.inl (contentX_rawStr (strContent_toX h))) false

/-- Reading a literal and fetching its bytes: the value's range covers both quotes, the bytes
    returned are exactly the denoted bytes (so the length is exact even when they include
    NUL), and the rest of the input is untouched. -/
theorem literal_denotation (ctx : Ctx) (sp dn rest : Bytes) (cl : List Call)
    (h : StrContent ctx.cfg sp dn)
    (hnb : ¬ (ctx.cfg.exp = true ∧ ∃ t, (0x22 :: (sp ++ 0x22 :: rest)) = 0x22 :: 0x22 :: 0x22 :: 0x0A :: t)) :
    ∃ esc, readString ctx { rest := 0x22 :: (sp ++ 0x22 :: rest), calls := cl } =
        .ok (.str (mkHdr (sp.length + 2 + rest.length) rest.length) sp esc) { rest := rest, calls := cl } ∧
      stringGet ctx.cfg sp esc = some dn :=
  ⟨sp.contains 0x5C, readString_literal ctx sp dn rest cl h hnb, stringGet_contentX ctx.cfg sp dn (strContent_toX h)⟩

/-- a literal without escapes is returned as it is -/
theorem zero_copy (cfg : Cfg) (sp dn : Bytes) (h : StrContent cfg sp dn) (hb : sp.contains 0x5C = false) : dn = sp :=
  no_backslash_plainX cfg sp dn (strContent_toX h) hb

/-- an escape the build does not define is an access-time error, never garbage -/
theorem undefined_escape (cfg : Cfg) (c : UInt8) (r : Bytes)
    (hc : decodeEscape cfg (c :: r) = none) (pre dn : Bytes) (h : StrContent cfg pre dn) :
    stringGet cfg (pre ++ 0x5C :: c :: r) true = none := by
  obtain ⟨k, hk, hdec⟩ := decode_contentX_append cfg pre dn (strContent_toX h) (0x5C :: c :: r)
    (fun d t' e => by cases e; decide)
  unfold stringGet
  obtain ⟨g, hg⟩ : ∃ g, (pre ++ 0x5C :: c :: r).length + 1 = (g + 1) + k :=
    ⟨(pre ++ 0x5C :: c :: r).length - k, by simp; omega⟩
  simp only [Bool.not_true, Bool.false_eq_true, if_false]
  rw [hg, hdec]
  simp [decodeString, hc]

/-- the comparison helper agrees with the returned bytes -/
theorem string_equals_agrees (cfg : Cfg) (data : Bytes) (esc : Bool) (text : Bytes) (hz : text.all (· != 0) = true) :
    stringEquals cfg data esc text = (stringGet cfg data esc == some text) := by
  unfold stringEquals
  have : text.takeWhile (· != 0) = text := by
    induction text with
    | nil => rfl
    | cons c cs ih =>
      simp only [List.all_cons, Bool.and_eq_true] at hz
      simp [hz.1, ih hz.2]
  rw [this]
  cases stringGet cfg data esc <;> simp

/-- non-vacuity: `a<NUL>b\n` (with the Clojure escapes: also é) -/
example : StrContent ⟨true, false⟩ [0x61, 0x00, 0x62, 0x5C, 0x6E] [0x61, 0x00, 0x62, 0x0A] :=
  .cons (.plain 0x61 (by decide) (by decide)) (.cons (.plain 0x00 (by decide) (by decide))
    (.cons (.plain 0x62 (by decide) (by decide)) (.cons .newline .nil)))

/-- **Exactness, every configuration**: for the text between the quotes of an ordinary literal,
    the reader returns a string value whose bytes can be fetched as `dn` **iff** the text spells
    units denoting `dn` (`StrContentX`: `StrContent` plus, with the Clojure flag, octal escapes of
    one to three digits up to `\377`, longest match, denoting one raw byte).  So an undefined escape,
    a truncated `\u`, a surrogate, a lone trailing backslash are all access-time errors, and no
    spelling decodes to anything but its denotation. -/
theorem literal_fetch_is_the_grammar (ctx : Ctx) (sp dn rest : Bytes) (cl : List Call)
    (hnb : ¬ (ctx.cfg.exp = true ∧ ∃ t, (0x22 :: (sp ++ 0x22 :: rest)) = 0x22 :: 0x22 :: 0x22 :: 0x0A :: t)) :
    (∃ h esc, readString ctx { rest := 0x22 :: (sp ++ 0x22 :: rest), calls := cl } =
        .ok (.str h sp esc) { rest := rest, calls := cl } ∧ stringGet ctx.cfg sp esc = some dn)
      ↔ StrContentX ctx.cfg sp dn :=
  readString_iff ctx sp dn rest cl hnb

/-- the decoder alone: on data without an unescaped quote (what the reader stores) it returns `dn`
    iff the data spells `dn`; without the Clojure flag `StrContent` itself is exact -/
theorem decode_is_the_grammar (cfg : Cfg) (sp dn : Bytes) (hq : findQuote sp = none) :
    stringGet cfg sp true = some dn ↔ StrContentX cfg sp dn :=
  ⟨stringGet_sound cfg sp dn hq, stringGet_complete cfg sp dn⟩

theorem decode_is_the_grammar_noclj (cfg : Cfg) (hc : cfg.clj = false) (sp dn : Bytes) (hq : findQuote sp = none) :
    stringGet cfg sp true = some dn ↔ StrContent cfg sp dn :=
  stringGet_iff_noclj cfg hc sp dn hq

end Edn.Properties.C06
