/-
  Property C01 — no out-of-bounds access or undefined behaviour on any input bytes.

  Theorem part: (a) arithmetic — every fixed-width accumulator of the number reader stays in
  range for every input, so the C code's signed arithmetic never overflows and its unsigned
  arithmetic never wraps where a wrap would matter; (b) the model reads its input only
  through total list operations on the `length` bytes it was given, so it cannot depend on
  memory outside input[0, length) — by construction; (c) every zero-copy slice stored in a
  tree lies inside the input (ranges, Edn.Proofs.Ranges).  That the C code itself touches
  nothing else is what the sanitiser / guard-page correspondence runs check (monitoring).
-/
import Edn.Proofs.NoOverflow
import Edn.Proofs.Ranges

namespace Edn.Properties.C01
open Edn.Model Edn.Proofs

/-- `int64_t mantissa` of parse_double_from_buffer stays below 10^18 < 2^63 -/
theorem float_mantissa_in_range (exp : Bool) (s : Bytes) : (accDigits exp 0 0 s).1 < 10 ^ 18 :=
  accDigits_bound exp s 0 0 (by decide)

/-- `int64_t exp_value`: `accExp` returns it after the clamp (so even `≤ 1000`,
    `Edn.Proofs.accExp_le`); 10009 = 1000 · 10 + 9 bounds the C variable before the clamp, an
    intermediate the model does not have -/
theorem float_exponent_in_range (exp : Bool) (s : Bytes) : accExp exp 0 s ≤ 10009 :=
  accExp_bound exp s 0 (by decide)

/-- `int radix_val` stays at most 369 for every digit run, however long -/
theorem radix_prefix_in_range (s : Bytes) (h : ∀ c ∈ s, is09 c = true) : radixPrefixValue 0 s ≤ 369 :=
  radixPrefixValue_bound s 0 (by decide) h

/-- the unsigned 64-bit accumulator of parse_int64_from_buffer never exceeds the bound it is
    tested against (so it never wraps), in the SWAR tier and in both scalar tiers … -/
theorem int_accumulator_never_wraps (maxVal : Nat) (hmax : maxVal ≤ 9223372036854775808) :
    (∀ (f v : Nat) (s : Bytes), v ≤ maxVal → ∀ r rest, swarLoop maxVal f v s = some (r, rest) → r ≤ maxVal) ∧
    (∀ (exp : Bool) (s : Bytes) (v : Nat), v ≤ maxVal → ∀ r,
        scalarDigits10 exp (maxVal / 10) (maxVal % 10) v s = some r → r ≤ maxVal) :=
  ⟨swarLoop_no_wrap maxVal hmax, fun exp => scalarDigits10_no_wrap exp maxVal hmax⟩

/-- … and its result always fits a signed 64-bit integer, so the final conversion and the
    negation (also of 2^63) are defined -/
theorem int_result_in_range (cfg : Cfg) (ds : Bytes) (radix : Nat) (hr : 2 ≤ radix ∧ radix ≤ 36) (neg : Bool) (i : Int)
    (h : parseInt64 cfg ds radix neg = some i) : -9223372036854775808 ≤ i ∧ i ≤ 9223372036854775807 :=
  parseInt64_in_range cfg ds radix hr neg i h

/-- every zero-copy slice the tree refers to lies inside input[0, length): the range of the
    returned value, and hereditarily of everything in it, is inside the input -/
theorem slices_inside_input (cfg : Cfg) (opts : Opts) (hreg : opts.registry = none) (input : Bytes) (v : Val)
    (h : (read cfg opts input).out = .value v) :
    Edn.Spec.RangeOK v ∧ v.hdr.s ≤ input.length ∧ v.hdr.e < v.hdr.s :=
  read_value_ranges cfg opts hreg input v h

example : parseInt64 Cfg.core "9223372036854775808".toUTF8.toList 10 true = some (-9223372036854775808) := by decide +kernel

end Edn.Properties.C01
