/-
  Property C16 — allocation failure at any point yields a clean error or a complete value.

  Theorem part 1 (the logic that decides what is handed out when requests fail): the collection
  builder and the duplicate check, under *every* schedule of failing requests.

  Theorem part 2 (the whole reader): Edn.Model.ReaderA is the reader model with allocation inside
  it — every logical allocation request of `edn_read_with_options` goes through one function and
  a fault oracle `orc : Nat → Bool` decides which requests fail (tied to the C code by the `H`
  correspondence stream of this check: every request of every corpus document failed alone and
  from there on, event traces compared).  About it:
  * `reader_without_faults_is_the_reader` — under an oracle that fails nothing the
    allocation-aware reader returns exactly what `Edn.Model.read` returns (refinement: every
    theorem about `read` is a theorem about the fault-free runs of `readA`);
  * `error_without_fault_is_the_readers_error` — an error returned although no request failed is
    the fault-free error;
  * `fault_yields_error_or_the_complete_value` — under EVERY oracle (every single failure, every
    from-k-on failure, every other schedule) the outcome is the complete fault-free value (equal up
    to cache cells, same call log), or the end-of-input value where the fault-free read yields it,
    or an error: a fault can turn the outcome into an error, never into a different or partial
    value (for registries of handlers that do not look at cache cells, in particular without a
    registry; see the theorem for why, and for the defect of edn.c, repaired in commit 3ec3cdf of
    /repo, under which the statement is false);
  * `accessor_yields_payload_or_null` — an accessor call that materialises a string or the digits
    of a big number after the read returns the complete payload or NULL under every oracle.
  That the code returns normally, leaks nothing and touches no dead memory under every single and
  every from-k-on failure is, beyond the correspondence with the model, decided at run time by the
  fault enumeration of the check (monitoring).
-/
import Edn.Proofs.Faults
import Edn.Proofs.Arena
import Edn.Proofs.AllocSim
import Edn.Proofs.AllocSimFault
import Edn.Proofs.AllocSimMat

namespace Edn.Properties.C16
open Edn.Model Edn.Spec Edn.Proofs

/-- for every element list, initial capacity and allocation schedule the builder either reports
    a failed add (only when a request failed), or returns NULL (only for an empty collection or
    when a request failed), or returns a heap array holding exactly the elements added, in
    order - never a partial array -/
theorem builder_complete_or_null {α : Type} (grow : Nat → Nat) (initCap : Nat) (xs : List α) (sched : List Bool) :
    match Builder.run grow initCap xs sched with
    | .addFailed i => i < xs.length ∧ false ∈ sched
    | .finished n none => n = xs.length ∧ (xs = [] ∨ false ∈ sched)
    | .finished n (some (st, ys)) => st = .heap ∧ ys = xs ∧ n = xs.length :=
  builder_outcome grow initCap xs sched

/-- the array handed to the caller never is the builder's own in-frame storage (which dies with
    the reader's stack frame) -/
theorem builder_never_returns_frame_storage {α : Type} (grow : Nat → Nat) (initCap : Nat) (xs ys : List α) (sched : List Bool) (n : Nat) (st : Store)
    (h : Builder.run grow initCap xs sched = .finished n (some (st, ys))) : st = .heap := by
  have := builder_outcome grow initCap xs sched
  rw [h] at this
  exact this.1

/-- without failing requests every element is delivered -/
theorem builder_without_faults {α : Type} (grow : Nat → Nat) (initCap : Nat) (xs : List α) (sched : List Bool) (hs : false ∉ sched) :
    Builder.run grow initCap xs sched =
      .finished xs.length (if xs = [] ∧ initCap ≤ 8 then none else some (.heap, xs)) :=
  builder_no_faults grow initCap xs sched hs

/-- duplicate detection degrades hash table -> sorted -> pairwise when scratch memory is
    unavailable; the verdict is the same in every case, and exact -/
theorem duplicate_verdict_independent_of_faults (cfg : Cfg) (callocOk mallocOk : Bool) (xs : List Val) (h : Elems cfg xs) :
    ((hasDuplicatesF cfg callocOk mallocOk xs).1 = (hasDuplicates cfg xs).1) ∧
    ((hasDuplicatesF cfg callocOk mallocOk xs).1 = false ↔ pairwiseDistinct cfg xs) ∧
    Elems cfg (hasDuplicatesF cfg callocOk mallocOk xs).2 ∧
    (hasDuplicatesF cfg callocOk mallocOk xs).2.length = xs.length :=
  hasDuplicatesF_verdict cfg callocOk mallocOk xs h

/-- a refused arena request changes nothing (so the arena stays consistent and a later,
    smaller request can still succeed) -/
theorem refused_request_changes_nothing (mallocOk : Nat → Bool) (a : Arena) (size : Nat) (hinv : Inv a)
    (h : (a.alloc mallocOk size).1 = none) : (a.alloc mallocOk size).2 = a :=
  (alloc_spec mallocOk a size hinv).2.2.1 h

example : (match (Builder.run growHalf 8 [1, 2, 3] [false] : BuildOutcome Nat) with | .finished 3 none => true | _ => false) = true := by decide
example : (match (Builder.run growHalf 8 (List.range 9) [true] : BuildOutcome Nat) with | .finished 9 (some (.heap, ys)) => ys == List.range 9 | _ => false) = true := by decide

/-- **The reader without faults is the reader.**  For every oracle that fails no request (in
    particular `fun _ => false`), every growth rule of the builders, every table of handlers that
    request memory and every order in which `qsort` first touches the elements, the
    allocation-aware model of `edn_read_with_options` returns the outcome (value incl. cache cells,
    end-of-input value, or error with code and positions) and the call log of `Edn.Model.read`. -/
theorem reader_without_faults_is_the_reader (cfg : Cfg) (opts : Opts) (orc : Nat → Bool) (hx : ∀ n, orc n = false)
    (input : Bytes) (grow : Nat → Nat) (handlerReq : String → Bool) (sortTouch : Nat → List Nat) :
    (readA cfg opts orc input grow handlerReq sortTouch).result = Edn.Model.read cfg opts input :=
  Edn.Proofs.AllocSim.readA_nofault cfg opts orc hx input grow handlerReq sortTouch

/-- the same inside the recursion: `edn_read_value` with a live parser arena and no failing
    request returns the value, rest, call log or error of `readValue` -/
theorem readValue_without_faults (x : ACtx) (hx : ∀ n, x.orc n = false) (f d : Nat) (dm : Bool) (st : St) (a : ASt)
    (ha : a.arena = .alive) :
    (readValueA x f d dm st a).1 = readValue x.ctx f d dm st ∧ (readValueA x f d dm st a).2.arena = .alive :=
  Edn.Proofs.AllocSim.readValueA_nofault x hx f d dm st a ha

/-- an error that is returned although no request failed is the error of the fault-free reader -/
theorem error_without_fault_is_the_readers_error (cfg : Cfg) (opts : Opts) (orc : Nat → Bool)
    (hx : ∀ n, orc n = false) (input : Bytes) (grow : Nat → Nat) (handlerReq : String → Bool)
    (sortTouch : Nat → List Nat) (code : Err) (es ee : Pos)
    (h : (readA cfg opts orc input grow handlerReq sortTouch).out = .error code es ee) :
    (Edn.Model.read cfg opts input).out = .error code es ee := by
  rw [← reader_without_faults_is_the_reader cfg opts orc hx input grow handlerReq sortTouch]
  exact h

def Outcome.isValue : Outcome → Bool
  | .value _ => true
  | _ => false

/-- the numeric error code of an outcome (`Err.code`: 4 = OUT_OF_MEMORY) -/
def Outcome.errCode : Outcome → Option Nat
  | .error c _ _ => some c.code
  | _ => none

-- `[1 2 {:a "x"} #{1 2 3}]`: without a failing request a value; with request 5 (the keyword `:a`;
-- requests 1 and 2 create the arena, 3 and 4 are the two integers) failing, OUT_OF_MEMORY
example : Outcome.isValue (readA Cfg.core {} (fun _ => false) "[1 2 {:a \"x\"} #{1 2 3}]".toUTF8.toList).out = true := by
  decide +kernel
example : Outcome.isValue (Edn.Model.read Cfg.core {} "[1 2 {:a \"x\"} #{1 2 3}]".toUTF8.toList).out = true := by
  decide +kernel
example : Outcome.errCode (readA Cfg.core {} (fun i => i == 5) "[1 2 {:a \"x\"} #{1 2 3}]".toUTF8.toList).out
    = some 4 := by decide +kernel
example : Outcome.errCode (readA Cfg.core {} (fun i => decide (5 ≤ i)) "[1 2 {:a \"x\"} #{1 2 3}]".toUTF8.toList).out
    = some 4 := by decide +kernel

/-- **A fault yields an error or the complete value.**  For every fault oracle `orc` — every
    single failing request, every failure from some request on, every other schedule —, every
    growth rule, handler-request table and `qsort` contact order, and every registry of handlers
    that do not look at cache cells (`RegistryOK`, see below; true when there is no registry):

    * if the read under faults returns a value `v`, the fault-free read returns a value `v0` with
      `eraseCache v = eraseCache v0` (the same tree: kinds, payloads, source ranges, element order,
      metadata; only cache cells of the hash may be empty in `v` where `v0` has them filled,
      because the duplicate check falls back to a strategy without hashing when its scratch memory
      is refused), and the call logs are equal;
    * if it returns the caller's end-of-input value, so does the fault-free read;
    * otherwise it returns an error; it never runs out of the model's recursion fuel.

    `RegistryOK cfg opts`: every handler, given arguments that differ in cache cells only, gives up
    on both or returns results that differ in cache cells only and are well-formed values with
    valid caches (`Edn.Proofs.AllocSim.HandlerOK`).  Needed because a handler of the model is an
    arbitrary function of the value incl. its cache cells
    (`Edn.Proofs.AllocSim.fault_theorem_needs_registry_hypothesis`: a handler that peeks at a cache
    cell turns a refused scratch `malloc` into a different value); the identity handler, the
    always-failing handler and a handler building an external value satisfy it.

    The statement is false of edn.c in the parent of commit 3ec3cdf of /repo, where a refused lazy
    decoding inside `edn_value_equal` is treated like an undecodable literal.  Counterexamples, both
    reproduced on that code with the `H` command: core configuration, `#{"a\n" "a<LF>"}` with
    request 6 alone failing returns a set with two equal elements (fault-free: DUPLICATE_ELEMENT);
    Clojure configuration, `^{"a\n" 1} ^{"a<LF>" 2} x` with request 17 and every later one failing
    returns `x` with a metadata map with two equal keys (fault-free: one entry).  From 3ec3cdf on
    the arena counts refused requests (`arena->failed_requests`, `ASt.failedArena` in the model)
    and the set / map close and the metadata merge report OUT_OF_MEMORY when the count moved
    during the comparison; from 0adc45c on big-number equality is false on NULL digits.  The
    theorem rests on both. -/
theorem fault_yields_error_or_the_complete_value (cfg : Cfg) (opts : Opts)
    (hR : Edn.Proofs.AllocSim.RegistryOK cfg opts)
    (orc : Nat → Bool) (input : Bytes) (grow : Nat → Nat) (handlerReq : String → Bool) (sortTouch : Nat → List Nat) :
    (match (readA cfg opts orc input grow handlerReq sortTouch).out with
     | .value v => ∃ v0, (Edn.Model.read cfg opts input).out = .value v0 ∧ eraseCache v = eraseCache v0
     | .eofValue => (Edn.Model.read cfg opts input).out = .eofValue
     | .error _ _ _ => True
     | .fuelOut => False) ∧
    (∀ v, (readA cfg opts orc input grow handlerReq sortTouch).out = .value v →
      (readA cfg opts orc input grow handlerReq sortTouch).calls = (Edn.Model.read cfg opts input).calls) :=
  Edn.Proofs.AllocSim.readA_fault cfg opts hR orc input grow handlerReq sortTouch

/-- the fault theorem without a handler registry (no hypothesis left) -/
theorem fault_yields_error_or_the_complete_value_noRegistry (cfg : Cfg) (opts : Opts) (hreg : opts.registry = none)
    (orc : Nat → Bool) (input : Bytes) (grow : Nat → Nat) (handlerReq : String → Bool) (sortTouch : Nat → List Nat) :
    (match (readA cfg opts orc input grow handlerReq sortTouch).out with
     | .value v => ∃ v0, (Edn.Model.read cfg opts input).out = .value v0 ∧ eraseCache v = eraseCache v0
     | .eofValue => (Edn.Model.read cfg opts input).out = .eofValue
     | .error _ _ _ => True
     | .fuelOut => False) :=
  (fault_yields_error_or_the_complete_value cfg opts (Edn.Proofs.AllocSim.RegistryOK_of_none hreg) orc input grow handlerReq sortTouch).1

/-- the same inside the recursion (`edn_read_value` at a nesting depth within the limit) -/
theorem readValue_under_faults (x : ACtx) (hR : Edn.Proofs.AllocSim.RegistryOK x.ctx.cfg x.ctx.opts) (f d : Nat) (dm : Bool) (st : St) (a : ASt)
    (hd : d ≤ Edn.Generated.Tables.maxNestingDepth) (v : Val) (st' : St)
    (h : (readValueA x f d dm st a).1 = .ok v st') :
    ∃ v0, readValue x.ctx f d dm st = .ok v0 st' ∧ eraseCache v = eraseCache v0 := by
  have g := Edn.Proofs.AllocSim.readValueA_fault x hR f d dm st a hd
  rw [h] at g
  exact g.imp fun v0 g => ⟨g.1, g.2.er⟩

/-- the first counterexample above on edn.c from 3ec3cdf on: with request 6 (the decoded text of the
    escaped string, inside the duplicate check) failing alone the read reports OUT_OF_MEMORY … -/
example : Outcome.errCode (readA Cfg.core {} (fun i => i == 6) "#{\"a\\n\" \"a\n\"}".toUTF8.toList).out = some 4 := by
  decide +kernel
/-- … and DUPLICATE_ELEMENT (12) without a fault -/
example : Outcome.errCode (readA Cfg.core {} (fun _ => false) "#{\"a\\n\" \"a\n\"}".toUTF8.toList).out = some 12 := by
  decide +kernel
/-- the hypothesis of the fault theorem holds for the default options … -/
example : Edn.Proofs.AllocSim.RegistryOK Cfg.core {} := Edn.Proofs.AllocSim.RegistryOK_of_none rfl
/-- … and for a registry that maps every tag to the identity handler -/
example (cfg : Cfg) : Edn.Proofs.AllocSim.RegistryOK cfg { registry := some (fun _ => some ⟨"id", fun v => some v⟩) } := by
  intro reg e tag h hh
  simp only [Option.some.injEq] at e
  subst e
  simp only [Option.some.injEq] at hh
  subst hh
  exact Edn.Proofs.AllocSim.HandlerOK_id cfg "id"
/-- a failing scratch allocation (request 22: the `malloc` of the sorted copy) degrades the duplicate
    check of a 17-element set to the pairwise strategy without changing the outcome: still a
    value (whose elements have empty cache cells) -/
example : Outcome.isValue (readA Cfg.core {} (fun i => i == 22)
    "#{1 2 3 4 5 6 7 8 9 10 11 12 13 14 15 16 17}".toUTF8.toList).out = true := by decide +kernel

/-- **Lazily materialised payloads.**  `edn_string_get`, `edn_bigint_get`, `edn_bigdec_get` called
    on a value of the tree after the read, under every oracle and in every allocation state:
    the complete payload (`materialise`: decoded text, digits without separators) or NULL — never a
    part of it; with no failing request and the arena alive, the payload. -/
theorem accessor_yields_payload_or_null (x : ACtx) (v : Val) (a : ASt) :
    (materialiseA x v a).1 = Edn.Proofs.AllocSim.materialise x.ctx.cfg v ∨ (materialiseA x v a).1 = none :=
  (AllocSim.materialiseA_out x v a).imp id And.left

theorem accessor_without_faults (x : ACtx) (hx : ∀ n, x.orc n = false) (v : Val) (a : ASt) (ha : a.arena = .alive) :
    (materialiseA x v a).1 = Edn.Proofs.AllocSim.materialise x.ctx.cfg v :=
  (AllocSim.materialiseA_out x v a).elim id fun h => absurd ⟨hx, ha⟩ h.2

end Edn.Properties.C16
