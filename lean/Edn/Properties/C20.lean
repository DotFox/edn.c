/-
  Property C20 — text blocks follow the documented indentation algorithm (experimental extension).

  The documented algorithm is `Edn.Spec.blockText`, a function of the block's *source lines*
  (indentation, body) and the position of the closing delimiter: remove the common indentation
  (minimum over lines with a body and the closing-delimiter line), strip trailing blanks, keep
  relative indentation and blank lines, unescape `\"""`, join with line feeds, final line feed
  exactly when the closing delimiter is on its own line.
-/
import Edn.Proofs.TextBlock
import Edn.Proofs.Str

namespace Edn.Properties.C20
open Edn.Model Edn.Spec Edn.Proofs

/-- with the experimental flag, every well-formed block - any number of lines, any
    indentation by spaces and tabs, blank lines, trailing blanks, any number of escaped triple
    quotes, closing delimiter inline or on its own line at any indentation - reads as a string
    value holding exactly the bytes the documented algorithm denotes (hence with exactly that
    length), with no escape processing pending, spanning the whole literal, leaving what
    follows untouched -/
theorem block_reads_as_documented (ctx : Ctx) (hexp : ctx.cfg.exp = true) (lines : List SrcLine) (c : Closer) (rest : Bytes) (cl : List Call)
    (hl : ∀ l ∈ lines, l.WF) (hc : c.WF lines) :
    readString ctx { rest := [0x22, 0x22, 0x22, 0x0A] ++ encodeBlock lines c ++ rest, calls := cl } =
      .ok (.str (mkHdr (4 + (encodeBlock lines c).length + rest.length) rest.length) (blockText lines c) false)
        { rest := rest, calls := cl } := by
  show readString ctx { rest := 0x22 :: 0x22 :: 0x22 :: 0x0A :: (encodeBlock lines c ++ rest), calls := cl } = _
  rw [readString_textblock_eq ctx hexp, readTextBlockBody_encode lines c rest hl hc]
  simp only [List.length_append]
  congr 3
  omega

/-- the scanner recovers the source lines: body reader = documented text + untouched rest -/
theorem scanner_recovers_lines (lines : List SrcLine) (c : Closer) (rest : Bytes)
    (hl : ∀ l ∈ lines, l.WF) (hc : c.WF lines) :
    readTextBlockBody (encodeBlock lines c ++ rest) = .ok (blockText lines c, rest) :=
  readTextBlockBody_encode lines c rest hl hc

/-- the text ends with a line feed exactly when the closing delimiter stands on its own line -/
theorem final_newline_rule (lines : List SrcLine) (c : Closer) (hne : lines ≠ [])
    (hl : ∀ l ∈ lines, l.WF) (hc : c.WF lines) :
    ((blockText lines c).getLast? = some 0x0A) ↔ (∃ ind, c = .ownLine ind) :=
  blockText_final_newline lines c hne hl hc.toWFx

/-- a block is equal to, and hashes like (so collides in sets and maps with), the ordinary
    string literal spelling the same content -/
theorem block_equals_ordinary_literal (cfg : Cfg) (h h' : Hdr) (text sp : Bytes) (hs : StrContent cfg sp text) :
    Eqv cfg (.str h text false) (.str h' sp (sp.contains 0x5C)) ∧
    hashV cfg (.str h text false) = hashV cfg (.str h' sp (sp.contains 0x5C)) := by
  -- both values have the content `text`: the literal's escapes decode to it
  have h2 : stringContent cfg sp (sp.contains 0x5C) = stringContent cfg text false :=
    stringContent_contentX cfg sp text (strContent_toX hs)
  constructor
  · show (stringContent cfg text false == stringContent cfg sp (sp.contains 0x5C)) = true
    rw [h2]; exact beq_self_eq_true _
  · rw [hashV, hashV, h2]; rfl

/-- non-vacuity, and the case the test suite misses: first line at indentation 0 followed by an
    indented line keeps the second line's indentation -/
example : blockText [⟨[], [0x61]⟩, ⟨[0x20, 0x20], [0x62]⟩] (.ownLine []) = [0x61, 0x0A, 0x20, 0x20, 0x62, 0x0A] := by decide +kernel
example : (⟨[0x20, 0x20], [0x62]⟩ : SrcLine).WF :=
  ⟨by decide, by decide, .plain 0x62 [] (by decide) (by decide) (by decide) .nil⟩

/-! ## The converse: the block reader accepts exactly the well-formed blocks

  Well-formedness of the closing delimiter is `Closer.WFx` below: `Closer.WF` with one more case
  allowed (the last body may end in an escaped triple quote directly before the delimiter).
  With `Closer.WF` itself the converse is false, see `spec_closer_wf_is_narrower`. -/

/-- `Closer.WFx` is `Closer.WF` or "inline delimiter directly after a body ending in `\"""`" -/
theorem exact_closer_wf (lines : List SrcLine) (c : Closer) :
    c.WFx lines ↔ c.WF lines ∨
      (c = .inline ∧ ∃ l, lines.getLast? = some l ∧ [0x5C, 0x22, 0x22, 0x22] <:+ l.body) :=
  Closer.WFx_iff lines c

/-- `block_reads_as_documented` holds for the exact well-formedness too -/
theorem exact_block_reads_as_documented (lines : List SrcLine) (c : Closer) (rest : Bytes)
    (hl : ∀ l ∈ lines, l.WF) (hc : c.WFx lines) :
    readTextBlockBody (encodeBlock lines c ++ rest) = .ok (blockText lines c, rest) :=
  readTextBlockBody_complete lines c rest hl hc

/-- with the experimental flag, `"""⏎ body rest` is read as a string value with text `text`
    (spanning the literal, no escape processing pending), leaving exactly `rest`, if and only if
    `body` is a well-formed block and `text` is what the documented algorithm gives for it:
    the reader accepts the grammar of text blocks and nothing else -/
theorem block_reader_is_the_grammar (ctx : Ctx) (hexp : ctx.cfg.exp = true) (body rest text : Bytes) (cl : List Call) :
    readString ctx { rest := 0x22 :: 0x22 :: 0x22 :: 0x0A :: (body ++ rest), calls := cl } =
        .ok (.str (mkHdr (4 + body.length + rest.length) rest.length) text false) { rest := rest, calls := cl } ↔
      ∃ (lines : List SrcLine) (c : Closer), (∀ l ∈ lines, l.WF) ∧ c.WFx lines ∧
        body = encodeBlock lines c ∧ text = blockText lines c :=
  readString_textblock_iff ctx hexp body rest text cl

/-- the same, comparing the value by content (`strip`) -/
theorem block_reader_is_the_grammar_content (ctx : Ctx) (hexp : ctx.cfg.exp = true) (body rest text : Bytes) (cl : List Call) :
    (∃ v, readString ctx { rest := 0x22 :: 0x22 :: 0x22 :: 0x0A :: (body ++ rest), calls := cl } =
        .ok v { rest := rest, calls := cl } ∧ strip v = .str hdr0 text false) ↔
      ∃ (lines : List SrcLine) (c : Closer), (∀ l ∈ lines, l.WF) ∧ c.WFx lines ∧
        body = encodeBlock lines c ∧ text = blockText lines c := by
  constructor
  · rintro ⟨v, h, hs⟩
    obtain ⟨lines, c, rest', h1, h2, h3, h4, h5⟩ := readString_textblock_sound ctx hexp _ cl _ _ h
    simp only [St.mk.injEq, and_true] at h5
    subst h5
    subst h4
    simp only [strip, Val.str.injEq, true_and, and_true] at hs
    exact ⟨lines, c, h1, h2, List.append_cancel_right h3, hs.symm⟩
  · intro h
    exact ⟨_, (readString_textblock_iff ctx hexp body rest text cl).mpr h, by simp [strip]⟩

/-- whatever value the reader returns for an input starting with `"""⏎` is the string denoted by
    a well-formed block at the start of the input; the value spans that block and the reader
    stands right behind it -/
theorem accepted_block_is_well_formed (ctx : Ctx) (hexp : ctx.cfg.exp = true) (s : Bytes) (cl : List Call)
    (v : Val) (st' : St)
    (h : readString ctx { rest := 0x22 :: 0x22 :: 0x22 :: 0x0A :: s, calls := cl } = .ok v st') :
    ∃ (lines : List SrcLine) (c : Closer) (rest : Bytes), (∀ l ∈ lines, l.WF) ∧ c.WFx lines ∧
      s = encodeBlock lines c ++ rest ∧
      v = .str (mkHdr (s.length + 4) rest.length) (blockText lines c) false ∧
      st' = { rest := rest, calls := cl } :=
  readString_textblock_sound ctx hexp s cl v st' h

/-- the body reader: a result is returned exactly for a well-formed block followed by the
    returned rest -/
theorem body_reader_is_the_grammar (body text rest : Bytes) :
    readTextBlockBody body = .ok (text, rest) ↔
      ∃ (lines : List SrcLine) (c : Closer), (∀ l ∈ lines, l.WF) ∧ c.WFx lines ∧
        body = encodeBlock lines c ++ rest ∧ text = blockText lines c := by
  constructor
  · exact readTextBlockBody_sound body text rest
  · rintro ⟨lines, c, h1, h2, rfl, rfl⟩
    exact readTextBlockBody_complete lines c rest h1 h2

/-- the block at the start of an input is unique (it ends at the first triple quote that is not
    escaped): lines, closing delimiter and rest are determined by the bytes -/
theorem block_is_unique (lines lines' : List SrcLine) (c c' : Closer) (rest rest' : Bytes)
    (hl : ∀ l ∈ lines, l.WF) (hc : c.WFx lines) (hl' : ∀ l ∈ lines', l.WF) (hc' : c'.WFx lines')
    (h : encodeBlock lines c ++ rest = encodeBlock lines' c' ++ rest') :
    lines = lines' ∧ c = c' ∧ rest = rest' :=
  block_decomposition_unique lines lines' c c' rest rest' hl hc hl' hc' h

/-- if no prefix of `body` is a well-formed block, the reader rejects `"""⏎ body` with
    `invalidString`, and never reads it as something else.  Either `body` consists of complete
    well-formed lines only (the closing delimiter is missing): the error range is the literal from
    its opening quote to the end of the input, and the reader stands at the end of the input.  Or
    `body` ends inside a line `ls` (no line feed, no unescaped triple quote after the last line
    feed): the error carries no range of its own and the reader stands at the start of that line. -/
theorem ill_formed_block_is_rejected (ctx : Ctx) (hexp : ctx.cfg.exp = true) (body : Bytes) (cl : List Call)
    (h : ¬ ∃ (lines : List SrcLine) (c : Closer) (rest : Bytes), (∀ l ∈ lines, l.WF) ∧ c.WFx lines ∧
      body = encodeBlock lines c ++ rest) :
    (∃ e, readTextBlockBody body = .error e) ∧
    ((Unclosed body ∧
      readString ctx { rest := 0x22 :: 0x22 :: 0x22 :: 0x0A :: body, calls := cl } =
        .err (mkErr .invalidString (some (body.length + 4)) (some 0)) { rest := [], calls := cl }) ∨
     (∃ ls, CutLine body ls ∧
      readString ctx { rest := 0x22 :: 0x22 :: 0x22 :: 0x0A :: body, calls := cl } =
        .err (mkErr .invalidString) { rest := ls, calls := cl })) :=
  textBlock_rejected ctx hexp body cl h

/-- which error says what: "missing closing delimiter" exactly for complete lines only ... -/
theorem missing_closer_iff (body : Bytes) :
    readTextBlockBody body = .error .missingCloser ↔ Unclosed body := by
  constructor
  · intro h
    have ho := readTextBlockBody_outcome body
    rw [h] at ho
    exact ho
  · rintro ⟨lines, h1, h2⟩
    unfold readTextBlockBody
    rw [tbLines_unclosed lines h1 body h2]

/-- ... and "end of input inside a line" exactly for complete lines followed by a cut line -/
theorem eof_in_line_iff (body ls : Bytes) :
    readTextBlockBody body = .error (.eofInLine ls) ↔ CutLine body ls := by
  constructor
  · intro h
    have ho := readTextBlockBody_outcome body
    rw [h] at ho
    exact ho
  · rintro ⟨lines, h1, h2, h3, h4⟩
    unfold readTextBlockBody
    rw [tbLines_cut lines h1 ls h3 h4 body h2]

/-- the specification's `Closer.WF` is narrower than the reader: `\""""""` is read (as `"""`) but
    is not the encoding of a block well-formed in that sense -/
theorem spec_closer_wf_is_narrower :
    readTextBlockBody [0x5C, 0x22, 0x22, 0x22, 0x22, 0x22, 0x22] = .ok ([0x22, 0x22, 0x22], []) ∧
    ¬ ∃ (lines : List SrcLine) (c : Closer) (rest : Bytes), (∀ l ∈ lines, l.WF) ∧ c.WF lines ∧
      [0x5C, 0x22, 0x22, 0x22, 0x22, 0x22, 0x22] = encodeBlock lines c ++ rest :=
  closer_WF_too_narrow

/-- `"""⏎abc` at the end of the input is rejected (this was a defect once): end of input inside a
    line, the reader stands at the `a` -/
example (ctx : Ctx) (hexp : ctx.cfg.exp = true) (cl : List Call) :
    readString ctx { rest := [0x22, 0x22, 0x22, 0x0A, 0x61, 0x62, 0x63], calls := cl } =
      .err (mkErr .invalidString) { rest := [0x61, 0x62, 0x63], calls := cl } := by
  rw [readString_textblock_eq ctx hexp, show readTextBlockBody [0x61, 0x62, 0x63] = .error (.eofInLine [0x61, 0x62, 0x63]) by rfl]

/-- the hypothesis of `ill_formed_block_is_rejected` holds for `abc` (non-vacuity) ... -/
example : ¬ ∃ (lines : List SrcLine) (c : Closer) (rest : Bytes), (∀ l ∈ lines, l.WF) ∧ c.WFx lines ∧
    [0x61, 0x62, 0x63] = encodeBlock lines c ++ rest :=
  not_block_of_error _ (.eofInLine [0x61, 0x62, 0x63]) rfl

/-- ... and `abc` is a cut line in the sense of the grammar -/
example : CutLine [0x61, 0x62, 0x63] [0x61, 0x62, 0x63] :=
  ⟨[], by simp, rfl, by simp, by decide +kernel⟩

/-- `"""⏎abc⏎` at the end of the input: the delimiter is missing, range = the whole input -/
example (ctx : Ctx) (hexp : ctx.cfg.exp = true) (cl : List Call) :
    readString ctx { rest := [0x22, 0x22, 0x22, 0x0A, 0x61, 0x62, 0x63, 0x0A], calls := cl } =
      .err (mkErr .invalidString (some 8) (some 0)) { rest := [], calls := cl } := by
  rw [readString_textblock_eq ctx hexp, show readTextBlockBody [0x61, 0x62, 0x63, 0x0A] = .error .missingCloser by rfl]
  rfl

example : Unclosed [0x61, 0x62, 0x63, 0x0A] :=
  ⟨[⟨[], [0x61, 0x62, 0x63]⟩], by simp; decide +kernel, rfl⟩

/-- a closing delimiter preceded by `\` is an escaped triple quote, not a delimiter:
    `"""⏎ab\"""` at the end of the input is rejected ... -/
example (ctx : Ctx) (hexp : ctx.cfg.exp = true) (cl : List Call) :
    readString ctx { rest := [0x22, 0x22, 0x22, 0x0A, 0x61, 0x62, 0x5C, 0x22, 0x22, 0x22], calls := cl } =
      .err (mkErr .invalidString) { rest := [0x61, 0x62, 0x5C, 0x22, 0x22, 0x22], calls := cl } := by
  rw [readString_textblock_eq ctx hexp,
    show readTextBlockBody [0x61, 0x62, 0x5C, 0x22, 0x22, 0x22] = .error (.eofInLine [0x61, 0x62, 0x5C, 0x22, 0x22, 0x22]) by rfl]

/-- ... while `"""⏎ab\"""⏎  """ x` is the block with the line `ab\"""` and the delimiter on its own
    line: the text is `ab"""⏎` and ` x` is left -/
example (ctx : Ctx) (hexp : ctx.cfg.exp = true) (cl : List Call) :
    readString ctx { rest := 0x22 :: 0x22 :: 0x22 :: 0x0A ::
        ([0x61, 0x62, 0x5C, 0x22, 0x22, 0x22, 0x0A, 0x20, 0x20, 0x22, 0x22, 0x22] ++ [0x20, 0x78]), calls := cl } =
      .ok (.str (mkHdr (4 + 12 + 2) 2) [0x61, 0x62, 0x22, 0x22, 0x22, 0x0A] false) { rest := [0x20, 0x78], calls := cl } :=
  (block_reader_is_the_grammar ctx hexp _ _ _ cl).mpr
    ⟨[⟨[], [0x61, 0x62, 0x5C, 0x22, 0x22, 0x22]⟩], .ownLine [0x20, 0x20],
      by simp; decide +kernel, (by show ∀ c ∈ ([0x20, 0x20] : Bytes), isBlank c = true; decide), rfl,
      by decide +kernel⟩

/-- the case only `Closer.WFx` covers: `"""⏎ab\""""""` (escaped triple quote, then the delimiter) is the
    text `ab"""` -/
example (ctx : Ctx) (hexp : ctx.cfg.exp = true) (cl : List Call) :
    readString ctx { rest := 0x22 :: 0x22 :: 0x22 :: 0x0A ::
        ([0x61, 0x62, 0x5C, 0x22, 0x22, 0x22, 0x22, 0x22, 0x22] ++ []), calls := cl } =
      .ok (.str (mkHdr (4 + 9 + 0) 0) [0x61, 0x62, 0x22, 0x22, 0x22] false) { rest := [], calls := cl } :=
  (block_reader_is_the_grammar ctx hexp _ _ _ cl).mpr
    ⟨[⟨[], [0x61, 0x62, 0x5C, 0x22, 0x22, 0x22]⟩], .inline,
      by simp; decide +kernel, ⟨_, rfl, by simp, by decide⟩, rfl, by decide +kernel⟩

end Edn.Properties.C20
