/-
  Property C18 — feature flags only add syntax: core EDN reads identically in every configuration.

  "Uses only core syntax" is made precise as: the core configuration accepts the document, the
  document contains none of the byte patterns to which an extension gives a *different* meaning
  (`NoTriggers`: `^`, the text-block opener, backslash + form feed / backspace, and an extension
  string escape inside a discarded form), and every string of the result decodes with the core
  escape set.  All other extension spellings (`#:`, `0x`, leading zeros, `NrD`, `/` and `_` in
  numbers, `\formfeed`, `\oNNN`, long `\u`) are rejected by the core configuration, so they are
  excluded by "the core configuration accepts".
-/
import Edn.Proofs.FlagIndep

namespace Edn.Properties.C18
open Edn.Model Edn.Proofs

/-- every flag combination reads a core document to the same tree as the core configuration:
    same kinds, payloads, children and ranges (cache cells aside, whose contents depend on the
    numbering of the type enumeration) -/
theorem core_documents_read_identically (cfg : Cfg) (opts : Opts) (hreg : opts.registry = none) (input : Bytes) (v : Val)
    (hn : NoTriggers input) (h : (read Cfg.core opts input).out = .value v)
    (hs : Edn.Spec.coreStrings v = true) :
    ∃ v', (read cfg opts input).out = .value v' ∧ Edn.Spec.eraseCache v' = Edn.Spec.eraseCache v := by
  obtain ⟨st, hr⟩ := read_out_value h
  obtain ⟨v', hv', he⟩ := readValue_flag_independent cfg opts hreg (readFuel input) 0 false
    { rest := input } st v (Nat.zero_le _) hn hr hs
  exact ⟨v', read_out_of_ok hv', he⟩

/-- the same for every form at every depth, including the remaining input -/
theorem core_forms_read_identically (cfg : Cfg) (opts : Opts) (hreg : opts.registry = none)
    (f d : Nat) (dm : Bool) (st st' : St) (v : Val)
    (hd : d ≤ Edn.Generated.Tables.maxNestingDepth) (hn : NoTriggers st.rest)
    (h : readValue { cfg := Cfg.core, opts := opts } f d dm st = .ok v st')
    (hs : Edn.Spec.coreStrings v = true) :
    ∃ v', readValue { cfg := cfg, opts := opts } f d dm st = .ok v' st' ∧
      Edn.Spec.eraseCache v' = Edn.Spec.eraseCache v :=
  readValue_flag_independent cfg opts hreg f d dm st st' v hd hn h hs

/-- numbers: whatever spelling the core configuration accepts is read identically everywhere
    (the extensions only give meaning to spellings the core rejects) -/
theorem core_numbers (cfg : Cfg) (s : Bytes) (v : NumVal) (rest : Bytes)
    (h : readNumber Cfg.core s = .ok v rest) : readNumber cfg s = .ok v rest := by
  obtain ⟨sg, X, neg, e, hsg, hb, hst⟩ := sign_split s
  by_cases h9 : is09 (peek X) = true
  · exact (readNumber_core_ok_start cfg s (hst h9) v rest h).1
  · rw [hb] at h ⊢
    subst e
    exact numBody_core_nodigit cfg sg neg X v rest hsg (Bool.not_eq_true _ ▸ h9) h

/-- strings: content that decodes with the core escape set decodes to the same bytes everywhere -/
theorem core_strings (cfg : Cfg) (data : Bytes) (esc : Bool) (out : Bytes)
    (h : stringGet Cfg.core data esc = some out) : stringGet cfg data esc = some out :=
  stringGet_core_some cfg data esc out h

/-- the hypothesis cannot be dropped: a discarded set of two spellings of a form feed is
    accepted by the core configuration and rejected with the Clojure flag (the spellings are
    extension escapes, so the property's own exemption applies) -/
example : (match (read Cfg.core {} "#_ #{\"\\f\" \"\\u000c\"} 1".toUTF8.toList).out with | .value _ => true | _ => false) = true ∧
          (match (read ⟨true, false⟩ {} "#_ #{\"\\f\" \"\\u000c\"} 1".toUTF8.toList).out with | .error c _ _ => c == .duplicateElement | _ => false) = true := by
  constructor <;> decide +kernel

/-- non-vacuity: `[1 :a "b\n"]` -/
example : NoTriggers [0x5B, 0x31, 0x20, 0x3A, 0x61, 0x20, 0x22, 0x62, 0x5C, 0x6E, 0x22, 0x5D] :=
  ⟨by decide +kernel, by decide +kernel, by decide +kernel, by decide +kernel, .inl (by decide +kernel)⟩

end Edn.Properties.C18
