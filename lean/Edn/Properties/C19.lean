/-
  Property C19 — namespaced maps and metadata desugar exactly (Clojure extensions).
  Theorem part: the metadata merge (unique keys, outer annotation wins), transparency of
  metadata for the target's value, equality and hash, a marker lacking its annotation or its
  target is an error, the target and annotation gates, the key rewriting of namespaced maps, and
  the desugaring of a namespaced map: the same reading as the plain map over the same body with
  every key passed through the qualification before the duplicate check.
  Document level (`*_document`; Proofs/RejectDocClj.lean, RejectDocCtx.lean, RejectFrames.lean):
  which error `edn_read` reports for each of these defects inside any well-formed open context, a
  discarded form included.
-/
import Edn.Proofs.MetaMerge
import Edn.Proofs.NsMap
import Edn.Proofs.RejectDocClj

namespace Edn.Properties.C19
open Edn.Model Edn.Spec Edn.Proofs

/-- attaching metadata leaves the target's hash, depth and equality with any other value unchanged
    (the reader also moves the start of the source range to the `^`: `sees_setHdr` says the same of that) -/
theorem metadata_is_transparent (cfg : Cfg) (v : Val) (m : Option Val) :
    hashV cfg (v.setMd m) = hashV cfg v ∧ depth (v.setMd m) = depth v ∧
    (∀ f b, eqvF cfg f (v.setMd m) b = eqvF cfg f v b) ∧ (∀ f b, eqvF cfg f b (v.setMd m) = eqvF cfg f b v) :=
  Sees.transparent cfg (sees_setMd v m)

/-- merging a further (outer) annotation into existing metadata keeps the keys unique … -/
theorem merged_keys_unique (cfg : Cfg) (newKs newVs ks vs : List Val) (hl : ks.length = vs.length)
    (hn : KeysOK cfg newKs) (ho : KeysOK cfg ks) :
    pairwiseDistinct cfg (newKs ++ (keepOld cfg newKs ks vs).1) := by
  unfold pairwiseDistinct
  rw [(keepOld_spec cfg newKs ks vs hl).2, List.pairwise_append]
  refine ⟨hn.2, List.Pairwise.sublist List.filter_sublist ho.2, ?_⟩
  intro a ha b hb
  obtain ⟨hbk, hbn⟩ := List.mem_filter.mp hb
  rw [Bool.not_eq_true', List.any_eq_false] at hbn
  have hnab : ¬ Eqv cfg b a := fun he => hbn a ha ((ho.1.equal_iff hn.1 hbk ha).mpr he)
  exact ⟨fun he => hnab (Eqv_symm cfg a b (hn.1 a ha).2.1 (ho.1 b hbk).2.1 he), hnab⟩

/-- … and a lookup in the merged map yields the outer annotation's value when it has the key,
    otherwise the inner one's: the merge of the expanded annotations with outer ones winning -/
theorem outer_annotation_wins (cfg : Cfg) (newKs newVs ks vs : List Val) (probe : Val)
    (hln : newKs.length = newVs.length) (hl : ks.length = vs.length)
    (hn : KeysOK cfg newKs) (ho : KeysOK cfg ks)
    (hp : WF cfg probe) (hpd : depth probe < maxDepthFuel) (hpc : cacheOK cfg probe = true) :
    findKey (fun k' k => equal cfg k' k) probe (newKs ++ (keepOld cfg newKs ks vs).1) (newVs ++ (keepOld cfg newKs ks vs).2)
      = match findKey (fun k' k => equal cfg k' k) probe newKs newVs with
        | some v => some v
        | none => findKey (fun k' k => equal cfg k' k) probe ks vs := by
  have hlk := (keepOld_spec cfg newKs ks vs hl).1
  rw [findKey_append _ _ _ _ newKs newVs hln]
  cases hf : findKey (fun k' k => equal cfg k' k) probe newKs newVs with
  | some v => rfl
  | none =>
    show findKey _ probe (keepOld cfg newKs ks vs).1 (keepOld cfg newKs ks vs).2 = findKey _ probe ks vs
    have hnone := (findKey_eq_none_iff _ probe newKs newVs hln).mp hf
    exact keepOld_findKey cfg newKs probe hn.1 (Elems.single hpd hp hpc) hnone ks vs ho.1

/-- the expansion of the five annotation forms -/
theorem annotation_expansion (m : Val) :
    metaEntries m = match m with
      | .map _ _ ks vs => some (ks, vs)
      | .kw .. => some ([m], [.bool synthHdr true])
      | .vec .. => some ([.kw synthHdr none "param-tags".toUTF8.toList], [m])
      | .str .. | .sym .. => some ([.kw synthHdr none "tag".toUTF8.toList], [m])
      | _ => none := by
  cases m <;> rfl

/-- a marker whose annotation or target is missing (a closing delimiter follows) is an error,
    and so is an annotation or target of the wrong kind -/
theorem marker_without_operand_is_error (ctx : Ctx) (f d : Nat) (dm : Bool) (start : Nat) (st st' : St)
    (h : readValue ctx f (d + 1) dm st = .closer st') :
    readMeta ctx (f + 1) d dm start st = .err (mkErr .invalidSyntax (some start) (some st'.rest.length)) st' :=
  run_of_rule (.meCloser h)

theorem marker_without_target_is_error (ctx : Ctx) (f d : Nat) (dm : Bool) (start : Nat) (st st' st'' : St) (m : Val)
    (nks nvs : List Val) (h : readValue ctx f (d + 1) dm st = .ok m st') (hm : metaEntries m = some (nks, nvs))
    (h2 : readValue ctx f (d + 1) dm st' = .closer st'') :
    readMeta ctx (f + 1) d dm start st = .err (mkErr .invalidSyntax (some start) (some st''.rest.length)) st'' :=
  run_of_rule (.meCloser₂ h hm h2)

/-- namespaced maps: an unqualified keyword or symbol key is qualified with the prefix, a key
    qualified with `_` is unqualified, every other key is kept -/
theorem key_qualification (p : Bytes) (h : Hdr) (md : Option Val) (name : Bytes) (other : Bytes) (ho : (other == [0x5F]) = false) :
    qualifyKey p (.kw h none name) = .kw synthHdr (some p) name ∧
    qualifyKey p (.kw h (some [0x5F]) name) = .kw synthHdr none name ∧
    qualifyKey p (.kw h (some other) name) = .kw h (some other) name ∧
    qualifyKey p (.sym h md none name) = .sym synthHdr none (some p) name ∧
    qualifyKey p (.sym h md (some [0x5F]) name) = .sym synthHdr none none name ∧
    qualifyKey p (.sym h md (some other) name) = .sym h md (some other) name ∧
    qualifyKey p (.int h 5) = .int h 5 := by
  simp [qualifyKey, ho]

/-- `#:p{ body }` against `{ body }`: both fail with the same error before the closing brace;
    otherwise both hold the same values, the namespaced one holds the plain one's keys passed
    through `qualifyKey p`, and the duplicate-key verdict is taken after qualification (so
    keys that collide only after qualification are rejected) -/
theorem namespaced_map_desugars (ctx : Ctx) (f d : Nat) (dm : Bool) (start : Nat) (p : Bytes) (st : St) :
    (∀ r, mapLoop ctx f d dm start st = .error r →
        readMap ctx f d dm start (some p) st [] [] = r ∧ readMap ctx f d dm start none st [] [] = r) ∧
    (∀ nk nv stf, mapLoop ctx f d dm start st = .ok (nk, nv, stf) →
        readMap ctx f d dm start (some p) st [] [] = closeMap ctx start (nk.map (qualifyKey p)) nv stf ∧
        readMap ctx f d dm start none st [] [] = closeMap ctx start nk nv stf) := by
  have hid : ∀ l : List Val, l.map (qualifyNs none) = l := List.map_id'
  have hq : ∀ l : List Val, l.map (qualifyNs (some p)) = l.map (qualifyKey p) := fun _ => rfl
  refine ⟨?_, ?_⟩
  · intro r h
    rw [readMap_eq_loop, readMap_eq_loop, h]
    exact ⟨rfl, rfl⟩
  · intro nk nv stf h
    rw [readMap_eq_loop, readMap_eq_loop, h]
    simp only [List.reverse_nil, List.nil_append, hid, hq]
    exact ⟨trivial, trivial⟩

/-- after `#` the reader expects an unqualified keyword, optional blanks and `{`, and then runs
    the map reader with that keyword's name as the prefix -/
theorem namespaced_map_prefix (ctx : Ctx) (f d : Nat) (dm : Bool) (start : Nat) (st st' : St) (h : Hdr) (name r : Bytes)
    (hk : readValue ctx f d dm st = .ok (.kw h none name) st') (hb : skipWs st'.rest = 0x7B :: r) :
    readNsMap ctx (f + 1) d dm start st = readMap ctx f d dm start (some name) { st' with rest := r } [] [] :=
  run_of_rule (.nNext hk hb rfl)

/-- any other prefix form is a syntax error -/
theorem namespaced_map_bad_prefix (ctx : Ctx) (f d : Nat) (dm : Bool) (start : Nat) (st st' : St) (v : Val)
    (hk : readValue ctx f d dm st = .ok v st') (hv : ∀ h name, v ≠ .kw h none name) :
    readNsMap ctx (f + 1) d dm start st = .err (mkErr .invalidSyntax (some start) (some st'.rest.length)) st' :=
  readNsMap_bad_prefix ctx f d dm start st st' v hk hv

/-- metadata is accepted only on collections, symbols and tagged values; on those the result is
    the target with the merged map attached and its range extended to the marker -/
theorem metadata_target_gate (ctx : Ctx) (f d : Nat) (dm : Bool) (start : Nat) (st st' st'' : St) (m form : Val) (nks nvs : List Val)
    (h : readValue ctx f (d + 1) dm st = .ok m st') (hm : metaEntries m = some (nks, nvs))
    (h2 : readValue ctx f (d + 1) dm st' = .ok form st'') :
    readMeta ctx (f + 1) d dm start st =
      if form.metaTarget then
        .ok ((attachMeta ctx.cfg m form nks nvs).setHdr { (attachMeta ctx.cfg m form nks nvs).hdr with s := start }) st''
      else .err (mkErr .invalidSyntax (some start) (some st''.rest.length)) st'' := by
  cases ht : form.metaTarget
  · exact run_of_rule (.meNoTarget h hm h2 ht)
  · exact run_of_rule (.meOk h hm h2 ht)

/-- an annotation that is not a map, keyword, string, symbol or vector is an error -/
theorem metadata_annotation_gate (ctx : Ctx) (f d : Nat) (dm : Bool) (start : Nat) (st st' : St) (m : Val)
    (h : readValue ctx f (d + 1) dm st = .ok m st') (hm : metaEntries m = none) :
    readMeta ctx (f + 1) d dm start st = .err (mkErr .invalidSyntax (some start) (some st'.rest.length)) st' :=
  run_of_rule (.meNoEntries h hm)

/-! ## document level: the class of each Clojure-extension defect, in any open context

  For every configuration with the Clojure flag and no reader registry.  `pre` is a well-formed
  *open context* (`DescClj cfg s c 0 false pre d dm`: blanks, comments, complete discarded forms,
  open discard markers, tags, `^` / `^annotation` markers, and - when `c = true` - opened
  collections and namespaced maps holding complete forms of the configuration's grammar), the
  defect `s` follows at offset `pre.length`, and the theorems give the code and the range of the
  error `edn_read` reports for `pre ++ s`.  Metadata markers and namespaced maps count as
  nesting levels. -/

section
open Edn.Proofs.RejectDoc Edn.Proofs.RejectDocX Edn.Proofs.RejectDocClj Edn.Proofs.Cmpl

/-- **the first defect decides the class** (Clojure flag): an error raised right after a
    well-formed open context is the error of the document - any error through a flat context, any
    error but UNEXPECTED_EOF when collections are open -/
theorem first_defect_decides_document (cfg : Cfg) (hclj : cfg.clj = true) (opts : Opts) (hreg : opts.registry = none)
    {s : Bytes} {c : Bool} {pre : Bytes} {d : Nat} {dm : Bool}
    (h : DescClj cfg s c 0 false pre d dm) (e : ErrInfo) (r : Bytes)
    (hs : SiteErrX cfg opts d dm s e r) (hc : c = false ∨ e.code ≠ .unexpectedEof) (hf : e.fuelOut = false)
    (hn : (e.code == .unexpectedEof && e.eofTop && opts.eofValue) = false) :
    (read cfg opts (pre ++ s)).out =
      .error e.code (posOf (pre ++ s) ((pre ++ s).length - e.es.getD r.length))
        (posOf (pre ++ s) ((pre ++ s).length - e.ee.getD r.length)) :=
  docClj_err cfg hclj opts hreg h e r hs hc hn

/-- (a) `^` followed (after blanks, comments and discarded forms) by a closing delimiter:
    INVALID_SYNTAX from the `^` to that delimiter -/
theorem marker_without_annotation_is_error_document (cfg : Cfg) (hclj : cfg.clj = true) (opts : Opts) (hreg : opts.registry = none)
    {cc : Bool} {pre : Bytes} {d : Nat} {dm : Bool} (k : Nat) (tr : Bytes) (c : UInt8) (rest : Bytes)
    (hctx : DescClj cfg (0x5E :: (tr ++ c :: rest)) cc 0 false pre d dm) (hd : d + 1 + k ≤ Edn.Generated.Tables.maxNestingDepth)
    (ht : TrailX cfg (numJOf cfg) (strJOf cfg) k tr (c :: rest)) (hc : IsCloser c) :
    (read cfg opts (pre ++ 0x5E :: (tr ++ c :: rest))).out =
      .error .invalidSyntax (posOf (pre ++ 0x5E :: (tr ++ c :: rest)) pre.length)
        (posOf (pre ++ 0x5E :: (tr ++ c :: rest)) (pre.length + 1 + tr.length)) := by
  refine docClj_range cfg hclj opts hreg hctx .invalidSyntax _ _ _ _ _
    (site_meta_closer hclj (by omega) (trailRX_of_trailX cfg opts hreg ht hc d hd))
    (by decide) ?_ ?_ <;>
    simp only [List.length_append, List.length_cons] <;> omega

/-- (a) `^` followed by the end of the input (blanks, comments), no collection open:
    UNEXPECTED_EOF at the end of the input - and never the caller's end-of-input value -/
theorem marker_without_annotation_at_end_document (cfg : Cfg) (hclj : cfg.clj = true) (opts : Opts) (hreg : opts.registry = none)
    {pre : Bytes} {d : Nat} {dm : Bool} (s : Bytes)
    (hctx : DescClj cfg (0x5E :: s) false 0 false pre d dm) (hd : d < Edn.Generated.Tables.maxNestingDepth)
    (hs : skipWsScalar s = []) :
    (read cfg opts (pre ++ 0x5E :: s)).out =
      .error .unexpectedEof (posOf (pre ++ 0x5E :: s) (pre ++ 0x5E :: s).length) (posOf (pre ++ 0x5E :: s) (pre ++ 0x5E :: s).length) := by
  rw [docClj_err cfg hclj opts hreg hctx _ _
    (site_metaAnn hclj hd (site_eofX hs)) (Or.inl rfl) (by simp [eofE])]
  rfl

/-- (b) `^annotation` (a complete form of an annotation kind) followed by a closing delimiter:
    INVALID_SYNTAX from the `^` to that delimiter -/
theorem marker_without_target_is_error_document (cfg : Cfg) (hclj : cfg.clj = true) (opts : Opts) (hreg : opts.registry = none)
    {cc : Bool} {pre : Bytes} {d : Nat} {dm : Bool} (k : Nat) (am : Val) (nks nvs : List Val) (tokm tr : Bytes) (c : UInt8) (rest : Bytes)
    (hctx : DescClj cfg (0x5E :: (tokm ++ (tr ++ c :: rest))) cc 0 false pre d dm)
    (hd : d + 1 + k ≤ Edn.Generated.Tables.maxNestingDepth)
    (hm : FX cfg k am tokm (tr ++ c :: rest)) (he : metaEntriesC am = some (nks, nvs))
    (ht : TrailX cfg (numJOf cfg) (strJOf cfg) k tr (c :: rest)) (hc : IsCloser c) :
    (read cfg opts (pre ++ 0x5E :: (tokm ++ (tr ++ c :: rest)))).out =
      .error .invalidSyntax (posOf (pre ++ 0x5E :: (tokm ++ (tr ++ c :: rest))) pre.length)
        (posOf (pre ++ 0x5E :: (tokm ++ (tr ++ c :: rest))) (pre.length + 1 + tokm.length + tr.length)) := by
  refine docClj_range cfg hclj opts hreg hctx .invalidSyntax _ _ _ _ _
    (site_metaTgt_closer hclj hreg hd hm he (trailRX_of_trailX cfg opts hreg ht hc d hd))
    (by decide) ?_ ?_ <;>
    simp only [List.length_append, List.length_cons] <;> omega

theorem vector_marker_without_target : (read ⟨true, false⟩ {} [0x5B, 0x5E, 0x3A, 0x61, 0x5D]).out =
    .error .invalidSyntax (posOf [0x5B, 0x5E, 0x3A, 0x61, 0x5D] 1) (posOf [0x5B, 0x5E, 0x3A, 0x61, 0x5D] 4) := by
  obtain ⟨k, am, hk, hm, hp⟩ := fx_of_read ⟨true, false⟩ 20 2 false [0x3A, 0x61] [0x5D] (by decide)
    (fun a => (metaEntriesC a).isSome) (by decide +kernel)
  obtain ⟨⟨nks, nvs⟩, he⟩ := Option.isSome_iff_exists.mp hp
  have hctx : DescClj ⟨true, false⟩ (0x5E :: ([0x3A, 0x61] ++ ([] ++ 0x5D :: []))) true 0 false (opener 1 ++ ([] ++ [])) 1 false :=
    .coll 0 false 1 0 0 [] [] 1 false (by decide) (.nil 0 _) (.here true 1 false)
  exact marker_without_target_is_error_document ⟨true, false⟩ rfl {} rfl k am nks nvs [0x3A, 0x61] [] 0x5D [] hctx (by omega) hm he
    (.blank k [] _ .nil) (.inr (.inl rfl))

/-- `[^:a]` - the context is the open vector, the annotation `:a` is a form of the grammar of an
    annotation kind, `]` follows at once -/
example : (read ⟨true, false⟩ {} [0x5B, 0x5E, 0x3A, 0x61, 0x5D]).out =
    .error .invalidSyntax (posOf [0x5B, 0x5E, 0x3A, 0x61, 0x5D] 1) (posOf [0x5B, 0x5E, 0x3A, 0x61, 0x5D] 4) :=
  vector_marker_without_target

/-- (b) `^annotation` followed by the end of the input, no collection open: UNEXPECTED_EOF at the
    end of the input -/
theorem marker_without_target_at_end_document (cfg : Cfg) (hclj : cfg.clj = true) (opts : Opts) (hreg : opts.registry = none)
    {pre : Bytes} {d : Nat} {dm : Bool} (k : Nat) (am : Val) (nks nvs : List Val) (tokm s : Bytes)
    (hctx : DescClj cfg (0x5E :: (tokm ++ s)) false 0 false pre d dm) (hd : d + 1 + k ≤ Edn.Generated.Tables.maxNestingDepth)
    (hm : FX cfg k am tokm s) (he : metaEntriesC am = some (nks, nvs)) (hs : skipWsScalar s = []) :
    (read cfg opts (pre ++ 0x5E :: (tokm ++ s))).out =
      .error .unexpectedEof (posOf (pre ++ 0x5E :: (tokm ++ s)) (pre ++ 0x5E :: (tokm ++ s)).length)
        (posOf (pre ++ 0x5E :: (tokm ++ s)) (pre ++ 0x5E :: (tokm ++ s)).length) := by
  rw [docClj_err cfg hclj opts hreg hctx _ _
    (site_metaTgt hclj hreg hd hm he (site_eofX hs)) (Or.inl rfl) (by simp [eofE])]
  rfl

/-- (c) `^annotation form` where the form cannot carry metadata (a number, string, keyword,
    character, nil, boolean): INVALID_SYNTAX from the `^` to the end of that form -/
theorem metadata_on_non_target_is_error_document (cfg : Cfg) (hclj : cfg.clj = true) (opts : Opts) (hreg : opts.registry = none)
    {cc : Bool} {pre : Bytes} {d : Nat} {dm : Bool} (k : Nat) (am af : Val) (nks nvs : List Val) (tokm tokf rest : Bytes)
    (hctx : DescClj cfg (0x5E :: (tokm ++ (tokf ++ rest))) cc 0 false pre d dm)
    (hd : d + 1 + k ≤ Edn.Generated.Tables.maxNestingDepth)
    (hm : FX cfg k am tokm (tokf ++ rest)) (he : metaEntriesC am = some (nks, nvs))
    (hf : FX cfg k af tokf rest) (ht : af.metaTarget = false) :
    (read cfg opts (pre ++ 0x5E :: (tokm ++ (tokf ++ rest)))).out =
      .error .invalidSyntax (posOf (pre ++ 0x5E :: (tokm ++ (tokf ++ rest))) pre.length)
        (posOf (pre ++ 0x5E :: (tokm ++ (tokf ++ rest))) (pre.length + 1 + tokm.length + tokf.length)) := by
  refine docClj_range cfg hclj opts hreg hctx .invalidSyntax _ _ _ _ _
    (site_meta_badTarget hclj hreg hd hm he hf ht)
    (by decide) ?_ ?_ <;>
    simp only [List.length_append, List.length_cons] <;> omega

/-- (d) `^x` where `x` is a complete form that is not a map, keyword, string, symbol or vector:
    INVALID_SYNTAX from the `^` to the end of `x` -/
theorem metadata_of_wrong_kind_is_error_document (cfg : Cfg) (hclj : cfg.clj = true) (opts : Opts) (hreg : opts.registry = none)
    {cc : Bool} {pre : Bytes} {d : Nat} {dm : Bool} (k : Nat) (ax : Val) (tokx rest : Bytes)
    (hctx : DescClj cfg (0x5E :: (tokx ++ rest)) cc 0 false pre d dm) (hd : d + 1 + k ≤ Edn.Generated.Tables.maxNestingDepth)
    (hx : FX cfg k ax tokx rest) (he : metaEntriesC ax = none) :
    (read cfg opts (pre ++ 0x5E :: (tokx ++ rest))).out =
      .error .invalidSyntax (posOf (pre ++ 0x5E :: (tokx ++ rest)) pre.length)
        (posOf (pre ++ 0x5E :: (tokx ++ rest)) (pre.length + 1 + tokx.length)) := by
  refine docClj_range cfg hclj opts hreg hctx .invalidSyntax _ _ _ _ _
    (site_meta_badAnn hclj hreg hd hx he)
    (by decide) ?_ ?_ <;>
    simp only [List.length_append, List.length_cons] <;> omega

/-- (e) `#:ns/name`: a qualified keyword as the prefix - INVALID_SYNTAX from the `#` to the end of
    the keyword -/
theorem namespaced_map_qualified_prefix_is_error_document (cfg : Cfg) (hclj : cfg.clj = true) (opts : Opts)
    (hreg : opts.registry = none) {cc : Bool} {pre : Bytes} {d : Nat} {dm : Bool} (q ns nm rest : Bytes)
    (hctx : DescClj cfg (0x23 :: 0x3A :: (q ++ rest)) cc 0 false pre d dm) (hd : d < Edn.Generated.Tables.maxNestingDepth)
    (hl : IdentLex (0x3A :: q)) (hden : IdentDenotes (0x3A :: q) (.kw hdr0 (some ns) nm)) (hsep : DelimStart rest) :
    (read cfg opts (pre ++ 0x23 :: 0x3A :: (q ++ rest))).out =
      .error .invalidSyntax (posOf (pre ++ 0x23 :: 0x3A :: (q ++ rest)) pre.length)
        (posOf (pre ++ 0x23 :: 0x3A :: (q ++ rest)) (pre.length + 2 + q.length)) := by
  refine docClj_range cfg hclj opts hreg hctx .invalidSyntax _ _ _ _ _
    (site_ns_qualified hclj hd hl hden hsep)
    (by decide) ?_ ?_ <;>
    simp only [List.length_append, List.length_cons] <;> omega

/-- (e) `#:name`, blanks, and a byte other than `{`: INVALID_SYNTAX from the `#` to that byte -/
theorem namespaced_map_without_brace_is_error_document (cfg : Cfg) (hclj : cfg.clj = true) (opts : Opts)
    (hreg : opts.registry = none) {cc : Bool} {pre : Bytes} {d : Nat} {dm : Bool} (name tr : Bytes) (c : UInt8) (rest : Bytes)
    (hctx : DescClj cfg (0x23 :: 0x3A :: (name ++ (tr ++ c :: rest))) cc 0 false pre d dm)
    (hd : d < Edn.Generated.Tables.maxNestingDepth)
    (hl : IdentLex (0x3A :: name)) (hden : IdentDenotes (0x3A :: name) (.kw hdr0 none name))
    (ht : Blank tr) (hsep : DelimStart (tr ++ c :: rest)) (hw : isPreWs c = false) (hc : c ≠ 0x7B) :
    (read cfg opts (pre ++ 0x23 :: 0x3A :: (name ++ (tr ++ c :: rest)))).out =
      .error .invalidSyntax (posOf (pre ++ 0x23 :: 0x3A :: (name ++ (tr ++ c :: rest))) pre.length)
        (posOf (pre ++ 0x23 :: 0x3A :: (name ++ (tr ++ c :: rest))) (pre.length + 2 + name.length + tr.length)) := by
  refine docClj_range cfg hclj opts hreg hctx .invalidSyntax _ _ _ _ _
    (site_ns_other hclj hd hl hden ht hsep hw hc)
    (by decide) ?_ ?_ <;>
    simp only [List.length_append, List.length_cons] <;> omega

/-- (e) `#:name` and blanks end the input: INVALID_SYNTAX from the `#` to the end of the input,
    whatever is open (neither UNEXPECTED_EOF nor UNTERMINATED_COLLECTION) -/
theorem namespaced_map_prefix_at_end_is_error_document (cfg : Cfg) (hclj : cfg.clj = true) (opts : Opts)
    (hreg : opts.registry = none) {cc : Bool} {pre : Bytes} {d : Nat} {dm : Bool} (name tr : Bytes)
    (hctx : DescClj cfg (0x23 :: 0x3A :: (name ++ tr)) cc 0 false pre d dm) (hd : d < Edn.Generated.Tables.maxNestingDepth)
    (hl : IdentLex (0x3A :: name)) (hden : IdentDenotes (0x3A :: name) (.kw hdr0 none name)) (ht : Blank tr) :
    (read cfg opts (pre ++ 0x23 :: 0x3A :: (name ++ tr))).out =
      .error .invalidSyntax (posOf (pre ++ 0x23 :: 0x3A :: (name ++ tr)) pre.length)
        (posOf (pre ++ 0x23 :: 0x3A :: (name ++ tr)) (pre.length + 2 + name.length + tr.length)) := by
  refine docClj_range cfg hclj opts hreg hctx .invalidSyntax _ _ _ _ _
    (site_ns_end hclj hd hl hden ht)
    (by decide) ?_ ?_ <;>
    simp only [List.length_append, List.length_cons] <;> omega

/-- (f) a discarded form must be well-formed: the error `e` that the form behind `#_` raises (one
    level deeper, in discard mode - any of the defect sites (a)-(e) of `Edn.Proofs.RejectDocClj`)
    is the error of the document -/
theorem defect_in_discarded_form_is_error_document (cfg : Cfg) (hclj : cfg.clj = true) (opts : Opts) (hreg : opts.registry = none)
    {cc : Bool} {pre : Bytes} {d : Nat} {dm : Bool} (s : Bytes)
    (hctx : DescClj cfg (0x23 :: 0x5F :: s) cc 0 false pre d dm) (hd : d < Edn.Generated.Tables.maxNestingDepth)
    (e : ErrInfo) (r : Bytes) (hs : SiteErrX cfg opts (d + 1) true s e r)
    (hc : cc = false ∨ e.code ≠ .unexpectedEof) (hf : e.fuelOut = false)
    (hn : (e.code == .unexpectedEof && e.eofTop && opts.eofValue) = false) :
    (read cfg opts (pre ++ 0x23 :: 0x5F :: s)).out =
      .error e.code (posOf (pre ++ 0x23 :: 0x5F :: s) ((pre ++ 0x23 :: 0x5F :: s).length - e.es.getD r.length))
        (posOf (pre ++ 0x23 :: 0x5F :: s) ((pre ++ 0x23 :: 0x5F :: s).length - e.ee.getD r.length)) :=
  docClj_err cfg hclj opts hreg hctx e r (site_discard hd hs) hc hn

/-- (f) spelled out for (c): `#_ ^annotation non-target` is INVALID_SYNTAX from the `^` to the end
    of the would-be target, although the whole form was to be discarded -/
theorem discarded_metadata_on_non_target_is_error_document (cfg : Cfg) (hclj : cfg.clj = true) (opts : Opts)
    (hreg : opts.registry = none) {cc : Bool} {pre : Bytes} {d : Nat} {dm : Bool}
    (k : Nat) (am af : Val) (nks nvs : List Val) (tokm tokf rest : Bytes)
    (hctx : DescClj cfg (0x23 :: 0x5F :: 0x5E :: (tokm ++ (tokf ++ rest))) cc 0 false pre d dm)
    (hd : d + 2 + k ≤ Edn.Generated.Tables.maxNestingDepth)
    (hm : FX cfg k am tokm (tokf ++ rest)) (he : metaEntriesC am = some (nks, nvs))
    (hf : FX cfg k af tokf rest) (ht : af.metaTarget = false) :
    (read cfg opts (pre ++ 0x23 :: 0x5F :: 0x5E :: (tokm ++ (tokf ++ rest)))).out =
      .error .invalidSyntax (posOf (pre ++ 0x23 :: 0x5F :: 0x5E :: (tokm ++ (tokf ++ rest))) (pre.length + 2))
        (posOf (pre ++ 0x23 :: 0x5F :: 0x5E :: (tokm ++ (tokf ++ rest))) (pre.length + 3 + tokm.length + tokf.length)) := by
  refine docClj_range cfg hclj opts hreg hctx .invalidSyntax _ _ _ _ _
    (site_discard (by omega)
        (site_meta_badTarget hclj hreg (d := d + 1) (by omega) hm he hf ht))
    (by decide) ?_ ?_ <;>
    simp only [List.length_append, List.length_cons] <;> omega

end

/-- concrete documents: code, start offset and end offset of the reported error -/
def cljErrIs (r : Result) (code : Err) (so eo : Nat) : Bool :=
  match r.out with
  | .error c es ee => c == code && es.offset == so && ee.offset == eo
  | _ => false

/-- (a) `[^]`, (b) `[^:a]`, (c) `^:a 5`, (d) `^5 [1]`, (e) `#:a [1]`, (f) `#_ ^:k 5 7`, with and
    without the experimental flag -/
example : cljErrIs (read ⟨true, false⟩ {} "[^]".toUTF8.toList) .invalidSyntax 1 2 = true := by decide +kernel
example : cljErrIs (read ⟨true, false⟩ {} "[^:a]".toUTF8.toList) .invalidSyntax 1 4 = true := by decide +kernel
example : cljErrIs (read ⟨true, false⟩ {} "^:a 5".toUTF8.toList) .invalidSyntax 0 5 = true := by decide +kernel
example : cljErrIs (read ⟨true, false⟩ {} "^5 [1]".toUTF8.toList) .invalidSyntax 0 2 = true := by decide +kernel
example : cljErrIs (read ⟨true, false⟩ {} "#:a [1]".toUTF8.toList) .invalidSyntax 0 4 = true := by decide +kernel
example : cljErrIs (read ⟨true, false⟩ {} "#_ ^:k 5 7".toUTF8.toList) .invalidSyntax 3 8 = true := by decide +kernel
example : cljErrIs (read ⟨true, true⟩ {} "[^]".toUTF8.toList) .invalidSyntax 1 2 = true := by decide +kernel
example : cljErrIs (read ⟨true, true⟩ {} "#_ ^:k 5 7".toUTF8.toList) .invalidSyntax 3 8 = true := by decide +kernel
example : cljErrIs (read ⟨true, false⟩ {} "^".toUTF8.toList) .unexpectedEof 1 1 = true := by decide +kernel
example : cljErrIs (read ⟨true, false⟩ { eofValue := true } "^:a ;c".toUTF8.toList) .unexpectedEof 6 6 = true := by decide +kernel
example : cljErrIs (read ⟨true, false⟩ {} "#:a/b{}".toUTF8.toList) .invalidSyntax 0 5 = true := by decide +kernel
example : cljErrIs (read ⟨true, false⟩ {} "[#:a ".toUTF8.toList) .invalidSyntax 1 5 = true := by decide +kernel
example : cljErrIs (read ⟨true, false⟩ {} "#:a{:b ^}".toUTF8.toList) .invalidSyntax 7 8 = true := by decide +kernel

/-- the hypotheses are satisfiable, and the theorem at work: `[^:a]` - the context is the open
    vector, the annotation `:a` is a form of the grammar of an annotation kind, `]` follows -/
example : (read ⟨true, false⟩ {} [0x5B, 0x5E, 0x3A, 0x61, 0x5D]).out =
    .error .invalidSyntax (Edn.Proofs.RejectDoc.posOf [0x5B, 0x5E, 0x3A, 0x61, 0x5D] 1)
      (Edn.Proofs.RejectDoc.posOf [0x5B, 0x5E, 0x3A, 0x61, 0x5D] 4) :=
  vector_marker_without_target

end Edn.Properties.C19
