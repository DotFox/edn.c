/-
  Property C13 — whitespace, commas, comments and discarded forms never change the value read.
-/
import Edn.Proofs.Run
import Edn.Proofs.RejectDocTrivX

namespace Edn.Properties.C13
open Edn.Model Edn.Proofs

/-- any run of the 11 whitespace bytes, commas and line comments closed by a line feed in
    front of a form leaves what `edn_read_value` returns unchanged — value, ranges (which
    are kept relative to the end of the input), remaining input and handler calls -/
theorem trivia_prefix (ctx : Ctx) (f d : Nat) (dm : Bool) (tr s : Bytes) (cl : List Call) (h : PlainTrivia tr) :
    readValue ctx (f + 1) d dm { rest := tr ++ s, calls := cl } = readValue ctx (f + 1) d dm { rest := s, calls := cl } :=
  readValue_trivia_prefix ctx f d dm tr s cl h

/-- tag handlers are never invoked for anything inside a discarded form: in discard mode the
    call log is unchanged by every reader function, whatever is read -/
theorem no_handler_calls_in_discard (ctx : Ctx) (f d : Nat) (st : St) :
    (readValue ctx f d true st).st.calls = st.calls := run_calls ctx f (c := .v d true st) rfl

/-- a discarded form in front of a form is trivia: `#_ form` is skipped, reading continues
    after it with the same call log (`form` may itself contain tags and discards) -/
theorem discarded_form_is_trivia (ctx : Ctx) (f d : Nat) (dm : Bool) (form s : Bytes) (cl cl' : List Call) (v : Val)
    (hd : d < Edn.Generated.Tables.maxNestingDepth)
    (hform : readValue ctx f (d + 1) true { rest := form ++ s, calls := cl } = .ok v { rest := s, calls := cl' }) :
    cl' = cl ∧
    readValue ctx (f + 1) d dm { rest := 0x23 :: 0x5F :: (form ++ s), calls := cl }
      = readValue ctx f d dm { rest := s, calls := cl } :=
  discard_is_trivia ctx f d dm form s cl cl' v hd hform

/-- input consisting only of trivia reads as end of input: the end-of-input error (at the end
    of the input), or exactly the caller's end-of-input value with no error -/
theorem trivia_only_is_eof (cfg : Cfg) (opts : Opts) (s : Bytes) (h : skipWsScalar s = []) :
    (read cfg opts s).calls = [] ∧
    match (read cfg opts s).out with
    | .eofValue => opts.eofValue = true
    | .error code es ee => opts.eofValue = false ∧ code = .unexpectedEof ∧ es.offset = s.length ∧ ee.offset = s.length
    | _ => False := by
  rw [read_of_err (readValue_trivia_only { cfg := cfg, opts := opts } (4 * s.length + 7) 0 false s [] h)]
  cases opts.eofValue
  · exact ⟨rfl, rfl, rfl, Nat.sub_zero _, Nat.sub_zero _⟩
  · exact ⟨rfl, rfl⟩

/-- non-vacuity -/
example : PlainTrivia [0x20, 0x2C, 0x3B, 0x61, 0x0A, 0x1C] :=
  .ws _ _ (by decide +kernel) (.ws _ _ (by decide +kernel) (.comment [0x61] [0x1C] (by simp) (.ws _ _ (by decide +kernel) .nil)))

open Edn.Proofs.RejectDoc (posOf) in
open Edn.Proofs.RejectDocTrivX (TopTriviaX) in
/-- **End of input iff top-level trivia, in every configuration** (no reader registry).
    `TopTriviaX cfg input` (`Edn.Proofs.RejectDocTrivX`) says declaratively that the input holds
    no form: blanks (the 11 whitespace bytes, commas), line comments — the last one possibly not
    closed by a line feed — and complete discarded forms `#_ form`, where `form` is a form of the
    configuration's grammar `Edn.Spec.FormX cfg (numJOf cfg) (strJOf cfg)` (with the Clojure flag
    this includes metadata forms `^ann target` and namespaced maps `#:ns{…}`; with the experimental
    flag text blocks and the extended numbers) whose nesting leaves room for the discard marker.
    Then
    1. the top-level `readValue` ends with the error flagged "end of input between top-level forms"
       (the model's `eofTop`) **iff** `TopTriviaX cfg input`;
    2. with an end-of-input value supplied, `edn_read` returns it **iff** `TopTriviaX cfg input`;
    3. `edn_read` never returns the end-of-input value otherwise (none supplied, or a form present);
    4. without an end-of-input value a `TopTriviaX` input gives UNEXPECTED_EOF at the very end of the
       input, and no handler call. -/
theorem end_of_input_iff_top_level_trivia_in_every_configuration (cfg : Cfg) (opts : Opts)
    (hreg : opts.registry = none) (input : Bytes) :
    ((∃ e st, readValue { cfg := cfg, opts := opts } (readFuel input) 0 false { rest := input } = .err e st ∧
        e.eofTop = true) ↔ TopTriviaX cfg input) ∧
    (opts.eofValue = true → ((read cfg opts input).out = .eofValue ↔ TopTriviaX cfg input)) ∧
    ((read cfg opts input).out = .eofValue → opts.eofValue = true ∧ TopTriviaX cfg input) ∧
    (opts.eofValue = false → TopTriviaX cfg input →
      (read cfg opts input).out = .error .unexpectedEof (posOf input input.length) (posOf input input.length) ∧
      (read cfg opts input).calls = []) :=
  ⟨RejectDocTrivX.eofTopX_iff cfg opts hreg input,
   fun hev => RejectDocTrivX.eofX_iff_trivia_only cfg opts hreg hev input,
   RejectDocTrivX.eofValueX_inv cfg opts hreg input,
   fun hev h => RejectDocTrivX.triviaX_only_eof_error cfg opts hreg hev input h⟩

/-- non-vacuity, Clojure flag: `#_ ^:a [1] ; c` — a discarded *metadata form* and an unclosed
    comment — holds no form … -/
example : RejectDocTrivX.TopTriviaX ⟨true, false⟩ "#_ ^:a [1] ; c".toUTF8.toList :=
  RejectDocTrivX.topTriviaX_of_read _ _ (by decide +kernel)

/-- … whereas in the core configuration (`^:a` is a symbol there) the same bytes hold the form `[1]` -/
example : ¬ RejectDocTrivX.TopTriviaX Cfg.core "#_ ^:a [1] ; c".toUTF8.toList :=
  RejectDocTrivX.not_topTriviaX_of_read _ _ (by decide +kernel)

/-- a discarded *namespaced map* is trivia with the Clojure flag (with or without the experimental one) -/
example : ∀ cfg ∈ [(⟨true, false⟩ : Cfg), ⟨true, true⟩], RejectDocTrivX.TopTriviaX cfg "#_ #:a{:x 1}".toUTF8.toList := by
  intro cfg hc
  apply RejectDocTrivX.topTriviaX_of_read
  revert cfg
  decide +kernel

/-- blanks and commas only, every configuration -/
example : ∀ cfg ∈ [Cfg.core, ⟨true, false⟩, ⟨false, true⟩, ⟨true, true⟩],
    RejectDocTrivX.TopTriviaX cfg "  ,, ".toUTF8.toList := by
  intro cfg hc
  apply RejectDocTrivX.topTriviaX_of_read
  revert cfg
  decide +kernel

/-- `#_` alone — a discard marker with nothing to discard — is *not* trivia, in any configuration -/
example : ∀ cfg ∈ [Cfg.core, ⟨true, false⟩, ⟨false, true⟩, ⟨true, true⟩],
    ¬ RejectDocTrivX.TopTriviaX cfg "#_".toUTF8.toList := by
  intro cfg hc
  apply RejectDocTrivX.not_topTriviaX_of_read
  revert cfg
  decide +kernel

/-- the theorem at work: `#_ ^:a [1] ; c` with the Clojure flag and an end-of-input value supplied -/
example : (read ⟨true, false⟩ { eofValue := true } "#_ ^:a [1] ; c".toUTF8.toList).out = .eofValue :=
  ((end_of_input_iff_top_level_trivia_in_every_configuration ⟨true, false⟩ { eofValue := true } rfl _).2.1 rfl).2
    (RejectDocTrivX.topTriviaX_of_read _ _ (by decide +kernel))

end Edn.Properties.C13
