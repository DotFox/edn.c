/-
  Property C08 — sets and maps reject duplicates regardless of size, position or element
  kind.  The theorem is about `hasDuplicates` (src/uniqueness.c: pairwise for up to
  LINEAR_THRESHOLD elements, hash-ordered runs and the hash table above it) for arbitrary
  element counts; the thresholds are read from the regenerated tables and play no role in
  the statement.
-/
import Edn.Proofs.Equal
import Edn.Proofs.ReaderInv

namespace Edn.Properties.C08
open Edn.Model Edn.Spec Edn.Proofs

/-- A literal is rejected exactly when two of its elements (keys) are equal: the verdict is
    "no duplicates" iff the elements are pairwise non-equal — for every element count, hence
    for every internal strategy — and the elements handed back differ from the input only by
    filled-in (valid) cache cells. -/
theorem verdict_exact (cfg : Cfg) (xs : List Val) (h : Elems cfg xs) :
    ((hasDuplicates cfg xs).1 = false ↔ pairwiseDistinct cfg xs) ∧
    Elems cfg (hasDuplicates cfg xs).2 ∧
    (hasDuplicates cfg xs).2.length = xs.length ∧
    (pairwiseDistinct cfg xs → pairwiseDistinct cfg (hasDuplicates cfg xs).2) ∧
    depthL (hasDuplicates cfg xs).2 = depthL xs := hasDuplicates_iff cfg xs h

/-- the verdict is the same for every permutation of the elements -/
theorem verdict_permutation_invariant (cfg : Cfg) (xs ys : List Val) (h : Elems cfg xs) (hp : xs.Perm ys) :
    (hasDuplicates cfg xs).1 = (hasDuplicates cfg ys).1 := hasDuplicates_perm cfg xs ys h hp

/-- Reader half, sets: when the closing `}` of a set literal is met with the elements read so
    far, the literal is accepted (with pairwise non-equal elements) if and only if no two of
    them are equal, and rejected as DUPLICATE_ELEMENT otherwise. -/
theorem set_literal_verdict (ctx : Ctx) (f d : Nat) (dm : Bool) (start : Nat) (st stc : St) (acc : List Val) (r : Bytes)
    (hel : Elems ctx.cfg acc.reverse)
    (hcl : readValue ctx f (d + 1) dm st = .closer stc) (hr : stc.rest = 0x7D :: r) :
    (pairwiseDistinct ctx.cfg acc.reverse →
        ∃ h ys, readSeq ctx (f + 1) d dm 2 start st acc = .ok (.set h none ys) { stc with rest := r } ∧
          ys.length = acc.length ∧ pairwiseDistinct ctx.cfg ys) ∧
    (¬ pairwiseDistinct ctx.cfg acc.reverse →
        ∃ e, readSeq ctx (f + 1) d dm 2 start st acc = .err e { stc with rest := r } ∧ e.code = .duplicateElement) := by
  obtain ⟨h1, -, h3, h4, -⟩ := hasDuplicates_iff ctx.cfg acc.reverse hel
  constructor
  · intro hp
    exact ⟨_, _, run_of_rule (c := .s d dm 2 start st acc) (.sSet hcl hr (by decide) (by decide) (h1.mpr hp)),
      by rw [h3, List.length_reverse], h4 hp⟩
  · intro hp
    exact ⟨_, run_of_rule (c := .s d dm 2 start st acc)
      (.sDup hcl hr (by decide) (by decide) (Bool.of_not_eq_false (mt h1.mp hp))), rfl⟩

/-- Reader half, maps (keys after namespace qualification when that syntax is enabled) -/
theorem map_literal_verdict (ctx : Ctx) (f d : Nat) (dm : Bool) (start : Nat) (ns : Option Bytes) (st stc : St)
    (ks vs : List Val) (r : Bytes)
    (hel : Elems ctx.cfg ks.reverse)
    (hcl : readValue ctx f (d + 1) dm st = .closer stc) (hr : stc.rest = 0x7D :: r) :
    (pairwiseDistinct ctx.cfg ks.reverse →
        ∃ h keys, readMap ctx (f + 1) d dm start ns st ks vs = .ok (.map h none keys vs.reverse) { stc with rest := r } ∧
          keys.length = ks.length ∧ pairwiseDistinct ctx.cfg keys) ∧
    (¬ pairwiseDistinct ctx.cfg ks.reverse →
        ∃ e, readMap ctx (f + 1) d dm start ns st ks vs = .err e { stc with rest := r } ∧ e.code = .duplicateKey) := by
  obtain ⟨h1, -, h3, h4, -⟩ := hasDuplicates_iff ctx.cfg ks.reverse hel
  constructor
  · intro hp
    exact ⟨_, _, run_of_rule (.mOk hcl hr (h1.mpr hp)), by rw [h3, List.length_reverse], h4 hp⟩
  · intro hp
    exact ⟨_, run_of_rule (.mDup hcl hr (Bool.of_not_eq_false (mt h1.mp hp))), rfl⟩

/-- every tree the reader returns (no handler registry) is duplicate-free in all its sets and
    maps, within the depth equality handles, with valid caches: the hypotheses of the
    equality, hashing and lookup theorems (C07, C09) hold for it -/
theorem reader_establishes_wellformedness (cfg : Cfg) (opts : Opts) (hreg : opts.registry = none) (input : Bytes) (v : Val)
    (h : (read cfg opts input).out = .value v) :
    depth v < maxDepthFuel ∧ WF cfg v ∧ cacheOK cfg v = true := by
  obtain ⟨st, hr⟩ := read_out_value h
  exact AllocSim.El_of_VOK (readValue_inv { cfg := cfg, opts := opts } hreg _ 0 false _ _ _ (Nat.zero_le _) hr)

/-- non-vacuity: 18 elements (beyond the pairwise strategy) with an equal composite pair far
    apart, and the list/vector twin, are both reported -/
example : (hasDuplicates Cfg.core
    ([.vec (mkHdr 3 2) none [.int (mkHdr 1 0) 1]] ++ (List.range 16).map (fun (i : Nat) => Val.int (mkHdr 1 0) (Int.ofNat i)) ++
     [.list (mkHdr 3 2) none [.int (mkHdr 1 0) 1]])).1 = true := by decide +kernel

end Edn.Properties.C08
