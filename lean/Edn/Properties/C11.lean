/-
  Property C11 — source ranges of values and error ranges are exact and inside the input.
  Proved for every input: the value-range half (every range of the returned tree lies inside the
  input and is non-empty, a parent encloses its children, siblings - map keys and values in
  reading order - do not overlap and appear in source order, metadata lies inside its target;
  values the reader synthesises, i.e. rewritten namespaced-map keys and merged metadata maps,
  carry no range), the re-read half (the bytes of any sub-value's range, read on their own, give
  that sub-value again), the error-range half (0 <= start <= end <= length) and the line/column half
  (line-feed index, binary search, position arithmetic).
-/
import Edn.Proofs.Lines
import Edn.Proofs.Ranges
import Edn.Proofs.ReRead

namespace Edn.Properties.C11
open Edn.Model Edn.Proofs Edn.Spec

/-- every tree `edn_read` returns (no handler registry: handlers return arbitrary values)
    satisfies the range conditions hereditarily, and its own range lies inside the input
    (remaining-length coordinates: `hdr.s` bytes were left at its start, `hdr.e` at its end) -/
theorem value_ranges (cfg : Cfg) (opts : Opts) (hreg : opts.registry = none) (input : Bytes) (v : Val)
    (h : (read cfg opts input).out = .value v) :
    RangeOK v ∧ v.hdr.s ≤ input.length ∧ v.hdr.e < v.hdr.s :=
  read_value_ranges cfg opts hreg input v h

/-- the same at every nesting level: a value spans exactly the bytes consumed for it -/
theorem value_spans_bytes_read (ctx : Ctx) (hreg : ctx.opts.registry = none) (f d : Nat) (dm : Bool) (st st' : St) (v : Val)
    (h : readValue ctx f d dm st = .ok v st') : RangeOK v ∧ SpanOf st v st' :=
  readValue_ranges ctx hreg f d dm st st' v h

/-- re-reading: for every value occurring anywhere in the returned tree (elements, keys, values,
    tagged operands, metadata entries) that has a source range, reading exactly the bytes of
    that range returns the same value again - same kinds, payloads, children and relative
    positions - up to the hash-cache cells -/
theorem reread_gives_same_subtree (cfg : Cfg) (opts : Opts) (hreg : opts.registry = none) (input : Bytes) (v w : Val)
    (h : (read cfg opts input).out = .value v) (hw : SubVal w v) (hs : w.hdr.synth = false) :
    ∃ w', (read cfg opts (sliceOf input w.hdr)).out = .value w' ∧
      eraseCache (shiftV w.hdr.e w') = eraseCache w := by
  obtain ⟨st, hr⟩ := read_out_value h
  have hall := readValue_hrr { cfg := cfg, opts := opts } hreg input (readFuel input) 0 false
    { rest := input } v st (List.suffix_refl _) rfl hr
  obtain ⟨f, w', h1, h2⟩ := hall w hw hs
  refine ⟨w', ?_, h2⟩
  have h3 := readValue_ok_fuel { cfg := cfg, opts := opts } f (readFuel (sliceOf input w.hdr)) 0 false _ _ _ h1
    (by simp only [readFuel]; omega)
  exact read_out_of_ok h3

/-- what follows a form never influences how the form itself is read -/
theorem continuation_independent (ctx : Ctx) (hreg : ctx.opts.registry = none) (f d : Nat) (dm : Bool) (tok r : Bytes) (cl cl' : List Call) (v : Val)
    (h : readValue ctx f d dm { rest := tok ++ r, calls := cl } = .ok v { rest := r, calls := cl' }) :
    ∃ v', readValue ctx f d dm { rest := tok, calls := cl } = .ok v' { rest := [], calls := cl' } ∧
      shiftV r.length v' = v :=
  readValue_cut ctx hreg f d dm tok r cl cl' v h

/-- every error range satisfies 0 <= start <= end <= length (absolute offsets), with or
    without a registry -/
theorem error_ranges (cfg : Cfg) (opts : Opts) (input : Bytes) (code : Err) (es ee : Pos)
    (h : (read cfg opts input).out = .error code es ee) :
    es.offset ≤ ee.offset ∧ ee.offset ≤ input.length := by
  obtain ⟨r, hr, ho⟩ := read_out cfg opts input
  rw [h] at ho
  cases ho with
  | error hs he =>
    obtain ⟨q1, q2⟩ : ErrB input.length _ _ := hr ▸ readValue_post { cfg := cfg, opts := opts } _ 0 false { rest := input }
    rw [hs, he]
    exact ⟨by omega, Nat.sub_le _ _⟩

/-- the index built by `newline_find_all` lists exactly the offsets of the line feeds … -/
theorem index_complete (s : Bytes) (p : Nat) : p ∈ lfPositions s ↔ s[p]? = some 0x0A := by
  rw [lfPositions_eq, mem_lfPositionsScalar]; simp

/-- … in strictly ascending order -/
theorem index_sorted (s : Bytes) : (lfPositions s).Pairwise (· < ·) := by
  rw [lfPositions_eq]; exact lfPositionsScalar_sorted 0 s

/-- for every input and every offset: line = 1 + number of line feeds before the offset,
    column = 1 + distance from the byte after the last of them (offset + 1 on the first line) -/
theorem line_and_column (s : Bytes) (off : Nat) :
    linePos (lfPositions s).toArray off = linePosSpec s off :=
  linePos_eq_spec s off

example : linePos (lfPositions [0x61, 0x0A, 0x62, 0x63, 0x0A, 0x64]).toArray 5 = (3, 1) := by decide +kernel

end Edn.Properties.C11
