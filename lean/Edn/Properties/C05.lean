/-
  Property C05 — floating-point literals read as the correctly rounded IEEE-754 double.

  `Spec.rne n d` is round-to-nearest-even of the rational n/d to a binary64 bit pattern in
  exact natural-number arithmetic; `Spec.ofDec m e` is the double nearest to m · 10^e.  The
  model defines the machine operations of the fast path as `rne` of the exact result (what
  IEEE-754 requires of the hardware) and `strtod` as `ofDec` of the literal's decimal value
  (glibc is assumed correctly rounded) — both assumptions are part of the trusted base.
-/
import Edn.Proofs.Float
import Edn.Proofs.DoubleSpec
import Edn.Proofs.NumberReader

namespace Edn.Properties.C05
open Edn.Model Edn.Spec Edn.Proofs Edn.Generated

/-- every entry of POWER_OF_TEN_POSITIVE, as extracted from the compiled source, is exactly 10^k -/
theorem table_exact : ∀ k, k ≤ 22 →
    decode (UInt64.ofNat (Tables.pow10Positive.getD k 0)) = (false, 10 ^ k, 1) ∨
    (∃ n d, decode (UInt64.ofNat (Tables.pow10Positive.getD k 0)) = (false, n, d) ∧ n = 10 ^ k * d ∧ 0 < d) := by
  intro k hk
  obtain ⟨d, hd, h⟩ := FloatAux.pow10_exact k hk
  exact Or.inr ⟨_, d, h, rfl, hd⟩

/-- rounding depends only on the value n/d -/
theorem rounding_well_defined (n d c : Nat) (hd : 0 < d) (hc : 0 < c) : rne (n * c) (d * c) = rne n d :=
  rne_scale n d c hd hc

/-- The fast path (mantissa at most 2^53 - 1, decimal exponent in [-22, 22]) returns the double
    nearest to mant · 10^e, ties to even — one rounding, for multiplication and division alike. -/
theorem fast_path_correctly_rounded (mant : Nat) (e : Int) (neg : Bool)
    (hm : mant ≤ 9007199254740991) (he : -22 ≤ e ∧ e ≤ 22) :
    parseDoubleFast mant e neg = some (withSign neg (ofDec mant e)) :=
  fast_path_correct mant e neg hm he

/-- the shortcut used to evaluate astronomically large exponents does not change any result -/
theorem clamp_harmless (mant : Nat) (e : Int) : ofDecC mant e = ofDec mant e := ofDecC_eq mant e

/-- the slow path is by definition the correctly rounded value of the literal (the `strtod`
    assumption), so every literal whose digits are exactly representable in the mantissa
    accumulator reads as the correctly rounded double whichever path is taken -/
theorem slow_path_is_spec (text : Bytes) :
    strtodSpec text = (let p := decimalParts text; withSign p.1 (ofDec p.2.1 p.2.2)) :=
  DoubleSpecAux.strtodSpec_eq text

/-- The headline statement: for every float literal `[sign] digits [. digits] [e [sign] digits]`
    (underscores between digits only with the experimental flag) of every length,
    `parse_double_from_buffer` returns the double nearest to the literal's exact decimal value,
    ties to even, overflowing to infinity and underflowing to subnormals or signed zero,
    whichever path is taken (given the `strtod` assumption for the slow path). -/
theorem literal_correctly_rounded (cfg : Cfg) (text : Bytes) (h : FloatText cfg text) :
    parseDouble cfg text = (let p := decimalParts text; withSign p.1 (ofDec p.2.1 p.2.2)) :=
  parseDouble_correctly_rounded cfg text h

/-- two literals denoting the same real number (same sign, mantissas differing by a power of
    ten compensated in the exponent) read as the same double -/
theorem same_value_same_double (cfg : Cfg) (t1 t2 : Bytes) (h1 : FloatText cfg t1) (h2 : FloatText cfg t2)
    (hs : (decimalParts t1).1 = (decimalParts t2).1)
    (hv : ∃ k : Nat, ((decimalParts t1).2.1 = (decimalParts t2).2.1 * 10 ^ k ∧ (decimalParts t1).2.2 + k = (decimalParts t2).2.2) ∨
                     ((decimalParts t2).2.1 = (decimalParts t1).2.1 * 10 ^ k ∧ (decimalParts t2).2.2 + k = (decimalParts t1).2.2)) :
    parseDouble cfg t1 = parseDouble cfg t2 :=
  Edn.Proofs.same_value_same_double cfg t1 t2 h1 h2 hs hv

/-- the repaired defect: 0.3 is 3 / 10^1 rounded once -/
example : parseDouble Cfg.core "0.3".toUTF8.toList = 0x3FD3333333333333 := by decide +kernel
example : parseDouble Cfg.core "1e23".toUTF8.toList = 0x44B52D02C7E14AF6 := by decide +kernel
example : parseDouble Cfg.core "-0.0".toUTF8.toList = 0x8000000000000000 := by decide +kernel
example : parseDouble Cfg.core "4.9e-324".toUTF8.toList = 1 := by decide +kernel
example : parseDouble Cfg.core "1.8e308".toUTF8.toList = 0x7FF0000000000000 := by decide +kernel

/-- reader level, every configuration: a float token (sign, decimal integer part, fraction
    and/or exponent) followed by the end of input or a terminator is consumed exactly and read
    as the double nearest to its exact decimal value -/
theorem float_token_reads_correctly_rounded (cfg : Cfg) (tok rest : Bytes) (h : Edn.Spec.FloatTok tok) (ht : Edn.Spec.TermStart rest) :
    readNumber cfg (tok ++ rest) =
      .ok (.float (let p := decimalParts tok; Edn.Spec.withSign p.1 (Edn.Spec.ofDec p.2.1 p.2.2))) rest :=
  readNumber_float_value cfg tok rest h ht

end Edn.Properties.C05
