/-
  Property C10 — every malformed document is rejected with an error of the documented class,
  and no result ever carries both a value and an error, or neither.
-/
import Edn.Proofs.Run
import Edn.Proofs.IdentSound
import Edn.Proofs.Sound
import Edn.Proofs.CharSound
import Edn.Proofs.RejectDoc
import Edn.Proofs.RejectDocX

namespace Edn.Properties.C10
open Edn.Model Edn.Proofs

/-- exactly one of: a value; the caller's end-of-input value (only when supplied); an error
    whose code is not OK.  (The model's fourth outcome, running out of fuel, never occurs.) -/
theorem value_xor_error (cfg : Cfg) (opts : Opts) (input : Bytes) :
    match (read cfg opts input).out with
    | .value _ => True
    | .eofValue => opts.eofValue = true
    | .error code _ _ => code ≠ .ok
    | .fuelOut => False :=
  read_value_xor_error cfg opts input

/-- no reader function, at any depth, ever reports an error with the OK code -/
theorem errors_never_ok (ctx : Ctx) (f d : Nat) (dm : Bool) (st st' : St) (e : ErrInfo)
    (h : readValue ctx f d dm st = .err e st') : e.code ≠ .ok :=
  run_err_code ctx f (c := .v d dm st) h

/-- token-level defects carry their own class: string, character, identifier/symbolic, number -/
theorem token_classes (ctx : Ctx) (st st' : St) (e : ErrInfo) :
    (readString ctx st = .err e st' → e.code = .invalidString) ∧
    (readCharacter ctx st = .err e st' → e.code = .invalidCharacter) ∧
    (readIdentifier ctx st = .err e st' → e.code = .invalidSyntax) ∧
    (readSymbolic ctx st = .err e st' → e.code = .invalidSyntax) ∧
    (readNumberRes ctx st = .err e st' → e.code = .invalidNumber) :=
  ⟨codeIs_err (readString_leafRes ctx st).code, codeIs_err (readCharacter_leafRes ctx st).code,
    codeIs_err (readIdentifier_leafRes ctx st).code, codeIs_err (readSymbolic_leafRes ctx st).code,
    codeIs_err (readNumberRes_leafRes ctx st).code⟩

/-- a closing delimiter where a top-level form is expected: UNMATCHED_DELIMITER -/
theorem stray_closing_delimiter (ctx : Ctx) (f : Nat) (dm : Bool) (c : UInt8) (s : Bytes) (cl : List Call)
    (hc : c = 0x29 ∨ c = 0x5D ∨ c = 0x7D) :
    readValue ctx (f + 1) 0 dm { rest := c :: s, calls := cl } =
      .err (mkErr .unmatchedDelimiter) { rest := c :: s, calls := cl } :=
  stray_closer ctx f dm c s cl hc

/-- the input ends inside a list, vector or set: UNTERMINATED_COLLECTION, from the opening
    delimiter to the end of the input -/
theorem input_ends_in_sequence (ctx : Ctx) (f d : Nat) (dm : Bool) (kind start : Nat) (st st' : St) (acc : List Val) (e : ErrInfo)
    (h : readValue ctx f (d + 1) dm st = .err e st') (he : e.code = .unexpectedEof) (hf : e.fuelOut = false) :
    readSeq ctx (f + 1) d dm kind start st acc =
      .err (mkErr .unterminatedCollection (some start) (some st'.rest.length)) st' :=
  (run_of_rule (.sErr h)).trans (by rw [loopErr_eof he hf])

/-- … inside a map -/
theorem input_ends_in_map (ctx : Ctx) (f d : Nat) (dm : Bool) (start : Nat) (ns : Option Bytes) (st st' : St) (ks vs : List Val) (e : ErrInfo)
    (h : readValue ctx f (d + 1) dm st = .err e st') (he : e.code = .unexpectedEof) (hf : e.fuelOut = false) :
    readMap ctx (f + 1) d dm start ns st ks vs =
      .err (mkErr .unterminatedCollection (some start) (some st'.rest.length)) st' :=
  (run_of_rule (.mErr h)).trans (by rw [loopErr_eof he hf])

/-- a collection closed by the wrong delimiter: UNMATCHED_DELIMITER -/
theorem wrong_closing_delimiter (ctx : Ctx) (f d : Nat) (dm : Bool) (kind start : Nat) (st st' : St) (acc : List Val) (c : UInt8) (r : Bytes)
    (h : readValue ctx f (d + 1) dm st = .closer st') (hr : st'.rest = c :: r) (hc : c ≠ closerByte kind) :
    readSeq ctx (f + 1) d dm kind start st acc =
      .err (mkErr .unmatchedDelimiter (some start) (some (st'.rest.length - 1))) st' :=
  run_of_rule (.sStray h fun _ e => hc (List.head_eq_of_cons_eq (hr.symm.trans e)))

/-- a map with an odd number of forms: INVALID_SYNTAX -/
theorem odd_number_of_map_forms (ctx : Ctx) (f d : Nat) (dm : Bool) (start : Nat) (ns : Option Bytes) (st st' st'' : St) (ks vs : List Val) (k : Val)
    (h : readValue ctx f (d + 1) dm st = .ok k st') (h2 : readValue ctx f (d + 1) dm st' = .closer st'') :
    readMap ctx (f + 1) d dm start ns st ks vs =
      .err (mkErr .invalidSyntax (some start) (some st''.rest.length)) st'' :=
  run_of_rule (.mOdd h h2)

/-- a discard marker with nothing to discard: INVALID_DISCARD -/
theorem discard_without_form (ctx : Ctx) (f d : Nat) (dm : Bool) (s : Bytes) (cl : List Call) (st' : St)
    (hd : d < Edn.Generated.Tables.maxNestingDepth)
    (h : readValue ctx f (d + 1) true { rest := s, calls := cl } = .closer st') :
    readValue ctx (f + 1) d dm { rest := 0x23 :: 0x5F :: s, calls := cl } =
      .err (mkErr .invalidDiscard (some (s.length + 2)) (some s.length)) st' := by
  rw [readValue_at_discard ctx f d dm s cl hd, h]

/-- a tag with nothing to apply to: INVALID_SYNTAX before a closing delimiter … -/
theorem tag_without_form (ctx : Ctx) (f d : Nat) (dm : Bool) (start : Nat) (st st' st'' : St) (h : Hdr) (md : Option Val)
    (ns : Option Bytes) (name : Bytes) (c : UInt8) (cs : Bytes) (hs : st.rest = c :: cs)
    (hc : (c == 0x20 || c == 0x09 || c == 0x0A || c == 0x0D || c == 0x2C) = false)
    (hid : readIdentifier ctx st = .ok (.sym h md ns name) st')
    (hv : readValue ctx f (d + 1) dm st' = .closer st'') :
    readTagged ctx (f + 1) d dm start st = .err (mkErr .invalidSyntax (some start) (some st''.rest.length)) st'' :=
  run_of_rule (.tCloser hs hc hid hv)

/-- … and UNEXPECTED_EOF at the end of the input -/
theorem tag_at_end_of_input (ctx : Ctx) (f d : Nat) (dm : Bool) (start : Nat) (cl : List Call) :
    readTagged ctx (f + 1) d dm start { rest := [], calls := cl } =
      .err (mkErr .unexpectedEof (some start) (some 0)) { rest := [], calls := cl } :=
  run_of_rule (.tEof rfl)

/-- core configuration: a digit-initial (or sign-digit-initial) text no prefix of which is a core
    number token followed by a terminator is *rejected* by the number reader - never read as
    something else (hex, octal, radix, ratio and `_` separators are all outside `CoreNum`) -/
theorem core_number_outside_grammar_rejected (s : Bytes)
    (hstart : ∃ c t, s = c :: t ∧ (is09 c = true ∨ ((c = 0x2B ∨ c = 0x2D) ∧ ∃ nx t', t = nx :: t' ∧ is09 nx = true)))
    (hnot : ¬ ∃ tok rest v, s = tok ++ rest ∧ Edn.Spec.CoreNum Cfg.core tok v ∧ Edn.Spec.TermStart rest) :
    ∃ cur, readNumber Cfg.core s = .err cur :=
  RejectDoc.readNumber_core_rejects s hstart hnot

example : (match readNumber Cfg.core "0x1F".toUTF8.toList with | .err _ => true | .ok _ _ => false) = true := by decide +kernel
example : (match readNumber Cfg.core "1/2".toUTF8.toList with | .err _ => true | .ok _ _ => false) = true := by decide +kernel
example : (match readNumber Cfg.core "007".toUTF8.toList with | .err _ => true | .ok _ _ => false) = true := by decide +kernel

/-- every configuration: a maximal run of non-delimiter bytes that is not a well-formed identifier
    token (empty, containing `::`, `ns/` or `/name` with an empty side, a bare `:` or `:/`) is
    rejected by the identifier reader with INVALID_SYNTAX - never read as something else -/
theorem identifier_outside_grammar_rejected (ctx : Ctx) (tok rest : Bytes) (cl : List Call)
    (hne : ∀ c ∈ tok, isDelim c = false) (hr : rest = [] ∨ ∃ c t, rest = c :: t ∧ isDelim c = true)
    (hbad : ¬ (Edn.Spec.IdentLex tok ∧ ∃ a, Edn.Spec.IdentDenotes tok a)) :
    ∃ e st', readIdentifier ctx { rest := tok ++ rest, calls := cl } = .err e st' ∧ e.code = .invalidSyntax :=
  Edn.Proofs.readIdentifier_rejects ctx tok rest cl hne hr hbad

/-- **Nothing outside the grammar is accepted** (core configuration, no registry): an input no
    prefix of which is a form of `Edn.Spec.Form` within the nesting limit is never read as a value -
    the result is an error or (only for blank input) the end-of-input outcome -/
theorem core_outside_grammar_never_a_value (opts : Opts) (hreg : opts.registry = none) (input : Bytes)
    (hnot : ¬ ∃ k a tok rest, k ≤ Edn.Generated.Tables.maxNestingDepth ∧ input = tok ++ rest ∧ Edn.Spec.Form k a tok rest) :
    ∀ v, (read Cfg.core opts input).out ≠ .value v := by
  intro v h
  obtain ⟨k, tok, rest, hk, h1, h2⟩ := (Edn.Proofs.read_core_iff opts hreg input (Edn.Spec.strip v)).1 ⟨v, h, rfl⟩
  exact hnot ⟨k, _, tok, rest, hk, h1, h2⟩

/-- every failure of the character reader is INVALID_CHARACTER, reported from the backslash, with
    the cursor left there (every configuration) -/
theorem character_errors (ctx : Ctx) (st st' : St) (e : ErrInfo) (h : readCharacter ctx st = .err e st') :
    e.code = .invalidCharacter ∧ e.es = some st.rest.length ∧ st' = st :=
  Edn.Proofs.readCharacter_err ctx st st' e h

/-- non-vacuity: `[1 2` is an unterminated collection, `{:a}` an odd map, `)` a stray closer -/
example : (match (read Cfg.core {} "[1 2".toUTF8.toList).out with | .error c _ _ => c == .unterminatedCollection | _ => false) = true := by decide +kernel
example : (match (read Cfg.core {} "{:a}".toUTF8.toList).out with | .error c _ _ => c == .invalidSyntax | _ => false) = true := by decide +kernel
example : (match (read Cfg.core {} ")".toUTF8.toList).out with | .error c _ _ => c == .unmatchedDelimiter | _ => false) = true := by decide +kernel

/-! ## Whole documents: the error class of every defect family

  Core configuration, no reader registry.  The statements are about the bytes of the input:
  `Forms k n body after` (n complete forms of the grammar `Edn.Spec.Form`), `Edn.Spec.Trail`
  (blanks, comments, discarded forms), `Desc s c 0 false pre d dm` (`pre` is a well-formed *open
  context* - blanks, discarded forms, open tags / discard markers, and open collections holding
  complete forms - after which a form is expected at depth `d`), `EofSite` (only blanks and
  comments are left), `TopTrivia` (the inputs holding no form at all); see
  `Edn.Proofs.RejectFrames` (`Forms`, `Desc`), `Edn.Proofs.RejectDocTrivX` (`TopTrivia`) and
  `Edn.Proofs.RejectDoc` (`EofSite`).  `posOf input off` is the position (offset, line, column)
  `edn_read` reports for the byte offset `off`.  Each class theorem is `first_defect_decides`
  (`doc_range` when the error starts at the defect and its end is known) applied to what `readValue`
  makes of the defect where it stands, and is instantiated on a concrete document below its proof. -/

section Documents
open Edn.Spec Edn.Proofs.Cmpl Edn.Proofs.RejectDoc

/-- **Nothing outside the grammar is accepted, and it is an error**: an input no prefix of which is
    a form within the nesting limit yields an error with a code other than OK, or - only when the
    caller supplied an end-of-input value and the input holds no form at all - that value -/
theorem document_outside_grammar_rejected (opts : Opts) (hreg : opts.registry = none) (input : Bytes)
    (hnot : ¬ ∃ k a tok rest, k ≤ Edn.Generated.Tables.maxNestingDepth ∧ input = tok ++ rest ∧ Form k a tok rest) :
    (∃ code es ee, (read Cfg.core opts input).out = .error code es ee ∧ code ≠ .ok) ∨
    ((read Cfg.core opts input).out = .eofValue ∧ opts.eofValue = true ∧ TopTrivia input) :=
  core_not_in_grammar_rejected opts hreg input hnot

/-- **The first defect decides the class**: whatever error the reader raises right after a
    well-formed open context is the error of the whole document, code and range (every error through
    tags and discard markers; every error but UNEXPECTED_EOF - which the innermost collection turns
    into UNTERMINATED_COLLECTION - through open collections) -/
theorem first_defect_decides_the_class (opts : Opts) (hreg : opts.registry = none) {s : Bytes} {c : Bool} {pre : Bytes}
    {d : Nat} {dm : Bool} (h : Desc s c 0 false pre d dm) (e : ErrInfo) (r : Bytes)
    (hs : SiteErr opts d dm s e r) (hc : c = false ∨ e.code ≠ .unexpectedEof) (hf : e.fuelOut = false)
    (hn : (e.code == .unexpectedEof && e.eofTop && opts.eofValue) = false) :
    (read Cfg.core opts (pre ++ s)).out =
      .error e.code (posOf (pre ++ s) ((pre ++ s).length - e.es.getD r.length))
        (posOf (pre ++ s) ((pre ++ s).length - e.ee.getD r.length)) :=
  first_defect_decides opts hreg h e r hs hc hf hn

/-- end of input where a top-level form is expected: with an end-of-input value supplied the
    reader returns it **iff** the input consists of blanks, comments (the last one possibly
    unclosed) and complete discarded forms only (`TopTrivia`) … -/
theorem end_of_input_value_iff_no_form (opts : Opts) (hreg : opts.registry = none) (hev : opts.eofValue = true) (input : Bytes) :
    (read Cfg.core opts input).out = .eofValue ↔ TopTrivia input :=
  eof_iff_trivia_only opts hreg hev input

/-- … and without one such an input is UNEXPECTED_EOF at the end of the input -/
theorem no_form_is_unexpected_eof (opts : Opts) (hreg : opts.registry = none) (hev : opts.eofValue = false) (input : Bytes)
    (h : TopTrivia input) :
    (read Cfg.core opts input).out = .error .unexpectedEof (posOf input input.length) (posOf input input.length) :=
  (RejectDocTrivX.triviaX_only_eof_error Cfg.core opts hreg hev input ((RejectDocTrivX.topTriviaX_core_iff input).2 h)).1

/-- the whitespace skipper runs to the end of the input exactly on blanks and comments, the last
    comment possibly unclosed (the base case of `TopTrivia`) -/
theorem blank_to_the_end_iff (s : Bytes) : skipWsScalar s = [] ↔ EofBlank s :=
  skipWsScalar_nil_iff s

/-- a closing delimiter where a top-level form is expected (after blanks, comments and discarded
    forms): UNMATCHED_DELIMITER at that delimiter -/
theorem stray_closing_delimiter_document (opts : Opts) (hreg : opts.registry = none) (k : Nat) (tr : Bytes) (c : UInt8)
    (rest : Bytes) (hk : k ≤ Edn.Generated.Tables.maxNestingDepth) (ht : Trail k tr (c :: rest)) (hc : IsCloser c) :
    (read Cfg.core opts (tr ++ c :: rest)).out =
      .error .unmatchedDelimiter (posOf (tr ++ c :: rest) tr.length) (posOf (tr ++ c :: rest) tr.length) := by
  have hsite : SiteErr opts 0 false (c :: rest) (mkErr .unmatchedDelimiter) (c :: rest) :=
    RejectDocClj.SiteErrX.of_evals fun cl => .intro 0 fun f _ => stray_closer _ f false c rest cl hc
  have := first_defect_decides opts hreg (trail_desc ht 0 false (by omega)) _ _ hsite (Or.inl rfl) rfl rfl
  simpa only [mkErr, Option.getD_none, len_sub_cancel] using this

/-- ` ;c⏎)` -/
example : (read Cfg.core {} [0x20, 0x3B, 0x63, 0x0A, 0x29]).out =
    .error .unmatchedDelimiter (posOf [0x20, 0x3B, 0x63, 0x0A, 0x29] 4) (posOf [0x20, 0x3B, 0x63, 0x0A, 0x29] 4) :=
  stray_closing_delimiter_document {} rfl 0 [0x20, 0x3B, 0x63, 0x0A] 0x29 [] (by decide)
    (.blank 0 _ _ (.ws 0x20 _ (by decide +kernel) (.comment [0x63] [] (by decide) .nil))) (.inl rfl)

/-- the input ends inside a collection (after complete forms, possibly behind open tags or discard
    markers): UNTERMINATED_COLLECTION from the opening delimiter of the **innermost** open collection
    to the end of the input -/
theorem input_ends_in_collection_document (opts : Opts) (hreg : opts.registry = none) {c0 : Bool} {pre : Bytes} {d : Nat} {dm : Bool}
    (kind k n : Nat) (body pre2 s2 : Bytes) (d2 : Nat) (dm2 : Bool)
    (hctx : Desc (opener kind ++ (body ++ (pre2 ++ s2))) c0 0 false pre d dm)
    (hd : d + 1 + k ≤ Edn.Generated.Tables.maxNestingDepth) (hb : Forms k n body (pre2 ++ s2))
    (hflat : Desc s2 false (d + 1) dm pre2 d2 dm2) (hs : EofSite s2) :
    (read Cfg.core opts (pre ++ (opener kind ++ (body ++ (pre2 ++ s2))))).out =
      .error .unterminatedCollection (posOf (pre ++ (opener kind ++ (body ++ (pre2 ++ s2)))) pre.length)
        (posOf (pre ++ (opener kind ++ (body ++ (pre2 ++ s2)))) (pre ++ (opener kind ++ (body ++ (pre2 ++ s2)))).length) := by
  obtain ⟨e, h1, h2, -⟩ := hs.err opts d2 dm2
  -- the end of the input travels through the flat part unchanged; the element loop renames it
  have hsite := RejectDocClj.siteX_of_elem (kind := kind) (by omega) (RejectDocClj.run_of_forms opts hreg hb (d + 1) (by omega))
    (desc_err opts hreg hflat e [] h1 (Or.inl rfl))
  rw [loopErr_eof h2 (RejectDocClj.SiteErrX.not_fuelOut h1)] at hsite
  exact doc_range opts hreg hctx .unterminatedCollection _ _ hsite (by decide)

/-- `[1 2` -/
example : (read Cfg.core {} [0x5B, 0x31, 0x20, 0x32]).out =
    .error .unterminatedCollection (posOf [0x5B, 0x31, 0x20, 0x32] 0) (posOf [0x5B, 0x31, 0x20, 0x32] 4) :=
  input_ends_in_collection_document {} rfl (pre := []) 1 0 2 [0x31, 0x20, 0x32] [] [] 1 false (.here false 0 false) (by decide)
    (Ex.forms_1_2 0 [] (Or.inl rfl)) (.here false 1 false) (.blank [] rfl)

/-- `[1 (2 3`: the innermost open collection, the list at offset 3, is the one reported -/
example : (read Cfg.core {} [0x5B, 0x31, 0x20, 0x28, 0x32, 0x20, 0x33]).out =
    .error .unterminatedCollection (posOf [0x5B, 0x31, 0x20, 0x28, 0x32, 0x20, 0x33] 3)
      (posOf [0x5B, 0x31, 0x20, 0x28, 0x32, 0x20, 0x33] 7) := by
  obtain ⟨a2, h2⟩ := Ex.form_digit 0 0x32 (by decide) ([0x20, 0x33] ++ []) (Ex.term_sp _)
  obtain ⟨a3, h3⟩ := Ex.form_sp_digit 0 0x33 (by decide) [] (Or.inl rfl)
  exact input_ends_in_collection_document {} rfl 0 0 2 [0x32, 0x20, 0x33] [] [] 2 false (Ex.ctx_vec_1 _) (by decide)
    (Ex.forms_two h2 h3) (.here false 2 false) (.blank [] rfl)

/-- a list, vector or set closed by the wrong delimiter: UNMATCHED_DELIMITER from its opening
    delimiter to just after the closing one -/
theorem wrong_closing_delimiter_document (opts : Opts) (hreg : opts.registry = none) {c0 : Bool} {pre : Bytes} {d : Nat} {dm : Bool}
    (kind k n : Nat) (body tr : Bytes) (c : UInt8) (rest : Bytes)
    (hctx : Desc (opener kind ++ (body ++ (tr ++ c :: rest))) c0 0 false pre d dm) (hkind : kind < 3)
    (hd : d + 1 + k ≤ Edn.Generated.Tables.maxNestingDepth) (hb : Forms k n body (tr ++ c :: rest))
    (ht : Trail k tr (c :: rest)) (hc : IsCloser c) (hne : c ≠ closerByte kind) :
    (read Cfg.core opts (pre ++ (opener kind ++ (body ++ (tr ++ c :: rest))))).out =
      .error .unmatchedDelimiter (posOf (pre ++ (opener kind ++ (body ++ (tr ++ c :: rest)))) pre.length)
        (posOf (pre ++ (opener kind ++ (body ++ (tr ++ c :: rest))))
          ((pre ++ (opener kind ++ (body ++ (tr ++ c :: rest)))).length - rest.length)) :=
  doc_range opts hreg hctx .unmatchedDelimiter _ _
    (RejectDocClj.siteX_of_loopS hkind (by omega)
      (RejectDocClj.rs_run (RejectDocClj.run_of_forms opts hreg hb (d + 1) (by omega))
        (RejectDocClj.loopSX_of_closer (trail_reads opts hreg ht c rest rfl hc d hd) hne)))
    (by decide)

/-- `[1 2)` -/
example : (read Cfg.core {} [0x5B, 0x31, 0x20, 0x32, 0x29]).out =
    .error .unmatchedDelimiter (posOf [0x5B, 0x31, 0x20, 0x32, 0x29] 0) (posOf [0x5B, 0x31, 0x20, 0x32, 0x29] 5) :=
  wrong_closing_delimiter_document {} rfl (pre := []) 1 0 2 [0x31, 0x20, 0x32] [] 0x29 [] (.here false 0 false) (by decide) (by decide)
    (Ex.forms_1_2 0 [0x29] (Ex.term_closer (.inl rfl) _)) (.blank 0 [] _ .nil) (.inl rfl) (by decide)

/-- … a map with an even number of forms closed by `)` or `]` -/
theorem wrong_closing_delimiter_of_map_document (opts : Opts) (hreg : opts.registry = none) {c0 : Bool} {pre : Bytes} {d : Nat} {dm : Bool}
    (k m : Nat) (body tr : Bytes) (c : UInt8) (rest : Bytes)
    (hctx : Desc (opener 3 ++ (body ++ (tr ++ c :: rest))) c0 0 false pre d dm)
    (hd : d + 1 + k ≤ Edn.Generated.Tables.maxNestingDepth) (hb : Forms k (2 * m) body (tr ++ c :: rest))
    (ht : Trail k tr (c :: rest)) (hc : IsCloser c) (hne : c ≠ 0x7D) :
    (read Cfg.core opts (pre ++ (opener 3 ++ (body ++ (tr ++ c :: rest))))).out =
      .error .unmatchedDelimiter (posOf (pre ++ (opener 3 ++ (body ++ (tr ++ c :: rest)))) pre.length)
        (posOf (pre ++ (opener 3 ++ (body ++ (tr ++ c :: rest))))
          ((pre ++ (opener 3 ++ (body ++ (tr ++ c :: rest)))).length - rest.length)) :=
  doc_range opts hreg hctx .unmatchedDelimiter _ _
    (RejectDocClj.siteX_of_loopM (Nat.le_refl 3) (by omega)
      (RejectDocClj.rm_run (RejectDocClj.loopMX_of_closer (trail_reads opts hreg ht c rest rfl hc d hd) hne)
        m body (RejectDocClj.run_of_forms opts hreg hb (d + 1) (by omega))))
    (by decide)

/-- `{1 2]` -/
example : (read Cfg.core {} [0x7B, 0x31, 0x20, 0x32, 0x5D]).out =
    .error .unmatchedDelimiter (posOf [0x7B, 0x31, 0x20, 0x32, 0x5D] 0) (posOf [0x7B, 0x31, 0x20, 0x32, 0x5D] 5) :=
  wrong_closing_delimiter_of_map_document {} rfl (pre := []) 0 1 [0x31, 0x20, 0x32] [] 0x5D [] (.here false 0 false) (by decide)
    (Ex.forms_1_2 0 [0x5D] (Ex.term_closer (.inr (.inl rfl)) _)) (.blank 0 [] _ .nil) (.inr (.inl rfl)) (by decide)

/-- a map with an odd number of forms (closed by any closing delimiter): INVALID_SYNTAX from the
    opening brace to the closing delimiter -/
theorem odd_number_of_map_forms_document (opts : Opts) (hreg : opts.registry = none) {c0 : Bool} {pre : Bytes} {d : Nat} {dm : Bool}
    (k m : Nat) (body tr : Bytes) (c : UInt8) (rest : Bytes)
    (hctx : Desc (opener 3 ++ (body ++ (tr ++ c :: rest))) c0 0 false pre d dm)
    (hd : d + 1 + k ≤ Edn.Generated.Tables.maxNestingDepth) (hb : Forms k (2 * m + 1) body (tr ++ c :: rest))
    (ht : Trail k tr (c :: rest)) (hc : IsCloser c) :
    (read Cfg.core opts (pre ++ (opener 3 ++ (body ++ (tr ++ c :: rest))))).out =
      .error .invalidSyntax (posOf (pre ++ (opener 3 ++ (body ++ (tr ++ c :: rest)))) pre.length)
        (posOf (pre ++ (opener 3 ++ (body ++ (tr ++ c :: rest))))
          ((pre ++ (opener 3 ++ (body ++ (tr ++ c :: rest)))).length - (rest.length + 1))) := by
  have hsite : SiteErr opts d dm (opener 3 ++ (body ++ (tr ++ c :: rest)))
      (mkErr .invalidSyntax (some (opener 3 ++ (body ++ (tr ++ c :: rest))).length) (some (rest.length + 1))) (c :: rest) := by
    -- the last form is a key without a value
    obtain ⟨body1, tok, _, rfl, h1, h2⟩ := (RejectDocClj.run_of_forms opts hreg hb (d + 1) (by omega)).snoc
    apply RejectDocClj.siteX_of_loopM (Nat.le_refl 3) (by omega)
    rw [List.append_assoc]
    exact RejectDocClj.rm_run (RejectDocClj.loopMX_of_closer2 h2 (trail_reads opts hreg ht c rest rfl hc d hd)) m body1 h1
  exact doc_range opts hreg hctx .invalidSyntax _ _ hsite (by decide)

/-- `{1}` -/
example : (read Cfg.core {} [0x7B, 0x31, 0x7D]).out =
    .error .invalidSyntax (posOf [0x7B, 0x31, 0x7D] 0) (posOf [0x7B, 0x31, 0x7D] 2) := by
  obtain ⟨a, h1⟩ := Ex.form_digit 0 0x31 (by decide) [0x7D] (Ex.term_closer (.inr (.inr rfl)) _)
  exact odd_number_of_map_forms_document {} rfl (pre := []) 0 0 [0x31] [] 0x7D [] (.here false 0 false) (by decide) (Ex.forms_one h1)
    (.blank 0 [] _ .nil) (.inr (.inr rfl))

/-- a tag with nothing to apply to before a closing delimiter: INVALID_SYNTAX from the `#` to the
    closing delimiter -/
theorem tag_without_form_document (opts : Opts) (hreg : opts.registry = none) {c0 : Bool} {pre : Bytes} {d : Nat} {dm : Bool}
    (tg : Bytes) (ns : Option Bytes) (nm : Bytes) (k : Nat) (tr : Bytes) (c : UInt8) (rest : Bytes)
    (hctx : Desc (0x23 :: (tg ++ (tr ++ c :: rest))) c0 0 false pre d dm)
    (hd : d + 1 + k ≤ Edn.Generated.Tables.maxNestingDepth) (hl : IdentLex tg) (hden : IdentDenotes tg (.sym hdr0 none ns nm))
    (hu : tg.head? ≠ some 0x5F) (ht : Trail k tr (c :: rest)) (hc : IsCloser c) :
    (read Cfg.core opts (pre ++ 0x23 :: (tg ++ (tr ++ c :: rest)))).out =
      .error .invalidSyntax (posOf (pre ++ 0x23 :: (tg ++ (tr ++ c :: rest))) pre.length)
        (posOf (pre ++ 0x23 :: (tg ++ (tr ++ c :: rest)))
          ((pre ++ 0x23 :: (tg ++ (tr ++ c :: rest))).length - (rest.length + 1))) :=
  doc_range opts hreg hctx .invalidSyntax _ _
    (RejectDocClj.site_tag_closer (by omega) hl hden hu (trail_delimStart ht hc)
      (trail_reads opts hreg ht c rest rfl hc d hd))
    (by decide)

/-- `[#foo]` -/
example : (read Cfg.core {} [0x5B, 0x23, 0x66, 0x6F, 0x6F, 0x5D]).out =
    .error .invalidSyntax (posOf [0x5B, 0x23, 0x66, 0x6F, 0x6F, 0x5D] 1) (posOf [0x5B, 0x23, 0x66, 0x6F, 0x6F, 0x5D] 5) :=
  tag_without_form_document {} rfl [0x66, 0x6F, 0x6F] none [0x66, 0x6F, 0x6F] 0 [] 0x5D [] (Ex.ctx_vec _) (by decide) Ex.foo_lex Ex.foo_den
    (by decide) (.blank 0 [] _ .nil) (.inr (.inl rfl))

/-- a discard marker with nothing to discard before a closing delimiter: INVALID_DISCARD on the two
    bytes of the marker -/
theorem discard_without_form_document (opts : Opts) (hreg : opts.registry = none) {c0 : Bool} {pre : Bytes} {d : Nat} {dm : Bool}
    (k : Nat) (tr : Bytes) (c : UInt8) (rest : Bytes)
    (hctx : Desc (0x23 :: 0x5F :: (tr ++ c :: rest)) c0 0 false pre d dm)
    (hd : d + 1 + k ≤ Edn.Generated.Tables.maxNestingDepth) (ht : Trail k tr (c :: rest)) (hc : IsCloser c) :
    (read Cfg.core opts (pre ++ 0x23 :: 0x5F :: (tr ++ c :: rest))).out =
      .error .invalidDiscard (posOf (pre ++ 0x23 :: 0x5F :: (tr ++ c :: rest)) pre.length)
        (posOf (pre ++ 0x23 :: 0x5F :: (tr ++ c :: rest)) (pre.length + 2)) := by
  have e2 : pre.length + 2 = (pre ++ 0x23 :: 0x5F :: (tr ++ c :: rest)).length - (tr ++ c :: rest).length := by
    simp only [List.length_append, List.length_cons]; omega
  rw [e2]
  exact doc_range opts hreg hctx .invalidDiscard _ _
    (RejectDocClj.site_discard_closer (by omega) (trail_reads opts hreg ht c rest rfl hc d hd)) (by decide)

/-- `[#_]` -/
example : (read Cfg.core {} [0x5B, 0x23, 0x5F, 0x5D]).out =
    .error .invalidDiscard (posOf [0x5B, 0x23, 0x5F, 0x5D] 1) (posOf [0x5B, 0x23, 0x5F, 0x5D] 3) :=
  discard_without_form_document {} rfl 0 [] 0x5D [] (Ex.ctx_vec _) (by decide) (.blank 0 [] _ .nil) (.inr (.inl rfl))

/-- a tag or discard marker outside every collection whose form never comes (or a lone `#` at the
    end): UNEXPECTED_EOF at the end of the input - an error even when an end-of-input value was
    supplied.  (Inside a collection the same input is `input_ends_in_collection_document`.) -/
theorem tag_or_discard_at_end_document (opts : Opts) (hreg : opts.registry = none) {pre s : Bytes} {d : Nat} {dm : Bool}
    (hctx : Desc s false 0 false pre d dm) (hs : EofSite s) (hopen : 0 < d ∨ skipWsScalar s ≠ []) :
    ∃ es ee, (read Cfg.core opts (pre ++ s)).out = .error .unexpectedEof es ee ∧
      (pre ++ s).length - 1 ≤ es.offset ∧ ee.offset = (pre ++ s).length := by
  obtain ⟨e, h1, h2, h4, h5⟩ := hs.err opts d dm
  have ht : e.eofTop = false := by
    cases hq : e.eofTop with
    | false => rfl
    | true =>
      obtain ⟨h6, h7⟩ := h4 hq
      rcases hopen with h | h
      · omega
      · exact absurd h7 h
  have := first_defect_decides opts hreg hctx e [] h1 (Or.inl rfl) (RejectDocClj.SiteErrX.not_fuelOut h1) (by rw [ht]; simp)
  rw [h2] at this
  obtain ⟨h6, h7⟩ := h5 ht
  refine ⟨_, _, this, ?_, ?_⟩
  · simp only [posOf_offset, List.length_nil]; omega
  · simp only [posOf_offset, List.length_nil, h7, Nat.sub_zero]

/-- `#foo #_` is an error even with an end-of-input value -/
example : ∃ es ee, (read Cfg.core { eofValue := true } [0x23, 0x66, 0x6F, 0x6F, 0x20, 0x23, 0x5F]).out = .error .unexpectedEof es ee ∧
    7 - 1 ≤ es.offset ∧ ee.offset = 7 := by
  have hctx : Desc [] false 0 false (0x23 :: ([0x66, 0x6F, 0x6F] ++ ([0x20] ++ [0x23, 0x5F]))) 2 true :=
    .tag false 0 false _ none _ _ 2 true (by decide) Ex.foo_lex Ex.foo_den (by decide) (Or.inr ⟨0x20, _, rfl, by decide +kernel⟩)
      (.blank false 1 false [0x20] _ 2 true (.ws 0x20 [] (by decide +kernel) .nil)
        (.discard false 1 false [] 2 true (by decide) (.here false 2 true)))
  exact tag_or_discard_at_end_document { eofValue := true } rfl hctx (.blank [] rfl) (.inl (by decide))

/-- an identifier-like token that is not a well-formed identifier, anywhere a form is expected
    after a well-formed context: INVALID_SYNTAX from the token's first byte -/
theorem invalid_identifier_document (opts : Opts) (hreg : opts.registry = none) {c0 : Bool} {pre : Bytes} {d : Nat} {dm : Bool}
    (tok rest : Bytes) (hctx : Desc (tok ++ rest) c0 0 false pre d dm)
    (hne : tok ≠ []) (hnd : ∀ c ∈ tok, isDelim c = false) (hs : IdentStart tok) (hr : DelimStart rest)
    (hbad : ¬ (IdentLex tok ∧ ∃ a, IdentDenotes tok a)) :
    ∃ ee, (read Cfg.core opts (pre ++ (tok ++ rest))).out =
      .error .invalidSyntax (posOf (pre ++ (tok ++ rest)) pre.length) ee := by
  obtain ⟨b, r, h⟩ := site_bad_identifier opts d dm tok rest hne hnd hs hr hbad
  have := first_defect_decides opts hreg hctx _ _ h (Or.inr (by intro h; cases h)) rfl rfl
  exact ⟨_, by simpa only [mkErr, Option.getD_some, len_sub_cancel] using this⟩

/-- `a::b` -/
example : ∃ ee, (read Cfg.core {} [0x61, 0x3A, 0x3A, 0x62]).out = .error .invalidSyntax (posOf [0x61, 0x3A, 0x3A, 0x62] 0) ee :=
  invalid_identifier_document {} rfl (pre := []) [0x61, 0x3A, 0x3A, 0x62] [] (.here false 0 false) (by simp) (by decide +kernel)
    (by intro c t e; simp only [List.cons.injEq] at e; obtain ⟨rfl, rfl⟩ := e; exact ⟨by decide, by intro h; rcases h with h | h <;> cases h⟩)
    (Or.inl rfl) (fun h => h.1.2.2 (by decide))

/-- a number-like text (a digit, or a sign and a digit, first) no prefix of which is a number token
    of the core grammar followed by a terminator: INVALID_NUMBER from its first byte -/
theorem invalid_number_document (opts : Opts) (hreg : opts.registry = none) {c0 : Bool} {pre : Bytes} {d : Nat} {dm : Bool}
    (s : Bytes) (hctx : Desc s c0 0 false pre d dm)
    (hstart : ∃ c t, s = c :: t ∧ (is09 c = true ∨ ((c = 0x2B ∨ c = 0x2D) ∧ ∃ nx t', t = nx :: t' ∧ is09 nx = true)))
    (hnot : ¬ ∃ tok rest v, s = tok ++ rest ∧ CoreNum Cfg.core tok v ∧ TermStart rest) :
    ∃ ee, (read Cfg.core opts (pre ++ s)).out = .error .invalidNumber (posOf (pre ++ s) pre.length) ee := by
  obtain ⟨cur, h⟩ := site_bad_number opts d dm s hstart hnot
  exact ⟨_, doc_range opts hreg hctx .invalidNumber _ _ h (by decide)⟩

/-- `[1 1x]` - the first defect, the token `1x` at offset 3, decides the class -/
example : ∃ ee, (read Cfg.core {} [0x5B, 0x31, 0x20, 0x31, 0x78, 0x5D]).out =
    .error .invalidNumber (posOf [0x5B, 0x31, 0x20, 0x31, 0x78, 0x5D] 3) ee := by
  refine invalid_number_document {} rfl [0x31, 0x78, 0x5D] (Ex.ctx_vec_1 _) ⟨0x31, _, rfl, .inl (by decide)⟩ ?_
  rintro ⟨tok, rest, v, e, hn, ht⟩
  have h := readNumber_coreNum Cfg.core tok rest v hn ht
  rw [← e] at h
  have hb : (match readNumber Cfg.core [0x31, 0x78, 0x5D] with | .err _ => true | .ok _ _ => false) = true := by decide +kernel
  rw [h] at hb
  cases hb

/-- a string literal that is never closed: INVALID_STRING from the opening quote to the end of the input -/
theorem unterminated_string_document (opts : Opts) (hreg : opts.registry = none) {c0 : Bool} {pre : Bytes} {d : Nat} {dm : Bool}
    (cs : Bytes) (hctx : Desc (0x22 :: cs) c0 0 false pre d dm)
    (hnot : ¬ ∃ sp rest, cs = sp ++ 0x22 :: rest ∧ RawStr sp) :
    (read Cfg.core opts (pre ++ 0x22 :: cs)).out =
      .error .invalidString (posOf (pre ++ 0x22 :: cs) pre.length) (posOf (pre ++ 0x22 :: cs) (pre ++ 0x22 :: cs).length) :=
  doc_range opts hreg hctx .invalidString _ _ (site_unterminated_string opts d dm cs hnot) (by decide)

/-- a backslash that no character token (followed by a delimiter or the end) follows:
    INVALID_CHARACTER from the backslash -/
theorem invalid_character_document (opts : Opts) (hreg : opts.registry = none) {c0 : Bool} {pre : Bytes} {d : Nat} {dm : Bool}
    (cs : Bytes) (hctx : Desc (0x5C :: cs) c0 0 false pre d dm)
    (hnot : ¬ ∃ body rest cp, cs = body ++ rest ∧ CharTok body cp ∧ cp ≤ 0x10FFFF ∧ DelimStart rest) :
    ∃ ee, (read Cfg.core opts (pre ++ 0x5C :: cs)).out = .error .invalidCharacter (posOf (pre ++ 0x5C :: cs) pre.length) ee := by
  obtain ⟨e, h, h1, h2⟩ := site_bad_character opts d dm cs hnot
  have := first_defect_decides opts hreg hctx e _ h (Or.inr (by rw [h1]; decide)) (RejectDocClj.SiteErrX.not_fuelOut h) (by rw [h1]; rfl)
  rw [h1, h2] at this
  have e1 : cs.length + 1 = (0x5C :: cs).length := rfl
  exact ⟨_, by simpa only [Option.getD_some, e1, len_sub_cancel] using this⟩

/-- `[1 "ab` -/
example : (read Cfg.core {} [0x5B, 0x31, 0x20, 0x22, 0x61, 0x62]).out =
    .error .invalidString (posOf [0x5B, 0x31, 0x20, 0x22, 0x61, 0x62] 3) (posOf [0x5B, 0x31, 0x20, 0x22, 0x61, 0x62] 6) := by
  refine unterminated_string_document {} rfl [0x61, 0x62] (Ex.ctx_vec_1 _) ?_
  rintro ⟨sp, rest, e, -⟩
  have : (0x22 : UInt8) ∈ [0x61, 0x62] := by rw [e]; simp
  revert this; decide

/-- `[1 \` and the end of the input -/
example : ∃ ee, (read Cfg.core {} [0x5B, 0x31, 0x20, 0x5C]).out =
    .error .invalidCharacter (posOf [0x5B, 0x31, 0x20, 0x5C] 3) ee := by
  refine invalid_character_document {} rfl [] (Ex.ctx_vec_1 _) ?_
  rintro ⟨body, rest, cp, e, h, -, -⟩
  have := charTokX_nonempty ((charTok_iff_X body cp).mpr h) rest
  rw [← e] at this
  cases this

end Documents

/-- concrete documents: code, start offset and end offset of the reported error -/
def errIs (r : Result) (code : Err) (so eo : Nat) : Bool :=
  match r.out with
  | .error c es ee => c == code && es.offset == so && ee.offset == eo
  | _ => false

example : errIs (read Cfg.core {} "[1 2".toUTF8.toList) .unterminatedCollection 0 4 = true := by decide +kernel
example : errIs (read Cfg.core {} "[1 (2 3".toUTF8.toList) .unterminatedCollection 3 7 = true := by decide +kernel
example : errIs (read Cfg.core {} "[1 #foo #_".toUTF8.toList) .unterminatedCollection 0 10 = true := by decide +kernel
example : errIs (read Cfg.core {} "{:a}".toUTF8.toList) .invalidSyntax 0 3 = true := by decide +kernel
example : errIs (read Cfg.core {} "{:a 1 :b]".toUTF8.toList) .invalidSyntax 0 8 = true := by decide +kernel
example : errIs (read Cfg.core {} "[1 2)".toUTF8.toList) .unmatchedDelimiter 0 5 = true := by decide +kernel
example : errIs (read Cfg.core {} " ;c\n )".toUTF8.toList) .unmatchedDelimiter 5 5 = true := by decide +kernel
example : errIs (read Cfg.core {} "#_".toUTF8.toList) .unexpectedEof 2 2 = true := by decide +kernel
example : errIs (read Cfg.core { eofValue := true } "#_".toUTF8.toList) .unexpectedEof 2 2 = true := by decide +kernel
example : errIs (read Cfg.core {} "[#_]".toUTF8.toList) .invalidDiscard 1 3 = true := by decide +kernel
example : errIs (read Cfg.core {} "[#foo]".toUTF8.toList) .invalidSyntax 1 5 = true := by decide +kernel
example : errIs (read Cfg.core {} "1x".toUTF8.toList) .invalidNumber 0 1 = true := by decide +kernel
example : errIs (read Cfg.core {} "[a::b]".toUTF8.toList) .invalidSyntax 1 1 = true := by decide +kernel
example : errIs (read Cfg.core {} "  ; c".toUTF8.toList) .unexpectedEof 5 5 = true := by decide +kernel
example : (match (read Cfg.core { eofValue := true } "  ; c".toUTF8.toList).out with | .eofValue => true | _ => false) = true := by decide +kernel
example : (match (read Cfg.core { eofValue := true } "#_ 1 ; c".toUTF8.toList).out with | .eofValue => true | _ => false) = true := by decide +kernel

/-! ## Every configuration: nothing outside the grammar is accepted

  `Edn.Spec.FormX cfg N S` is the grammar of all four combinations of the two feature flags (see
  `Edn.Properties.C03`); `numJOf cfg` / `strJOf cfg` (`Edn.Proofs.RejectDocX`) plug in the exact
  number / string judgements of the configuration - `CoreNum`, `CljNum` (with `_` separators under
  both flags), `ExpNum`; ordinary literals, and text blocks with the experimental flag - so no
  abstract hypothesis is left.  With both flags off this is `document_outside_grammar_rejected`. -/

section EveryConfiguration
open Edn.Spec Edn.Proofs.RejectDocX

/-- **An ill-formed document is rejected in every configuration** (no reader registry): an input no
    prefix of which is a form of the configuration's grammar within the nesting limit yields an
    error with a code other than OK, or - only when the caller supplied an end-of-input value - that
    value.  Never a tree. -/
theorem ill_formed_document_is_rejected_in_every_configuration (cfg : Cfg) (opts : Opts) (hreg : opts.registry = none)
    (input : Bytes)
    (hnot : ¬ ∃ k a tok rest, k ≤ Edn.Generated.Tables.maxNestingDepth ∧ input = tok ++ rest ∧
      FormX cfg (numJOf cfg) (strJOf cfg) k a tok rest) :
    (∃ code es ee, (read cfg opts input).out = .error code es ee ∧ code ≠ .ok) ∨
    ((read cfg opts input).out = .eofValue ∧ opts.eofValue = true) :=
  not_in_grammarX_rejected cfg opts hreg input hnot

/-- … so it is never read as a value … -/
theorem ill_formed_document_is_never_a_value (cfg : Cfg) (opts : Opts) (hreg : opts.registry = none) (input : Bytes)
    (hnot : ¬ ∃ k a tok rest, k ≤ Edn.Generated.Tables.maxNestingDepth ∧ input = tok ++ rest ∧
      FormX cfg (numJOf cfg) (strJOf cfg) k a tok rest) :
    ∀ v, (read cfg opts input).out ≠ .value v := by
  intro v h
  obtain ⟨k, tok, rest, hk, h1, h2⟩ := accepted_is_grammarX_prefix cfg opts hreg input v h
  exact hnot ⟨k, _, tok, rest, hk, h1, h2⟩

/-- … and, the other way round, **whatever is accepted is a prefix in the grammar**: a returned tree
    means the input starts with a form of the configuration's grammar, within the nesting limit,
    that denotes the tree's content (metadata included) -/
theorem accepted_document_is_in_the_grammar (cfg : Cfg) (opts : Opts) (hreg : opts.registry = none) (input : Bytes) (v : Val)
    (h : (read cfg opts input).out = .value v) :
    ∃ k tok rest, k ≤ Edn.Generated.Tables.maxNestingDepth ∧ input = tok ++ rest ∧
      FormX cfg (numJOf cfg) (strJOf cfg) k (stripM v) tok rest :=
  accepted_is_grammarX_prefix cfg opts hreg input v h

/-- the judgements are the ones of `Edn.Properties.C03`, per configuration (definitionally) -/
example : numJOf Cfg.core = coreNumJ ∧ strJOf Cfg.core = rawStrJ := ⟨rfl, rfl⟩
example : numJOf ⟨true, false⟩ = cljNumJ ⟨true, false⟩ ∧ strJOf ⟨true, false⟩ = rawStrJ := ⟨rfl, rfl⟩
example : numJOf ⟨false, true⟩ = expNumJ ∧ strJOf ⟨false, true⟩ = expStrJ := ⟨rfl, rfl⟩
example : numJOf ⟨true, true⟩ = cljNumJ ⟨true, true⟩ ∧ strJOf ⟨true, true⟩ = expStrJ := ⟨rfl, rfl⟩

/-- non-vacuity of the hypothesis: `^` alone has no prefix in the grammar of the Clojure flag (by
    completeness: the reader rejects it) -/
example : ¬ ∃ k a tok rest, k ≤ Edn.Generated.Tables.maxNestingDepth ∧ "^".toUTF8.toList = tok ++ rest ∧
    FormX ⟨true, false⟩ (numJOf ⟨true, false⟩) (strJOf ⟨true, false⟩) k a tok rest :=
  no_prefix_of_not_value _ _ (by decide +kernel)

end EveryConfiguration

/-- the outcome of a read in the four configurations core, Clojure flag, experimental flag, both:
    `none` for a value (or the end-of-input outcome), `some code` for an error -/
def rejections (input : Bytes) : List (Option Err) :=
  [Cfg.core, ⟨true, false⟩, ⟨false, true⟩, ⟨true, true⟩].map fun cfg =>
    match (read cfg {} input).out with
    | .error c _ _ => some c
    | _ => none

/-- `^` alone: a metadata marker with nothing behind it where the Clojure flag is set (elsewhere `^`
    is an identifier byte and this is the symbol `^`) -/
example : rejections "^".toUTF8.toList = [none, some .unexpectedEof, none, some .unexpectedEof] := by decide +kernel
/-- `#:a{:x 1 :a/x 2}`: two spellings of one key with the Clojure flag; a keyword is no tag without it -/
example : rejections "#:a{:x 1 :a/x 2}".toUTF8.toList =
    [some .invalidSyntax, some .duplicateKey, some .invalidSyntax, some .duplicateKey] := by decide +kernel
/-- `1/0`: no number in any configuration (no ratios without the Clojure flag, no zero denominator with it) -/
example : rejections "1/0".toUTF8.toList =
    [some .invalidNumber, some .invalidNumber, some .invalidNumber, some .invalidNumber] := by decide +kernel
/-- `"""⏎abc`: an unclosed text block with the experimental flag (without it the empty string `""`
    is the first form, and `edn_read` reads one form) … -/
example : rejections "\"\"\"\nabc".toUTF8.toList = [none, none, some .invalidString, some .invalidString] := by decide +kernel
/-- … inside a vector it is an unterminated string everywhere -/
example : rejections "[\"\"\"\nabc]".toUTF8.toList =
    [some .invalidString, some .invalidString, some .invalidString, some .invalidString] := by decide +kernel

end Edn.Properties.C10
