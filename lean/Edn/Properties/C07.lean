/-
  Property C07 — equality is an equivalence consistent with hashing and free of history
  effects.  `Eqv` (Edn.Spec.Eqv) is the structural equality the property describes;
  `equal` / `hashOp` / `equalF` are the model of src/equality.c including the cached-hash
  cell and the short circuit that reads it.  Well-formedness `WF` (no two equal elements in
  a set, no two equal keys in a map) is what the reader establishes (C08).
-/
import Edn.Proofs.Equal

namespace Edn.Properties.C07
open Edn.Model Edn.Spec Edn.Proofs

/-- reflexive: a value is equal to itself / to an independently read copy (equality never
    looks at positions, caches or metadata, see `Edn.Properties.C19.metadata_is_transparent` and `equality_ignores_history`) -/
theorem reflexive (cfg : Cfg) (a : Val) (ha : WF cfg a) : Eqv cfg a a :=
  eqvF_refl cfg (depth a + 1) a ⟨Nat.lt_succ_self _, ha⟩

theorem symmetric (cfg : Cfg) (a b : Val) (ha : WF cfg a) (hb : WF cfg b) :
    Eqv cfg a b → Eqv cfg b a := Eqv_symm cfg a b ha hb

theorem transitive (cfg : Cfg) (a b c : Val) (ha : WF cfg a) (hb : WF cfg b) (hc : WF cfg c) :
    Eqv cfg a b → Eqv cfg b c → Eqv cfg a c := Eqv_trans cfg a b c ha hb hc

/-- equal values always hash equal -/
theorem equal_values_hash_equal (cfg : Cfg) (a b : Val) (ha : WF cfg a) (hb : WF cfg b) :
    Eqv cfg a b → hashV cfg a = hashV cfg b := Eqv_hash cfg a b ha hb

/-- History independence: whatever cache cells earlier hash / duplicate-check / lookup calls
    have filled (any state in which every non-empty cell holds that value's hash), the
    library's equality answers exactly `Eqv`, for all values within the nesting depth the
    reader can produce. -/
theorem equality_ignores_history (cfg : Cfg) (a b : Val)
    (hda : depth a < maxDepthFuel) (hdb : depth b < maxDepthFuel)
    (ha : WF cfg a) (hb : WF cfg b) (hca : cacheOK cfg a = true) (hcb : cacheOK cfg b = true) :
    equal cfg a b = true ↔ Eqv cfg a b := equal_iff_Eqv cfg a b hda hdb ha hb hca hcb

/-- `edn_value_hash` (the only operation that writes a cache cell) keeps every cell valid
    and changes nothing that equality, depth or hashing can see -/
theorem hashing_preserves_cache_validity (cfg : Cfg) (v : Val) (h : cacheOK cfg v = true) :
    cacheOK cfg (hashOp cfg v).2 = true ∧ depth (hashOp cfg v).2 = depth v ∧
    (WF cfg v → WF cfg (hashOp cfg v).2) ∧
    (∀ f b, eqvF cfg f (hashOp cfg v).2 b = eqvF cfg f v b) ∧
    (∀ f b, eqvF cfg f b (hashOp cfg v).2 = eqvF cfg f b v) ∧
    hashV cfg (hashOp cfg v).2 = hashV cfg v :=
  have ⟨hh, hd, e1, e2⟩ := Sees.transparent cfg (hashOp_sees cfg v)
  ⟨cacheOK_hashOp cfg v h, hd, (WF_hashOp cfg cfg v).mpr, e1, e2, hh⟩

/-- sequences compare element-wise across list and vector; NaN equals NaN; both zeros are
    equal; numbers compare only within their own type (concrete instances, by evaluation) -/
example : Eqv Cfg.core (.list (mkHdr 9 1) none [.int (mkHdr 8 7) 1, .int (mkHdr 6 5) 2])
    (.vec (mkHdr 5 0) none [.int (mkHdr 4 3) 1, .int (mkHdr 2 1) 2]) := by decide +kernel
example : Eqv Cfg.core (.float (mkHdr 1 0) 0x7FF8000000000000) (.float (mkHdr 1 0) 0xFFF8000000000001) := by decide +kernel
example : Eqv Cfg.core (.float (mkHdr 1 0) 0) (.float (mkHdr 1 0) 0x8000000000000000) := by decide +kernel
example : ¬ Eqv Cfg.core (.int (mkHdr 1 0) 1) (.float (mkHdr 1 0) 0x3FF0000000000000) := by decide +kernel
/-- the hash of the list/vector twins and of the two zeros coincide (the repaired defects) -/
example : hashV Cfg.core (.list (mkHdr 9 1) none [.int (mkHdr 8 7) 1]) = hashV Cfg.core (.vec (mkHdr 5 0) none [.int (mkHdr 4 3) 1]) := by decide +kernel

end Edn.Properties.C07
