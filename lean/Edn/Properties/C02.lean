/-
  Property C02 — reading always returns: bounded stack and time, no hang, for any input.

  Theorem part: termination of the reader for every input (the recursion fuel never runs
  out), recursion bounded by the nesting limit independently of the input, termination and
  correctness of the ratio gcd for every pair of int64 operands.  Real stack frames and real
  time are measured by the check (1 MiB stack, CPU limit) — that part is monitoring.
-/
import Edn.Proofs.Run
import Edn.Proofs.Number
import Edn.Proofs.AllocBound

namespace Edn.Properties.C02
open Edn.Model Edn.Proofs

/-- for every input, configuration and option set the reader returns a value, the
    end-of-input value or an error: the fuel `4 * length + 8` is never exhausted -/
theorem read_always_returns (cfg : Cfg) (opts : Opts) (input : Bytes) :
    (match (read cfg opts input).out with | .fuelOut => false | _ => true) = true :=
  read_terminates cfg opts input

/-- the amount of fuel is irrelevant once it is sufficient (so `read` computes the least
    fixed point of the reader equations, not an artefact of the fuel) -/
theorem fuel_irrelevant (ctx : Ctx) (f f' d : Nat) (dm : Bool) (st : St)
    (h : 2 * st.rest.length + 2 ≤ f) (h' : 2 * st.rest.length + 2 ≤ f') :
    readValue ctx f d dm st = readValue ctx f' d dm st :=
  readValue_fuel_irrelevant ctx f f' d dm st h h'

/-- every successfully read form consumes at least one byte and no call moves backwards:
    the number of reader steps is bounded by the input length at every nesting level -/
theorem progress (ctx : Ctx) (f d : Nat) (dm : Bool) (st : St) : Progress st (readValue ctx f d dm st) :=
  run_progress ctx f (.v d dm st)

/-- Bounded recursion: at the nesting limit (EDN_MAX_NESTING_DEPTH, read from the source) the
    reader does not descend: with any amount of fuel the answer equals the answer with two
    units, i.e. without entering a collection, tagged literal, discard or metadata form.
    Every such form increases the depth by exactly one, so the recursion depth - and with
    it the C stack - is bounded by the limit, whatever the input. -/
theorem no_descent_at_limit (ctx : Ctx) (f d : Nat) (dm : Bool) (st : St)
    (hd : Edn.Generated.Tables.maxNestingDepth ≤ d) :
    readValue ctx (f + 2) d dm st = readValue ctx 2 d dm st := by
  show run ctx (f + 2) (.v d dm st) = run ctx 2 (.v d dm st)
  rw [run_succ ctx (f + 1), run_succ ctx 1]
  apply step_deep ctx d dm st hd
  intro _ start
  rw [run_succ ctx f, run_succ ctx 0]
  rfl

/-- the ratio gcd terminates with the mathematical gcd for all int64 operands, the most
    negative one included (on which the loop of edn.c does not end before commit 072f409 of /repo) -/
theorem ratio_gcd_terminates (a b : Int) (ha : a.natAbs ≤ 9223372036854775808) (hb : b.natAbs ≤ 9223372036854775808) :
    ratioGcd a b = Nat.gcd a.natAbs b.natAbs := ratioGcd_eq a b ha hb

/-- equality's own depth budget reaches every value the reader can return (values nested up
    to the reader's limit still compare equal to their copies) -/
theorem limits_consistent :
    Edn.Generated.Tables.maxNestingDepth ≤ Edn.Generated.Tables.maxRecursionDepth := by decide

example : ratioGcd (-9223372036854775808) 2 = 2 := by decide +kernel

/-! ## Allocation requests of a fault-free read

Time cannot be exhibited by the model, but the number of logical allocation requests can: the
allocation-aware reader `readA` (Edn.Model.ReaderA) counts them in `ASt.reqs`, and the correspondence
stream `H` of C16 / C15 compares exactly that number (`reqs=`) between model and C code on every
corpus document. -/

/-- **Linearly many allocation requests.**  When no request fails, no tag registry is installed and
    every string literal of the input has escapes that decode (`stringsDecode`: a decidable test on
    the bytes — at every `"` from which the string scanner finds a closing quote and reports
    escapes, `decodeString` succeeds), reading makes at most `5 * length + length / 64 + 9` logical
    allocation requests: in every configuration, for every growth rule of the collection builders
    and every order in which `qsort` hands the elements to the comparator.

    Constants: 2 for `edn_arena_create`; 4 per byte consumed (value node, builder growth, key
    rewriting, map arrays, metadata map and entry, scratch array of the duplicate check, text-block
    line records — see Edn.Proofs.AllocBound); `length + 1` for the lazily materialised payloads the
    duplicate check / metadata merge ask for, each at most once (`ASt.bufs`); on the error path
    4 + `length / 64` for the temporary arena and the line index with its doubling offsets array.

    What this says about time: every request is one `edn_arena_alloc` / `malloc` / `calloc` /
    `realloc` call, so the allocator is entered linearly often and (block sizes being bounded by
    the input length) the memory obtained is polynomially bounded.  What it does NOT say: the work
    done between two requests is not counted — the pairwise duplicate check of small collections,
    `edn_value_equal` on nested collections and the metadata merge compare values without
    requesting anything, and that part of the running time (quadratic in the worst case) is
    covered by the measured half of C02 only.

    The hypothesis on the literals cannot be dropped: a literal whose escapes do not decode is
    accepted by the reader (decoding is lazy) and its decoded text is requested again at every look
    of `edn_value_equal` / `edn_value_hash`; `Edn.Proofs.AllocBound.superDoc` (nested small sets of
    such literals) makes 1537 requests with 269 bytes and 36789 with 1331 bytes — in the model and,
    checked with the harness command `H`, in the C code. -/
theorem fault_free_read_of_decodable_strings_makes_linearly_many_requests
    (cfg : Cfg) (opts : Opts) (orc : Nat → Bool) (input : Bytes)
    (grow : Nat → Nat) (handlerReq : String → Bool) (sortTouch : Nat → List Nat)
    (horc : ∀ n, orc n = false) (hreg : opts.registry = none)
    (hstr : Edn.Proofs.AllocBound.stringsDecode cfg input = true) :
    (readA cfg opts orc input grow handlerReq sortTouch).ast.reqs ≤ 5 * input.length + input.length / 64 + 9 :=
  Edn.Proofs.AllocBound.readA_reqs_linear cfg opts orc input grow handlerReq sortTouch horc hreg
    (Edn.Proofs.AllocBound.stringsDecode_ok cfg input hstr)

/-- the oracle that grants every request, default builders and `qsort` -/
theorem fault_free_read_makes_linearly_many_requests (cfg : Cfg) (opts : Opts) (input : Bytes)
    (hreg : opts.registry = none) (hstr : Edn.Proofs.AllocBound.stringsDecode cfg input = true) :
    (readA cfg opts (fun _ => false) input).ast.reqs ≤ 5 * input.length + input.length / 64 + 9 :=
  fault_free_read_of_decodable_strings_makes_linearly_many_requests cfg opts _ input _ _ _ (fun _ => rfl) hreg hstr

/-- a document without any backslash (no escape sequence, no character literal) needs no hypothesis
    on its literals -/
theorem fault_free_read_without_backslash_makes_linearly_many_requests (cfg : Cfg) (opts : Opts) (input : Bytes)
    (hreg : opts.registry = none) (hbs : ∀ c ∈ input, c ≠ 0x5C) :
    (readA cfg opts (fun _ => false) input).ast.reqs ≤ 5 * input.length + input.length / 64 + 9 :=
  AllocBound.readA_reqs_linear cfg opts _ input _ _ _ (fun _ => rfl) hreg (AllocBound.strOK_of_noBackslash cfg input hbs)

/-- inputs without a backslash satisfy the hypothesis trivially … -/
example : Edn.Proofs.AllocBound.stringsDecode Cfg.core "{:a [1 2.5 \"x\"] :b #{:c nil}}".toUTF8.toList = true := by
  decide +kernel
/-- … strings with escapes inside sets and maps, big numbers, metadata do, too:
    `^{"k\t" 1} #{"a\n" "b\u0041" 1_0N [#inst "x"]}` in the configuration with both flags -/
example : Edn.Proofs.AllocBound.stringsDecode ⟨true, true⟩
    "^{\"k\\t\" 1} #{\"a\\n\" \"b\\u0041\" 1_0N [#inst \"x\"]}".toUTF8.toList = true := by decide +kernel
example : ((readA ⟨true, true⟩ {} (fun _ => false)
    "^{\"k\\t\" 1} #{\"a\\n\" \"b\\u0041\" 1_0N [#inst \"x\"]}".toUTF8.toList).ast.reqs == 20) = true := by
  decide +kernel
/-- the counterexample to the bound without the hypothesis: 269 bytes, 1537 requests -/
example : ((readA Cfg.core {} (fun _ => false) (Edn.Proofs.AllocBound.superDoc 7)).ast.reqs == 1537) = true
    ∧ ((Edn.Proofs.AllocBound.superDoc 7).length == 269) = true ∧ 5 * 269 + 269 / 64 + 9 < 1537 :=
  ⟨Edn.Proofs.AllocBound.superDoc7_reqs, by decide +kernel, by decide⟩

/-- **Polynomially many allocation requests, unconditionally.**  When no request fails and no tag
    registry is installed, reading ANY input of `n` bytes makes at most
    `16 * n³ + 4 * n + n / 64 + 8` logical allocation requests, in every configuration (default
    builders, glibc's merge sort as `qsort`; `Edn.Proofs.AllocBoundQ.readA_reqs_cubic` is the
    statement for every growth rule and every `qsort` that first hands each element to the
    comparator at most once).

    This complements `fault_free_read_of_decodable_strings_makes_linearly_many_requests`: that bound
    is linear but needs every string literal to decode, because the decoded text of a literal whose
    escapes do not decode is never cached and is requested again at every look of
    `edn_value_equal` / `edn_value_hash` (`superDoc`).  Here every look is paid for instead: equality
    of two trees makes at most two requests per pair of nodes, hashing one per node, so the duplicate
    check of a collection with `S` nodes makes at most `1 + 4 * S²` requests and the metadata merge at
    most `5 + 2 * (nodes of the form) * (nodes of the new keys)`; a value read from `c` bytes has at
    most `2 * c` nodes; the byte that opens a form when `L + 1` bytes are left reserves
    `16 * (L + 1)²` requests for those looks, and `16 * (1² + … + n²) ≤ 16 * n³`.

    What it says about time is what the linear bound says (the allocator is entered polynomially
    often), now for every input.  The exponent is not tight: every byte lies in at most
    `maxNestingDepth` collections, so the true growth is quadratic (`superDoc k`: about `k⁴ / 2`
    requests for about `5 * k²` bytes); the proof does not track the depth and settles for the cube. -/
theorem fault_free_read_makes_polynomially_many_requests (cfg : Cfg) (opts : Opts) (input : Bytes)
    (hreg : opts.registry = none) :
    (readA cfg opts (fun _ => false) input).ast.reqs
      ≤ 16 * input.length ^ 3 + 4 * input.length + input.length / 64 + 8 :=
  Edn.Proofs.AllocBoundQ.readA_reqs_cubic' cfg opts input hreg

/-- the same in the shape `c₃ * (n + 1)³ + c₀` -/
theorem fault_free_read_makes_polynomially_many_requests' (cfg : Cfg) (opts : Opts) (input : Bytes)
    (hreg : opts.registry = none) :
    (readA cfg opts (fun _ => false) input).ast.reqs ≤ 16 * (input.length + 1) ^ 3 + 8 := by
  have h := Edn.Proofs.AllocBoundQ.readA_reqs_cubic' cfg opts input hreg
  have e : (input.length + 1) ^ 3 = input.length ^ 3 + 3 * input.length ^ 2 + 3 * input.length + 1 := by grind
  omega

/-- `superDoc 3` (57 bytes, 73 requests): the hypothesis of the linear bound fails on it, the
    unconditional bound applies (its only hypothesis, "no registry", holds of the default options) -/
example : Edn.Proofs.AllocBound.stringsDecode Cfg.core (Edn.Proofs.AllocBound.superDoc 3) = false
    ∧ ((Edn.Proofs.AllocBound.superDoc 3).length == 57) = true
    ∧ ((readA Cfg.core {} (fun _ => false) (Edn.Proofs.AllocBound.superDoc 3)).ast.reqs == 73) = true
    ∧ 73 ≤ 16 * 57 ^ 3 + 4 * 57 + 57 / 64 + 8 :=
  ⟨by decide +kernel, by decide +kernel, Edn.Proofs.AllocBound.superDoc3_reqs, by decide⟩
example : (readA Cfg.core {} (fun _ => false) (Edn.Proofs.AllocBound.superDoc 3)).ast.reqs
    ≤ 16 * (Edn.Proofs.AllocBound.superDoc 3).length ^ 3 + 4 * (Edn.Proofs.AllocBound.superDoc 3).length
      + (Edn.Proofs.AllocBound.superDoc 3).length / 64 + 8 :=
  fault_free_read_makes_polynomially_many_requests _ _ _ rfl

end Edn.Properties.C02
