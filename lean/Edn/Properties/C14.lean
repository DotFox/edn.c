/-
  Property C14 — tagged elements dispatch to handlers as configured; registries behave
  as maps.
-/
import Edn.Proofs.Registry
import Edn.Model.Reader
import Edn.Proofs.Dispatch
import Edn.Proofs.DispatchClj
import Edn.Proofs.DispatchCljAux6

namespace Edn.Properties.C14
open Edn.Model Edn.Proofs

/-- After any sequence of register / re-register / unregister calls the 16-bucket reader
    registry maps each tag to the most recently registered handler or to none. -/
theorem reader_registry_is_a_map (ops : List (RegOp Bytes)) (q : Bytes) :
    (ops.foldl Registry.step Registry.create).lookup q = (ops.foldl specStep (fun _ => none)) q :=
  (refines_foldl Registry.step Registry.lookup RegOK registry_step_spec ops _ _ create_ok create_lookup).2 q

/-- The same for the external-type table. -/
theorem external_table_is_a_map (ops : List (RegOp Nat)) (q : Nat) :
    (ops.foldl extStep []).lookup q = (ops.foldl specStep (fun _ => none)) q :=
  (ext_refines ops).2 q

/-- Dispatch, stated on the reader's own step for a tagged element whose tag `tag` is a
    symbol and whose inner value has been read as `v`:
    * no registry, or inside a discarded form: the generic tagged value, no handler call;
    * registered: the handler is called exactly once on the already-read inner value (one
      entry is appended to the call log after the inner value's own entries) and its result
      (or its failure) is the result;
    * unregistered: the selected default. -/
def dispatchResult (ctx : Ctx) (dm : Bool) (start : Nat) (tag : Bytes) (v : Val) (st : St) : Res :=
  let stop := st.rest.length
  let passthrough : Res := .ok (.tagged (mkHdr start stop) none tag v) st
  match ctx.opts.registry with
  | none => passthrough
  | some reg =>
    if dm then passthrough
    else match reg tag with
      | some h =>
        let st3 := { st with calls := st.calls ++ [⟨h.name, v.hdr.s, v.hdr.e⟩] }
        match h.run v with
        | none => .err (mkErr .invalidSyntax (some start) (some stop)) st3
        | some r => .ok (r.setHdr { r.hdr with s := start, e := stop }) st3
      | none =>
        if ctx.opts.mode == 1 then .ok v st
        else if ctx.opts.mode == 2 then .err (mkErr .unknownTag (some start) (some stop)) st
        else passthrough

theorem tagged_dispatch (ctx : Ctx) (f d : Nat) (dm : Bool) (start : Nat) (st st' st'' : St)
    (c : UInt8) (cs : Bytes) (hs : st.rest = c :: cs)
    (hc : (c == 0x20 || c == 0x09 || c == 0x0A || c == 0x0D || c == 0x2C) = false)
    (h h2 : Hdr) (md : Option Val) (ns : Option Bytes) (name : Bytes) (v : Val)
    (hid : readIdentifier ctx st = .ok (.sym h md ns name) st')
    (hv : readValue ctx f (d + 1) dm st' = .ok v st'') (_ : h2 = h) :
    readTagged ctx (f + 1) d dm start st = dispatchResult ctx dm start (slice st.rest st'.rest) v st'' :=
  -- `dispatchResult` is `tagOut`, the answer of the rule `tOk` of `readTagged`
  run_of_rule (.tOk hs hc hid hv)

/-- without a registry every tag yields the generic tagged value -/
theorem no_registry_passthrough (ctx : Ctx) (dm : Bool) (start : Nat) (tag : Bytes) (v : Val) (st : St)
    (h : ctx.opts.registry = none) :
    dispatchResult ctx dm start tag v st = .ok (.tagged (mkHdr start st.rest.length) none tag v) st :=
  tagOut_none h dm start tag v st

/-- handlers are never invoked inside a discarded form -/
theorem discard_suppresses_handlers (ctx : Ctx) (start : Nat) (tag : Bytes) (v : Val) (st : St) :
    ∃ r, dispatchResult ctx true start tag v st = .ok r st := by
  unfold dispatchResult
  cases ctx.opts.registry <;> simp

/-- Whole documents (configurations without the Clojure flag): if the input reads to the
    tree `v0` without a registry - every tagged element a generic tagged value - then reading it
    with a registry of well-behaved handlers and default mode `opts.mode` returns exactly what
    the declarative dispatch `Edn.Spec.dispatchV` computes from (the cache-free copy of) `v0`:
    handlers applied bottom-up in source order, each call logged once with the range of its
    operand, never inside discarded forms (those are absent from `v0`), unknown tags kept /
    unwrapped / rejected according to the mode; and when a handler fails, a tag is unknown in
    error mode, or results collide in a set or as map keys, the same error code with the same
    range and the calls made until then.  (`hn` is not used and `v'` is `v` itself:
    `Edn.Proofs.read_with_registry` is the statement for any registry.) -/
theorem reading_with_registry_is_dispatch (cfg : Cfg) (hc : cfg.clj = false) (opts : Opts) (reg : Bytes → Option Handler)
    (hn : NiceRegistry cfg reg) (input : Bytes) (v0 : Val)
    (h0 : (read cfg { opts with registry := none } input).out = .value v0) :
    match Edn.Spec.dispatchV cfg reg opts.mode (Edn.Spec.eraseCache v0) with
    | (calls, .ok v) =>
      ∃ v', (read cfg { opts with registry := some reg } input).out = .value v' ∧ SameUpToCache v' v ∧
        (read cfg { opts with registry := some reg } input).calls = calls
    | (calls, .error (code, s, e)) =>
      (∃ es ee, (read cfg { opts with registry := some reg } input).out = .error code es ee ∧
        es.offset = input.length - s ∧ ee.offset = input.length - e) ∧
      (read cfg { opts with registry := some reg } input).calls = calls := by
  have h := read_with_registry cfg hc opts reg input v0 h0
  rcases hd : Edn.Spec.dispatchV cfg reg opts.mode (Edn.Spec.eraseCache v0) with ⟨calls, ⟨code, s, e⟩ | v⟩
  · rw [hd] at h; exact h
  · rw [hd] at h; exact ⟨v, h.1, rfl, h.2⟩

/-- Whole documents, every configuration - the ones with the Clojure flag included, where
    metadata annotations, metadata targets and namespaced-map keys may contain tagged elements.

    If the input reads to `v0` without a registry, it has a syntax tree `t` (`Edn.Spec.Syn`:
    scalars, sequences, maps with their namespace prefix, tagged elements, `^annotation target`
    nodes, all with their source ranges; discarded forms are absent), the same for all options,
    such that
    * its registry-free reading `plainS cfg t` is `v0`, with no call;
    * under any options `o1` - any registry or none, any default mode - `read` returns exactly
      `dispatchS cfg o1.registry o1.mode t` (`ReadIs`): the same value, cache cells included,
      and the same call log; or the same error code with the same range and the calls made
      until then.
    `dispatchS` is the declarative dispatch: handlers applied bottom-up in source order
    (annotation before target, key before value), one call per handled tag logged with the
    range of the operand's result, the handler's result re-ranged to the tagged element and
    otherwise kept as it is (`#id ^:a [1]` keeps the metadata); an annotation's entries are
    merged, after the handlers of annotation and target have run, into the metadata the
    target's result carries (`^:b #id ^:a [1]` has both keys; entries of the result with a key
    equal to an annotation key are dropped); a target whose result cannot carry metadata is
    INVALID_SYNTAX over the whole form; the key of a namespaced map is qualified after its
    handler returned (`#:p{#id :a 1}` is `{:p/a 1}`; a handler result that is not a keyword or
    symbol stays as it is) and duplicate keys are detected on the qualified keys.

    No hypothesis on the handlers is needed (compare `NiceRegistry` above): the tree's leaves
    are the scalars as the reader returns them, so both sides hand the handlers the very same
    operands.  The statement cannot be made on `v0` itself as in
    `reading_with_registry_is_dispatch`: see `registry_free_tree_insufficient_clj`. -/
theorem reading_with_registry_is_dispatch_clj (cfg : Cfg) (opts : Opts) (input : Bytes) (v0 : Val)
    (h0 : (read cfg { opts with registry := none } input).out = .value v0) :
    ∃ t : Edn.Spec.Syn, Edn.Spec.plainS cfg t = ([], .ok v0) ∧
      ∀ o1 : Opts, Edn.Spec.ReadIs (read cfg o1 input) input.length
        (Edn.Spec.dispatchS cfg o1.registry o1.mode t) :=
  read_is_dispatchS cfg opts input v0 h0

/-- The general form: an input that reads to a value under some options `o0` - with a registry
    or without - has a syntax tree whose dispatch is what `read` returns under any options.
    (`^#id {:a 1} [2]` reads only with a registry: without one the annotation is a tagged
    element, which cannot be an annotation.) -/
theorem reading_is_determined_by_syntax_tree (cfg : Cfg) (o0 : Opts) (input : Bytes) (v0 : Val)
    (h0 : (read cfg o0 input).out = .value v0) :
    ∃ t : Edn.Spec.Syn, ∀ o1 : Opts, Edn.Spec.ReadIs (read cfg o1 input) input.length
      (Edn.Spec.dispatchS cfg o1.registry o1.mode t) :=
  (read_has_tree cfg o0 input v0 h0).imp fun _ h => h.2

example : (match (read ⟨true, false⟩ {} "^#id {:a 1} [2]".toUTF8.toList).out with
    | .error c _ _ => c == .invalidSyntax | _ => false) = true ∧
    (match (read ⟨true, false⟩ { registry := some CljCounterexample.reg } "^#id {:a 1} [2]".toUTF8.toList).out with
    | .value _ => true | _ => false) = true := by
  constructor <;> decide +kernel

/-- The same, spelled out for one registry `reg` (the shape of
    `reading_with_registry_is_dispatch`). -/
theorem reading_with_registry_is_dispatch_clj' (cfg : Cfg) (opts : Opts) (reg : Bytes → Option Handler)
    (input : Bytes) (v0 : Val)
    (h0 : (read cfg { opts with registry := none } input).out = .value v0) :
    ∃ t : Edn.Spec.Syn, Edn.Spec.plainS cfg t = ([], .ok v0) ∧
      match Edn.Spec.dispatchS cfg (some reg) opts.mode t with
      | (calls, .ok v) =>
        (read cfg { opts with registry := some reg } input).out = .value v ∧
          (read cfg { opts with registry := some reg } input).calls = calls
      | (calls, .error (code, s, e)) =>
        (∃ es ee, (read cfg { opts with registry := some reg } input).out = .error code es ee ∧
          es.offset = input.length - s ∧ ee.offset = input.length - e) ∧
        (read cfg { opts with registry := some reg } input).calls = calls := by
  obtain ⟨t, hp, ht⟩ := read_is_dispatchS cfg opts input v0 h0
  -- the statement is `ReadIs` written out
  exact ⟨t, hp, ht { opts with registry := some reg }⟩

/-- With the Clojure flag the registry-free tree does not determine what a read with a
    registry returns: `#:p{#id :a 1}` and `#:q{#id :a 1}` read to the same tree without a
    registry and to `{:p/a 1}` / `{:q/a 1}` with the identity handler for `id`, so no function
    of that tree - in particular not `dispatchV` of `reading_with_registry_is_dispatch` - is
    the registry run.  (`CljCounterexample`, in `Edn.Proofs.DispatchCljAux6`, has a second pair, for stacked metadata
    annotations: same registry-free tree, DUPLICATE_KEY against a value.) -/
theorem registry_free_tree_insufficient_clj :
    ¬ ∃ F : Val → Edn.Spec.DOne, ∀ (input : Bytes) (v0 : Val),
      (read ⟨true, false⟩ {} input).out = .value v0 →
      Edn.Spec.ReadIs (read ⟨true, false⟩ { registry := some CljCounterexample.reg } input) input.length (F v0) :=
  CljCounterexample.registry_free_tree_insufficient

/-- non-vacuity on `^:b #id ^:a [1]` (Clojure configuration, `id` the identity handler): the
    input reads without a registry; its syntax tree; the dispatch of the tree makes the one
    call on the range of `^:a [1]` and returns the vector, ranging over the whole input, with
    the metadata keys `:b` (outer annotation) and `:a` (kept by the handler's result); and that
    is the call log of the read -/
def exampleTree : Edn.Spec.Syn :=
  .ann 15 12 0 (.leaf (.kw (mkHdr 14 12) none [0x62]))
    (.tagged 11 0 [0x69, 0x64]
      (.ann 7 4 0 (.leaf (.kw (mkHdr 6 4) none [0x61])) (.seq 1 3 0 [.leaf (.int (mkHdr 2 1) 1)])))

example : (match (read ⟨true, false⟩ {} "^:b #id ^:a [1]".toUTF8.toList).out with
    | .value _ => true | _ => false) = true := by decide +kernel
example : (Edn.Spec.dispatchS ⟨true, false⟩ (some CljCounterexample.reg) 0 exampleTree).1 = [⟨"id", 7, 0⟩] := by
  decide +kernel
example : (match (Edn.Spec.dispatchS ⟨true, false⟩ (some CljCounterexample.reg) 0 exampleTree).2 with
    | .ok (.vec h (some (.map _ _ [.kw _ none kb, .kw _ none ka] _)) [_]) =>
      h.s == 15 && h.e == 0 && kb == [0x62] && ka == [0x61]
    | _ => false) = true := by decide +kernel
example : (read ⟨true, false⟩ { registry := some CljCounterexample.reg } "^:b #id ^:a [1]".toUTF8.toList).calls
    = [⟨"id", 7, 0⟩] := by decide +kernel
example : (match (Edn.Spec.plainS ⟨true, false⟩ exampleTree).2 with
    | .ok (.tagged h (some _) tag (.vec _ (some _) _)) => h.s == 15 && tag == [0x69, 0x64]
    | _ => false) = true := by decide +kernel

/-- the tree of `#:p{#id :a 1}`: the key is qualified after the identity handler returned it,
    and the call is logged with the range of `:a` -/
def exampleNsTree : Edn.Spec.Syn :=
  .map 13 0 (some [0x70]) [.tagged 9 3 [0x69, 0x64] (.leaf (.kw (mkHdr 5 3) none [0x61]))]
    [.leaf (.int (mkHdr 2 1) 1)]

example : (match Edn.Spec.dispatchS ⟨true, false⟩ (some CljCounterexample.reg) 0 exampleNsTree with
    | (calls, .ok (.map h none [.kw _ (some ns) nm] [.int _ 1])) =>
      calls == [⟨"id", 5, 3⟩] && h.s == 13 && h.e == 0 && ns == [0x70] && nm == [0x61]
    | _ => false) = true := by decide +kernel
example : (match (read ⟨true, false⟩ { registry := some CljCounterexample.reg } CljCounterexample.inpP).out with
    | .value (.map h none [.kw _ (some ns) nm] [.int _ 1]) => h.s == 13 && h.e == 0 && ns == [0x70] && nm == [0x61]
    | _ => false) = true ∧
    (read ⟨true, false⟩ { registry := some CljCounterexample.reg } CljCounterexample.inpP).calls = [⟨"id", 5, 3⟩] := by
  constructor <;> decide +kernel

end Edn.Properties.C14
