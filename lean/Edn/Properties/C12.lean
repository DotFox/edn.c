/-
  Property C12 — accelerated scanning equals byte-at-a-time scanning at every offset and
  length.

  The *block* forms (`skipWs`, `findQuote`, `scanDigits`, `scanIdent`, `lfPositions`) follow
  the x86-64 SSE code of src/simd.c, src/identifier.c, src/newline_finder.c; the *scalar*
  forms are plain structural recursions over the bytes.  The model receives exactly the
  `length` bytes of the input, so "the result never depends on the bytes that follow in
  memory" holds of the model by construction; the correspondence run varies those bytes on
  the real code.
-/
import Edn.Proofs.Run
import Edn.Proofs.ScanTb

namespace Edn.Properties.C12
open Edn.Model Edn.Proofs

/-- whitespace and comment skipping -/
theorem skip_whitespace (s : Bytes) : skipWs s = skipWsScalar s := skipWs_eq s

/-- closing-quote position and escape flag -/
theorem find_quote (s : Bytes) : findQuote s = findQuoteScalar false s := findQuote_eq s

/-- digit runs -/
theorem scan_digits (s : Bytes) : scanDigits s = s.dropWhile isDigit := scanDigitsSimd_eq _ _ (by omega)

/-- identifier end, first slash and `::` detection: the two paths of `scan_identifier`
    (at most 16 bytes remaining / more) agree with the byte-at-a-time scan -/
theorem scan_identifier (s : Bytes) : scanIdent s = scanIdentSpec s := scanIdent_eq_spec s

/-- line-feed index -/
theorem line_feeds (s : Bytes) : lfPositions s = lfPositionsScalar 0 s := lfPositions_eq s

/-- facts about the tables and lane predicates extracted from the current source: a lane
    accepted by the SSE whitespace test is whitespace for the scalar code (and is not `;`),
    the SSE digit test is the scalar digit test, the dispatcher's pre-filter is the scanner's
    class plus `;`, and whitespace terminates numbers and identifiers -/
theorem lane_tables :
    (∀ c, wsLane c = true → isWs c = true ∧ (c == 0x3B) = false) ∧
    (∀ c, digitLane c = isDigit c) ∧
    (∀ c, isPreWs c = (isWs c || c == 0x3B)) ∧
    (∀ c, (isWs c || c == 0x3B) = true → isNumTerm c = true ∧ isDelim c = true) := by
  refine ⟨fun c h => wsLane_isWs h, digitLane_isDigit, isPreWs_iff, ?_⟩
  intro c h
  have := ws_terminates c
  simp only [wsTerminates, h, Bool.not_true, Bool.false_or, Bool.and_eq_true] at this
  exact this

/-- prefixing a form with k blanks does not change what the reader returns (positions are
    kept relative to the end of the input, so absolute offsets shift by exactly k) -/
theorem blank_prefix (ctx : Ctx) (f d : Nat) (dm : Bool) (k : Nat) (s : Bytes) (cl : List Call) :
    readValue ctx (f + 1) d dm { rest := List.replicate k 0x20 ++ s, calls := cl }
      = readValue ctx (f + 1) d dm { rest := s, calls := cl } :=
  readValue_trivia_prefix ctx f d dm _ s cl (.blanks k)

/-- non-vacuity: a concrete input on which the block paths are actually taken
    (17 blanks, a comment, then a 20-digit run) -/
example : skipWs (List.replicate 17 0x20 ++ [0x3B, 0x61, 0x0A, 0x31]) = [0x31] := by decide +kernel
example : scanDigits (List.replicate 20 0x31 ++ [0x20]) = [0x20] := by decide +kernel

/-- text-block lines (experimental extension): the line reader with its two vector pre-scans —
    `tbSkipBlankBlocks` for the indentation and `tbSkipBlocks` = `simd_scan_line_content`
    (string.c, SSE variant: whole 16-byte blocks while at least 16 bytes remain, stop at the
    first block holding a line feed, a double quote or a backslash and return the position of
    that lane), run once per line before the scalar loop — returns exactly what the
    byte-at-a-time `tbLine` of the reader returns, for every input: every indentation, line
    length and position of the special bytes.  (Edn.Model.ScanTb, Edn.Proofs.ScanTb) -/
theorem text_block_line_scanner (s : Bytes) : tbLineSimd s = tbLine s := by
  unfold tbLineSimd tbLine
  obtain ⟨pre, hp, ha⟩ := tbSkipBlankBlocks_spec (s.length + 1) s
  have hbody : (tbSkipBlankBlocks (s.length + 1) s).dropWhile isBlank = s.dropWhile isBlank := by
    conv => rhs; rw [hp]
    exact (dropWhile_append_all pre _ ha).symm
  simp only [hbody, tbContentSimd_eq, take_length_sub_dropWhile]
  cases tbContent ((s.dropWhile isBlank).length + 1) [] false (s.dropWhile isBlank) <;> rfl

/-- the pre-scan alone: it skips only bytes that are no line feed, quote or backslash, and with
    the reader's fuel it stops only where the C loop does -/
theorem text_block_block_scan (s : Bytes) :
    (∃ pre, s = pre ++ tbSkipBlocks (s.length + 1) s ∧
      ∀ c ∈ pre, c ≠ 0x0A ∧ c ≠ 0x22 ∧ c ≠ 0x5C) ∧
    ((tbSkipBlocks (s.length + 1) s).length < 16 ∨
      ∃ d t, tbSkipBlocks (s.length + 1) s = d :: t ∧ (d = 0x0A ∨ d = 0x22 ∨ d = 0x5C)) := by
  refine ⟨?_, ?_⟩
  · obtain ⟨pre, hp, ha⟩ := tbSkipBlocks_spec (s.length + 1) s
    refine ⟨pre, hp, fun c hc => tbLane_false ?_⟩
    simpa using List.all_eq_true.mp ha c hc
  · rcases tbSkipBlocks_stop (s.length + 1) s (Nat.lt_succ_self _) with h | ⟨d, t, h, hd⟩
    · exact .inl h
    · refine .inr ⟨d, t, h, ?_⟩
      rw [tbLane_spec] at hd
      simpa [or_assoc] using hd

/-- the input of the non-vacuity examples below: a line of two blanks, 37 content bytes and its
    line feed, then the first byte of the next line (41 bytes); the `\"""` escape starts in lane 15
    of the second block of the content and straddles the block boundary.  On it the pre-scan skips
    one clean block and stops on the backslash (31 bytes into the content), and both readers
    return the same line with `needsEsc` set. -/
def tbSample : Bytes :=
  [0x20, 0x20] ++ List.replicate 16 0x61 ++ List.replicate 15 0x62 ++
    [0x5C, 0x22, 0x22, 0x22, 0x63, 0x64, 0x0A, 0x7A]

example : tbSkipBlocks 39 (tbSample.drop 2) = tbSample.drop 33 ∧
    (tbSample.drop 33).head? = some 0x5C := by decide +kernel
example : tbLineSimd tbSample =
    some ({ indent := [0x20, 0x20],
            content := List.replicate 16 0x61 ++ List.replicate 15 0x62 ++
              [0x5C, 0x22, 0x22, 0x22, 0x63, 0x64],
            hasNewline := true, needsEsc := true, terminal := false }, [0x7A]) := by decide +kernel
example : tbLineSimd tbSample = tbLine tbSample := by decide +kernel
/-- both block loops taken: 17 blanks of indentation, 20 plain bytes, the closing delimiter -/
example : tbLineSimd (List.replicate 17 0x20 ++ List.replicate 20 0x61 ++ [0x22, 0x22, 0x22, 0x7A]) =
    some ({ indent := List.replicate 17 0x20, content := List.replicate 20 0x61,
            hasNewline := false, needsEsc := false, terminal := true }, [0x7A]) := by decide +kernel

end Edn.Properties.C12
