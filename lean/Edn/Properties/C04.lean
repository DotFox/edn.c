/-
  Property C04 — integer, big-number and ratio literals denote exactly their mathematical
  value.  Theorem part: the converters (`parse_eight_digits_unrolled`,
  `parse_int64_from_buffer` for every digit string, radix and sign, `ratio_gcd`).
-/
import Edn.Proofs.Number
import Edn.Proofs.NumberReader
import Edn.Proofs.CljNumberSound
import Edn.Proofs.ExpNumberSound

namespace Edn.Properties.C04
open Edn.Model Edn.Proofs

/-- the SWAR test accepts exactly the blocks of eight ASCII digits … -/
theorem swar_test (b : Bytes) (h : b.length = 8) : eightDigitsFast (load64le b) = b.all is09 :=
  eightDigitsFast_eq b h

/-- … and the multiply-shift cascade yields their decimal value (all 10^8 blocks at once) -/
theorem swar_value (b : Bytes) (h : b.length = 8) (hd : b.all is09 = true) :
    (parseEightDigits (load64le b)).toNat = digitsVal b := parseEightDigits_eq b h hd

/-- For every digit string of every length, every radix 2..36 and either sign (with
    underscores between digits when the experimental flag is on): the 64-bit reading
    succeeds exactly when the mathematical value lies in the signed 64-bit range, and then it
    is that value; otherwise the caller keeps the literal as a big integer. -/
theorem int64_exact (cfg : Cfg) (radix : Nat) (hr : 2 ≤ radix ∧ radix ≤ 36) (ds : Bytes) (neg : Bool)
    (hvalid : ∀ c ∈ ds, (digitValue c radix).isSome = true ∨ (cfg.exp = true ∧ c = 0x5F))
    (hne : ∃ c ∈ ds, (digitValue c radix).isSome = true) :
    parseInt64 cfg ds radix neg = inRange neg (digitsValR radix (ds.filter (· != 0x5F))) :=
  CNum.parseInt64_uRun cfg radix ⟨Nat.le_of_succ_le hr.1, hr.2⟩ ds neg hvalid

/-- the ratio reduction divides by the true greatest common divisor, for all int64 operands
    including the most negative one -/
theorem ratio_gcd_exact (a b : Int) (ha : a.natAbs ≤ 9223372036854775808) (hb : b.natAbs ≤ 9223372036854775808) :
    ratioGcd a b = Nat.gcd a.natAbs b.natAbs := ratioGcd_eq a b ha hb

/-! ### reader level: `edn_read_number` on each class of token (decimal integers: C03) -/

/-- big decimals keep their text: an integer or float token followed by `M` -/
theorem reads_bigdec (cfg : Cfg) (sg body rest : Bytes) (neg : Bool) (hs : Edn.Spec.SignTok sg neg)
    (hb : Edn.Spec.DecDigits body ∨ Edn.Spec.FloatTok body) (hnosign : ∀ c, body.head? = some c → c ≠ 0x2B ∧ c ≠ 0x2D)
    (ht : Edn.Spec.TermStart rest) :
    readNumber cfg (sg ++ body ++ [0x4D] ++ rest) = .ok (.bigdec neg body) rest :=
  readNumber_bigdec cfg sg body rest neg hs hb hnosign ht

/-- Clojure flag: hexadecimal - the value of the hex digits if it fits int64 (`int64_exact`),
    else a big integer of radix 16 keeping the digits -/
theorem reads_hex (cfg : Cfg) (hc : cfg.clj = true) (sg hs rest : Bytes) (x : UInt8) (neg : Bool) (hs' : Edn.Spec.SignTok sg neg)
    (hx : x = 0x78 ∨ x = 0x58) (hne : hs ≠ []) (hh : Edn.Spec.AllHex hs) (ht : Edn.Spec.TermStart rest) :
    readNumber cfg (sg ++ [0x30, x] ++ hs ++ rest) = .ok (intOrBig cfg hs 16 neg) rest := open Edn.Spec Edn.Proofs.CNum in by
  have hrun : DigRun cfg.exp (isRadixDigit 16) hs := digRun_of_all hne hh
  rw [show sg ++ [0x30, x] = sg ++ [0x30] ++ [x] by simp]
  exact read_suffix_none cfg (by omega) hrun (read_hex cfg hc sg [0x30] hs x neg .none rest hs' ⟨by simp, by simp⟩ hx hrun ht)

/-- Clojure flag: leading zero + octal digits -/
theorem reads_octal (cfg : Cfg) (hc : cfg.clj = true) (sg zs os rest : Bytes) (neg : Bool) (hs : Edn.Spec.SignTok sg neg)
    (hz : ∀ c ∈ zs, c = 0x30) (hne : os ≠ []) (ho : Edn.Spec.AllRadix 8 os) (hfirst : os.head? ≠ some 0x30) (ht : Edn.Spec.TermStart rest) :
    readNumber cfg (sg ++ 0x30 :: zs ++ os ++ rest) = .ok (intOrBig cfg (0x30 :: zs ++ os) 8 neg) rest := open Edn.Spec Edn.Proofs.CNum in by
  have hrun : DigRun cfg.exp (isRadixDigit 8) os := digRun_of_all hne ho
  have hzr : ZeroRun (0x30 :: zs) := ⟨by simp, fun c hc => (List.mem_cons.mp hc).elim id (hz c)⟩
  have hpre : ∀ c ∈ 0x30 :: zs, isRadixDigit 8 c = true := fun c hc => by rw [hzr.2 c hc]; exact (octal_iff _).2 (by decide)
  exact read_suffix_none cfg (by omega) (digRun_append hpre hrun)
    (read_octal cfg hc sg (0x30 :: zs) os neg .none rest hs hzr hrun hfirst ht)

/-- Clojure flag: `NrDDD`, radix 2..36 -/
theorem reads_radix (cfg : Cfg) (hc : cfg.clj = true) (sg rp ds rest : Bytes) (r : UInt8) (neg : Bool) (hs : Edn.Spec.SignTok sg neg)
    (hrp : rp ≠ [] ∧ Edn.Spec.AllDigits rp) (hrv : 2 ≤ Edn.Spec.natOfDigits rp ∧ Edn.Spec.natOfDigits rp ≤ 36) (hr : r = 0x72 ∨ r = 0x52)
    (hne : ds ≠ []) (hd : Edn.Spec.AllRadix (Edn.Spec.natOfDigits rp) ds) (ht : Edn.Spec.TermStart rest) :
    readNumber cfg (sg ++ rp ++ [r] ++ ds ++ rest) = .ok (intOrBig cfg ds (Edn.Spec.natOfDigits rp) neg) rest := open Edn.Spec Edn.Proofs.CNum in by
  have hrun : DigRun cfg.exp (isRadixDigit (natOfDigits rp)) ds := digRun_of_all hne hd
  have hu : NoTrailU ds := noTrailU_of_not_mem fun hm => (radix_props hrv.2 (hd _ hm)).2.2.1 rfl
  exact read_suffix_none cfg hrv hrun (read_radix cfg hc sg rp ds r neg .none rest hs hrp hrv hr hrun hu (Or.inl rfl) ht)

/-- Clojure flag: ratios are reduced to lowest terms, become an integer when the denominator
    divides the numerator, and a big ratio only when an operand does not fit 64 bits
    (`Edn.Spec.ratioValue`).  `hzero`: a zero numerator reads as the integer 0 whatever the size
    of the denominator, which `ratioValue` states only for denominators that fit. -/
theorem reads_ratio (cfg : Cfg) (hc : cfg.clj = true) (sg nd dd rest : Bytes) (neg : Bool) (hs : Edn.Spec.SignTok sg neg)
    (hn : Edn.Spec.DecDigits nd) (hd : dd ≠ [] ∧ Edn.Spec.AllDigits dd ∧ dd.head? ≠ some 0x30) (ht : Edn.Spec.TermStart rest)
    (hzero : nd = [0x30] → Edn.Spec.natOfDigits dd ≤ 9223372036854775807) :
    readNumber cfg (sg ++ nd ++ [0x2F] ++ dd ++ rest) = .ok (Edn.Spec.ratioValue cfg neg nd dd) rest :=
  readNumber_ratio cfg hc sg nd dd rest neg hs hn hd ht hzero

/-- Exactness for the core configuration: started where the dispatcher sends a number (a digit, or
    a sign followed by a digit), the number reader returns a payload and a continuation point
    **iff** the bytes consumed are a number token of core EDN (`Edn.Spec.CoreNum`: decimal integer
    in/out of the 64-bit range, `N`, float, `M`) denoting that payload and the continuation is the
    end of the input or a terminator.  Nothing else is accepted, nothing is read differently. -/
theorem core_number_reader_is_the_grammar (s rest : Bytes) (v : NumVal)
    (hstart : ∃ c t, s = c :: t ∧ (is09 c = true ∨ ((c = 0x2B ∨ c = 0x2D) ∧ ∃ nx t', t = nx :: t' ∧ is09 nx = true))) :
    readNumber Cfg.core s = .ok v rest ↔
      ∃ tok, s = tok ++ rest ∧ Edn.Spec.CoreNum Cfg.core tok v ∧ Edn.Spec.TermStart rest :=
  readNumber_core_iff s rest v hstart

/-- Exactness with the Clojure flag (either setting of the experimental flag): the number reader
    returns a payload and a continuation **iff** the bytes consumed are a token of `Edn.Spec.CljNum`
    (decimal, `N`, float, `M`, ratio, `0/n`, hexadecimal, octal, `NrDDD`; with the experimental flag
    `_` separators inside digit runs) denoting that payload, followed by a terminator - or, for a
    ratio that denotes an integer, by any delimiter byte (`Edn.Spec.CljNumEnd`: the early returns of
    the ratio branch do not re-validate the terminator, so `4/2\a` reads as 2 and `\a`). -/
theorem clj_number_reader_is_the_grammar (cfg : Cfg) (hc : cfg.clj = true) (s rest : Bytes) (v : NumVal)
    (hstart : ∃ c t, s = c :: t ∧ (is09 c = true ∨ ((c = 0x2B ∨ c = 0x2D) ∧ ∃ nx t', t = nx :: t' ∧ is09 nx = true))) :
    readNumber cfg s = .ok v rest ↔
      ∃ tok, s = tok ++ rest ∧ Edn.Spec.CljNum cfg tok v ∧ Edn.Spec.CljNumEnd tok v rest :=
  readNumber_clj_iff cfg hc s rest v hstart

/-- the Clojure-flag grammar contains the core grammar with the same payloads … -/
theorem clj_grammar_extends_core (cfg : Cfg) (tok : Bytes) (v : NumVal) (h : Edn.Spec.CoreNum cfg tok v) :
    Edn.Spec.CljNum cfg tok v :=
  cljNum_of_coreNum cfg tok v h

/-- … and without the experimental flag no accepted number token contains a `_` -/
theorem no_separator_without_experimental_flag (cfg : Cfg) (he : cfg.exp = false) (tok : Bytes) (v : NumVal)
    (h : Edn.Spec.CljNum cfg tok v) : (0x5F : UInt8) ∉ tok :=
  cljNum_no_separator cfg he tok v h

/-- non-vacuity: `-12 ` is the integer -12, read up to the space -/
example : readNumber Cfg.core "-12 ".toUTF8.toList = .ok (.int (-12)) " ".toUTF8.toList := by decide +kernel

example : parseInt64 Cfg.core "9223372036854775807".toUTF8.toList 10 false = some 9223372036854775807 := by decide +kernel
example : parseInt64 Cfg.core "9223372036854775808".toUTF8.toList 10 false = none := by decide +kernel
example : parseInt64 Cfg.core "9223372036854775808".toUTF8.toList 10 true = some (-9223372036854775808) := by decide +kernel

/-! ### experimental flag only (`Edn.Spec.expCfg = ⟨clj := false, exp := true⟩`): `_` separators -/

/-- Exactness with the experimental flag only: started where the dispatcher sends a number, the
    number reader returns a payload and a continuation point **iff** the bytes consumed are a token
    of `Edn.Spec.ExpNum` (decimal integer in/out of the 64-bit range, `N`, float, `M` - the core forms
    with `_` separators inside the digit runs: after the first digit of the integer part but never
    after a lone `0` nor at its end, anywhere in the fraction but at its start, anywhere in the
    exponent digits but at their start, never directly in front of `.`, `e`, `N`, `M`) denoting that
    payload, and the continuation is the end of the input or a terminator.  No hexadecimal, octal,
    radix or ratio form, no run of leading zeros.  Integers denote their value with the separators
    ignored (`1_000` is 1000); big integers / big decimals keep their text *with* the separators;
    floats denote `parse_double_from_buffer` of the whole token. -/
theorem exp_number_reader_is_the_grammar (s rest : Bytes) (v : NumVal)
    (hstart : ∃ c t, s = c :: t ∧ (is09 c = true ∨ ((c = 0x2B ∨ c = 0x2D) ∧ ∃ nx t', t = nx :: t' ∧ is09 nx = true))) :
    readNumber Edn.Spec.expCfg s = .ok v rest ↔
      ∃ tok, s = tok ++ rest ∧ Edn.Spec.ExpNum tok v ∧ Edn.Spec.TermStart rest :=
  readNumber_exp_iff s rest v hstart

/-- the experimental-only grammar contains the core grammar with the same payloads (whichever
    configuration `cfg` the float payloads of the core token are computed under) … -/
theorem exp_grammar_extends_core (cfg : Cfg) (tok : Bytes) (v : NumVal) (h : Edn.Spec.CoreNum cfg tok v) :
    Edn.Spec.ExpNum tok v :=
  expNum_of_coreNum cfg tok v h

/-- … it adds nothing on byte strings without `_` … -/
theorem exp_grammar_is_core_without_separators (tok : Bytes) (v : NumVal) (hn : (0x5F : UInt8) ∉ tok) :
    Edn.Spec.ExpNum tok v ↔ Edn.Spec.CoreNum Cfg.core tok v :=
  expNum_iff_coreNum_of_noSep tok v hn

/-- … and it is contained in the grammar of the configuration with both flags, with the same
    payloads -/
theorem exp_grammar_within_clj_exp (tok : Bytes) (v : NumVal) (h : Edn.Spec.ExpNum tok v) :
    Edn.Spec.CljNum ⟨true, true⟩ tok v :=
  cljNum_of_expNum tok v h

/-- The separators do not change what a token denotes: the token with its separators removed
    (`Edn.Spec.unsep`) is a token of core EDN, and the payload of the underscored token is the payload
    of that core token up to the separators in the texts it keeps (`Edn.Spec.unsepVal`).  Exact for
    integers in the 64-bit range (the same `int`: `separators_exact_int`) and for floats (the same
    double: `separators_exact_float`); a big integer / big decimal payload has the same sign and
    radix, and its text - which keeps the separators - is the core payload's text once they are
    removed. -/
theorem separators_do_not_change_the_value (tok : Bytes) (v : NumVal) (h : Edn.Spec.ExpNum tok v) :
    Edn.Spec.CoreNum Cfg.core (Edn.Spec.unsep tok) (Edn.Spec.unsepVal v) :=
  expNum_unsep tok v h

theorem separators_exact_int (tok : Bytes) (i : Int) (h : Edn.Spec.ExpNum tok (.int i)) :
    Edn.Spec.CoreNum Cfg.core (Edn.Spec.unsep tok) (.int i) :=
  expNum_unsep tok _ h

theorem separators_exact_float (tok : Bytes) (b : UInt64) (h : Edn.Spec.ExpNum tok (.float b)) :
    Edn.Spec.CoreNum Cfg.core (Edn.Spec.unsep tok) (.float b) :=
  expNum_unsep tok _ h

/-- the same at reader level: what is accepted with the experimental flag only is accepted by the
    core reader once the separators are removed from the consumed bytes, with the same payload up to
    the separators -/
theorem separators_reader_level (s rest : Bytes) (v : NumVal)
    (hstart : ∃ c t, s = c :: t ∧ (is09 c = true ∨ ((c = 0x2B ∨ c = 0x2D) ∧ ∃ nx t', t = nx :: t' ∧ is09 nx = true)))
    (h : readNumber Edn.Spec.expCfg s = .ok v rest) :
    ∃ tok, s = tok ++ rest ∧
      readNumber Cfg.core (Edn.Spec.unsep tok ++ rest) = .ok (Edn.Spec.unsepVal v) rest := open Edn.Spec in by
  obtain ⟨tok, rfl, hn, ht⟩ := readNumber_exp_sound s rest v hstart h
  exact ⟨tok, rfl, readNumber_coreNum Cfg.core (unsep tok) rest (unsepVal v) (expNum_unsep tok v hn) ht⟩

/-- non-vacuity: the hypothesis `hstart` holds on `1_000 `, which reads as 1000 up to the space -/
example : ∃ c t, "1_000 ".toUTF8.toList = c :: t ∧
    (is09 c = true ∨ ((c = 0x2B ∨ c = 0x2D) ∧ ∃ nx t', t = nx :: t' ∧ is09 nx = true)) :=
  ⟨0x31, "_000 ".toUTF8.toList, by decide +kernel, Or.inl (by decide)⟩
example : readNumber Edn.Spec.expCfg "1_000 ".toUTF8.toList = .ok (.int 1000) " ".toUTF8.toList := by decide +kernel
example : readNumber Cfg.core "1_000 ".toUTF8.toList = .err "_000 ".toUTF8.toList := by decide +kernel
/-- accepted: consecutive separators; rejected: a trailing separator, a separator after a lone `0`,
    in front of `.` or `N`, at the start of the fraction or of the exponent digits -/
example : readNumber Edn.Spec.expCfg "1__0".toUTF8.toList = .ok (.int 10) [] := by decide +kernel
example : readNumber Edn.Spec.expCfg "1_".toUTF8.toList = .err [] := by decide +kernel
example : readNumber Edn.Spec.expCfg "0_1".toUTF8.toList = .err "_1".toUTF8.toList := by decide +kernel
example : readNumber Edn.Spec.expCfg "1_.5".toUTF8.toList = .err ".5".toUTF8.toList := by decide +kernel
example : readNumber Edn.Spec.expCfg "1._5".toUTF8.toList = .err "_5".toUTF8.toList := by decide +kernel
example : readNumber Edn.Spec.expCfg "1e_5".toUTF8.toList = .err "_5".toUTF8.toList := by decide +kernel
example : readNumber Edn.Spec.expCfg "1_N".toUTF8.toList = .err "N".toUTF8.toList := by decide +kernel
/-- big payloads keep the separators; removing them gives the core payload -/
example : readNumber Edn.Spec.expCfg "1_0N".toUTF8.toList = .ok (.bigint false 10 "1_0".toUTF8.toList) [] := by
  decide +kernel
example : Edn.Spec.unsepVal (.bigint false 10 "1_0".toUTF8.toList) = .bigint false 10 "10".toUTF8.toList := by
  decide +kernel
/-- a float with separators is the double of the text without them -/
example : readNumber Edn.Spec.expCfg "1_0.2_5e1_0".toUTF8.toList = readNumber Cfg.core "10.25e10".toUTF8.toList := by
  decide +kernel

end Edn.Properties.C04
