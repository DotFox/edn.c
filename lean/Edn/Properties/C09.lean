/-
  Property C09 — lookup and membership agree with iteration and with the convenience
  helpers.
-/
import Edn.Proofs.Equal

namespace Edn.Properties.C09
open Edn.Model Edn.Spec Edn.Proofs

/-- looking up any value equal to key `i` of a map the reader can return yields the value
    stored at index `i`, whatever the state of the caches -/
theorem lookup_finds_index (cfg : Cfg) (h : Hdr) (md : Option Val) (ks vs : List Val) (probe : Val) (i : Nat)
    (hm : WF cfg (.map h md ks vs)) (hd : depth (.map h md ks vs) < maxDepthFuel)
    (hc : cacheOK cfg (.map h md ks vs) = true)
    (hp : WF cfg probe) (hpd : depth probe < maxDepthFuel) (hpc : cacheOK cfg probe = true)
    (hi : i < ks.length) (heq : Eqv cfg ks[i] probe) :
    mapLookup cfg (.map h md ks vs) probe = vs[i]? :=
  mapLookup_go_index cfg probe (Elems.single hpd hp hpc) ks vs i (WF_map hm).2.1 (WF_map hm).1
    (map_keys_Elems cfg h md ks vs hm hd hc) hi heq

/-- a value equal to no key is not found -/
theorem lookup_absent (cfg : Cfg) (h : Hdr) (md : Option Val) (ks vs : List Val) (probe : Val)
    (hm : WF cfg (.map h md ks vs)) (hd : depth (.map h md ks vs) < maxDepthFuel)
    (hc : cacheOK cfg (.map h md ks vs) = true)
    (hp : WF cfg probe) (hpd : depth probe < maxDepthFuel) (hpc : cacheOK cfg probe = true)
    (hne : ∀ k ∈ ks, ¬ Eqv cfg k probe) :
    mapLookup cfg (.map h md ks vs) probe = none :=
  mapLookup_go_absent cfg probe (Elems.single hpd hp hpc) ks vs (WF_map hm).2.1 (map_keys_Elems cfg h md ks vs hm hd hc) hne

/-- set membership -/
theorem contains_iff (cfg : Cfg) (h : Hdr) (md : Option Val) (xs : List Val) (probe : Val)
    (hm : WF cfg (.set h md xs)) (hd : depth (.set h md xs) < maxDepthFuel)
    (hc : cacheOK cfg (.set h md xs) = true)
    (hp : WF cfg probe) (hpd : depth probe < maxDepthFuel) (hpc : cacheOK cfg probe = true) :
    setContains cfg (.set h md xs) probe = true ↔ ∃ x ∈ xs, Eqv cfg x probe := by
  show (xs.any fun e => equal cfg e probe) = true ↔ _
  rw [List.any_eq_true]
  exact exists_congr fun x => and_congr_right fun hx =>
    (Elems.children hd hm hc).equal_iff (Elems.single hpd hp hpc) hx (List.mem_singleton_self probe)

/-- The convenience helpers build a temporary key on the stack (no cache, no arena) and call
    the general lookup; the temporary keys are legal probes: -/
theorem temp_keys_are_legal_probes (cfg : Cfg) (ns : Option Bytes) (name text : Bytes) :
    WF cfg (tempKeyword ns name) ∧ depth (tempKeyword ns name) < maxDepthFuel ∧
    cacheOK cfg (tempKeyword ns name) = true ∧
    WF cfg (tempString text) ∧ depth (tempString text) < maxDepthFuel ∧
    cacheOK cfg (tempString text) = true := by
  refine ⟨?_, ?_, ?_, ?_, ?_, ?_⟩
  · simp [tempKeyword, WF]
  · simp [tempKeyword, depth, maxDepthFuel]
  · simp [tempKeyword, cacheOK, Val.hdr]; left; rfl
  · simp [tempString, WF]
  · simp [tempString, depth, maxDepthFuel]
  · simp [tempString, cacheOK, Val.hdr]; left; rfl

/-- a string key written with escapes is equal to the helper's temporary key holding the
    decoded bytes (the repaired defect: equality compares the bytes denoted) -/
example : Eqv Cfg.core (.str (mkHdr 9 3) [0x61, 0x5C, 0x6E, 0x62] true) (tempString [0x61, 0x0A, 0x62]) := by
  decide +kernel

end Edn.Properties.C09
