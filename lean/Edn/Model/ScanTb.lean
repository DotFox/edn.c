/-
  Edn.Model.ScanTb — the vectorised scans inside `edn_parse_text_block_line` (src/string.c,
  experimental extension), in block form, following the x86-64 SSE code:

  * `tbSkipBlocks`      = `simd_scan_line_content` (string.c, SSE variant): 16-byte loads while
    `ptr + 16 <= end`; lanes compared with `'\n'`, `'"'`, `'\\'` (`_mm_cmpeq_epi8`), or-ed,
    movemask; `mask != 0` → `return ptr + ctz(mask)`, i.e. the position of the FIRST SPECIAL
    LANE (not the block start); otherwise `ptr += 16`.  When fewer than 16 bytes remain the
    function returns `ptr` unchanged (no scalar tail of its own).
  * `tbSkipBlankBlocks` = the 16-byte indentation loop at the top of
    `edn_parse_text_block_line` (lanes compared with `' '` and `'\t'`): `mask == 0xFFFF` →
    `p += 16`, `mask == 0` → stop, otherwise `p += ctz(~mask & 0xFFFF)` and stop.
  * `tbContentSimd` / `tbLineSimd` = the line reader built from them.

  Where the pre-scan is called.  The C code reads

      while (p < end) {
          p = simd_scan_line_content(p, end);
          while (p < end) { ... continue | return | p++ ... }
      }

  The inner loop is left only by `return` or with `p >= end` (its `continue` continues the
  inner loop), and then the outer condition is false as well: the pre-scan runs exactly ONCE
  per line, right after the indentation, and never again after a special byte.  The state the
  scalar loop takes over is `p` (the returned pointer), `content_start` (unchanged: the bytes
  skipped by the pre-scan belong to the content) and `needs_escaping == false`.

  `Edn.Properties.C12.text_block_line_scanner` proves `tbLineSimd s = tbLine s` for every `s`, from the
  lemmas of `Edn.Proofs.ScanTb`.
-/
import Edn.Model.Str
import Edn.Model.Scan

namespace Edn.Model

/-- lane test of `simd_scan_line_content`:
    `_mm_or_si128(_mm_or_si128(is_newline, is_quote), is_backslash)` -/
def tbLane (c : UInt8) : Bool := (c == 0x0A || c == 0x22) || c == 0x5C

/-- `simd_scan_line_content`, x86-64 branch: the suffix at which the scalar loop continues -/
def tbSkipBlocks : Nat → Bytes → Bytes
  | 0, s => s
  | f + 1, s =>
    match block16 s with
    | some blk =>
      match blk.findIdx? tbLane with
      | some i => s.drop i                    -- `return ptr + CTZ(mask)`
      | none => tbSkipBlocks f (s.drop 16)    -- `ptr += 16`
    | none => s                               -- `return ptr`

/-- the 16-byte indentation loop of `edn_parse_text_block_line`, x86-64 branch
    (lane test `_mm_or_si128(is_space, is_tab)` = `isBlank`) -/
def tbSkipBlankBlocks : Nat → Bytes → Bytes
  | 0, s => s
  | f + 1, s =>
    match block16 s with
    | some blk =>
      if blk.all isBlank then tbSkipBlankBlocks f (s.drop 16)      -- `mask == 0xFFFF`
      else
        -- `mask == 0` → `break` (first lane is not blank, index 0);
        -- otherwise `p += CTZ(~mask & 0xFFFF); break`
        match blk.findIdx? (fun c => !isBlank c) with
        | some i => s.drop i
        | none => s
    | none => s

/-- content part of `edn_parse_text_block_line` on the bytes after the indentation: one block
    pre-scan, then the scalar loop `tbContent` from where it stopped, with the skipped bytes
    already part of the content and `needs_escaping = false`.  (For an empty `body` the C code
    does not enter the outer loop; here both scans are no-ops and the result is `none` too.) -/
def tbContentSimd (body : Bytes) : Option (Bytes × Bool × Bool × Bytes) :=
  let rest := tbSkipBlocks (body.length + 1) body
  let skipped := body.take (body.length - rest.length)      -- `content_start .. p`
  tbContent (rest.length + 1) skipped.reverse false rest

/-- `edn_parse_text_block_line` with its two vector pre-scans -/
def tbLineSimd (s : Bytes) : Option (TbLine × Bytes) :=
  let p1 := tbSkipBlankBlocks (s.length + 1) s
  let body := p1.dropWhile isBlank                          -- scalar tail of the indentation
  let indent := s.take (s.length - body.length)             -- `line_start .. content_start`
  match tbContentSimd body with
  | none => none
  | some (content, esc, terminal, rest) =>
    some ({ indent := indent, content := content, hasNewline := !terminal, needsEsc := esc,
            terminal := terminal }, rest)

end Edn.Model
