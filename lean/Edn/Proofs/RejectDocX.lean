/-
  "Not in the grammar ⇒ never a value" in every configuration (C10), against
  `Edn.Spec.FormX cfg (numJOf cfg) (strJOf cfg)`, where `numJOf` (in `NumberExact`) / `strJOf` (in `StrExact`) pick the fully
  instantiated number / string judgements of each configuration, so that no abstract exactness
  hypothesis is left.  The four instances are definitional (`numJOf_core` … `strJOf_clj_exp`, all by
  `rfl`), so the statements specialise to the grammars named in `Edn.Properties.C03`.
-/
import Edn.Proofs.Run
import Edn.Proofs.Sound
import Edn.Proofs.NumberExact
import Edn.Proofs.StrExact

namespace Edn.Proofs.RejectDocX
open Edn.Model Edn.Spec Edn.Generated Edn.Proofs

/-- `edn_read` (no registry) returns a tree with content `a` **iff** the input starts with a form
    of the configuration's grammar that denotes `a` within the nesting limit -/
theorem read_iff_grammarX (cfg : Cfg) (opts : Opts) (hreg : opts.registry = none) (input : Bytes) (a : Val) :
    (∃ v, (read cfg opts input).out = .value v ∧ stripM v = a) ↔
    ∃ k tok rest, k ≤ Tables.maxNestingDepth ∧ input = tok ++ rest ∧
      FormX cfg (numJOf cfg) (strJOf cfg) k a tok rest :=
  read_iff_X cfg opts hreg _ _ (numExact_of cfg) (strExact_of cfg) input a

/-- if `edn_read` returns a tree, the input starts with a form of the configuration's grammar
    (within the nesting limit) denoting the tree's content, metadata included -/
theorem accepted_is_grammarX_prefix (cfg : Cfg) (opts : Opts) (hreg : opts.registry = none) (input : Bytes) (v : Val)
    (h : (read cfg opts input).out = .value v) :
    ∃ k tok rest, k ≤ Tables.maxNestingDepth ∧ input = tok ++ rest ∧
      FormX cfg (numJOf cfg) (strJOf cfg) k (stripM v) tok rest :=
  (read_iff_grammarX cfg opts hreg input (stripM v)).1 ⟨v, h, rfl⟩

theorem eofValue_only_if_supplied (cfg : Cfg) (opts : Opts) (input : Bytes)
    (h : (read cfg opts input).out = .eofValue) : opts.eofValue = true := by
  have hx := read_value_xor_error cfg opts input
  rw [h] at hx
  exact hx

/-- **not in the grammar ⇒ rejected, in every configuration**: an input no prefix of which is a
    form of `FormX cfg …` within the nesting limit yields an error with a code other than OK, or -
    only when the caller supplied an end-of-input value - that value.  Never a tree. -/
theorem not_in_grammarX_rejected (cfg : Cfg) (opts : Opts) (hreg : opts.registry = none) (input : Bytes)
    (hnot : ¬ ∃ k a tok rest, k ≤ Tables.maxNestingDepth ∧ input = tok ++ rest ∧
      FormX cfg (numJOf cfg) (strJOf cfg) k a tok rest) :
    (∃ code es ee, (read cfg opts input).out = .error code es ee ∧ code ≠ .ok) ∨
    ((read cfg opts input).out = .eofValue ∧ opts.eofValue = true) := by
  have hx := read_value_xor_error cfg opts input
  cases ho : (read cfg opts input).out with
  | value v =>
    obtain ⟨k, tok, rest, hk, h1, h2⟩ := accepted_is_grammarX_prefix cfg opts hreg input v ho
    exact absurd ⟨k, _, tok, rest, hk, h1, h2⟩ hnot
  | eofValue =>
    rw [ho] at hx
    exact .inr ⟨rfl, hx⟩
  | error code es ee =>
    rw [ho] at hx
    exact .inl ⟨code, es, ee, rfl, hx⟩
  | fuelOut => rw [ho] at hx; exact hx.elim

theorem not_in_grammarX_error (cfg : Cfg) (opts : Opts) (hreg : opts.registry = none) (hev : opts.eofValue = false)
    (input : Bytes)
    (hnot : ¬ ∃ k a tok rest, k ≤ Tables.maxNestingDepth ∧ input = tok ++ rest ∧
      FormX cfg (numJOf cfg) (strJOf cfg) k a tok rest) :
    ∃ code es ee, (read cfg opts input).out = .error code es ee ∧ code ≠ .ok := by
  rcases not_in_grammarX_rejected cfg opts hreg input hnot with h | ⟨-, h⟩
  · exact h
  · rw [hev] at h; cases h

/-! By completeness (`read_iff_grammarX`, right to left) an input the reader does not accept has no
  prefix in the grammar; the reader's verdict on a concrete input is computed by `decide +kernel`. -/

theorem no_prefix_of_not_value (cfg : Cfg) (input : Bytes)
    (hb : (match (read cfg {} input).out with | .value _ => false | _ => true) = true) :
    ¬ ∃ k a tok rest, k ≤ Tables.maxNestingDepth ∧ input = tok ++ rest ∧
      FormX cfg (numJOf cfg) (strJOf cfg) k a tok rest := by
  rintro ⟨k, a, tok, rest, hk, e, h⟩
  obtain ⟨v, hv, -⟩ := (read_iff_grammarX cfg {} rfl input a).2 ⟨k, tok, rest, hk, e, h⟩
  rw [hv] at hb
  cases hb

/-- `^` alone is outside the grammar with the Clojure flag (a metadata marker with nothing behind it) … -/
example : ¬ ∃ k a tok rest, k ≤ Tables.maxNestingDepth ∧ "^".toUTF8.toList = tok ++ rest ∧
    FormX ⟨true, false⟩ (numJOf ⟨true, false⟩) (strJOf ⟨true, false⟩) k a tok rest :=
  no_prefix_of_not_value _ _ (by decide +kernel)

/-- … and inside it without (there `^` is an identifier byte: the symbol `^`) -/
example : ∃ k a tok rest, k ≤ Tables.maxNestingDepth ∧ "^".toUTF8.toList = tok ++ rest ∧
    FormX Cfg.core (numJOf Cfg.core) (strJOf Cfg.core) k a tok rest := by
  have hb : (match (read Cfg.core {} "^".toUTF8.toList).out with | .value _ => true | _ => false) = true := by
    decide +kernel
  cases ho : (read Cfg.core {} "^".toUTF8.toList).out with
  | value v =>
    obtain ⟨k, tok, rest, h⟩ := accepted_is_grammarX_prefix Cfg.core {} rfl _ v ho
    exact ⟨k, _, tok, rest, h⟩
  | eofValue => rw [ho] at hb; cases hb
  | error c s e => rw [ho] at hb; cases hb
  | fuelOut => rw [ho] at hb; cases hb

/-- `#:a{:x 1 :a/x 2}` (two spellings of one key) is outside the grammar with both flags -/
example : ¬ ∃ k a tok rest, k ≤ Tables.maxNestingDepth ∧ "#:a{:x 1 :a/x 2}".toUTF8.toList = tok ++ rest ∧
    FormX ⟨true, true⟩ (numJOf ⟨true, true⟩) (strJOf ⟨true, true⟩) k a tok rest :=
  no_prefix_of_not_value _ _ (by decide +kernel)

example : ∀ cfg ∈ [Cfg.core, ⟨true, false⟩, ⟨false, true⟩, ⟨true, true⟩],
    ¬ ∃ k a tok rest, k ≤ Tables.maxNestingDepth ∧ "1/0".toUTF8.toList = tok ++ rest ∧
      FormX cfg (numJOf cfg) (strJOf cfg) k a tok rest := by
  intro cfg hc
  apply no_prefix_of_not_value
  revert cfg
  decide +kernel

example : ¬ ∃ k a tok rest, k ≤ Tables.maxNestingDepth ∧ "\"\"\"\nabc".toUTF8.toList = tok ++ rest ∧
    FormX ⟨false, true⟩ (numJOf ⟨false, true⟩) (strJOf ⟨false, true⟩) k a tok rest :=
  no_prefix_of_not_value _ _ (by decide +kernel)

example : (∃ code es ee, (read ⟨true, false⟩ { eofValue := true } "^".toUTF8.toList).out = .error code es ee ∧ code ≠ .ok) ∨
    ((read ⟨true, false⟩ { eofValue := true } "^".toUTF8.toList).out = .eofValue ∧ ({ eofValue := true } : Opts).eofValue = true) :=
  not_in_grammarX_rejected _ _ rfl _ (no_prefix_of_not_value _ _ (by decide +kernel))

end Edn.Proofs.RejectDocX
