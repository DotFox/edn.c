/-
  What a step of the reader can do, as first-order data.  `StepRel ctx R c r`: the step of call `c` over the
  oracle `R` answers `r`; one rule per branch, the oracle's answers as premises.  The rules are complete
  (`step_rel`, `step_cases`) and each is an equation (`StepRel.eq`): a fact about one run is a `cases` on
  the rule, a fact about two runs is, for every rule of the first run, the rule of the second.
  The dispatcher is split into a decision, `route cfg d c cs` (flags, depth and bytes only), and an action,
  `exec`, which alone sees the options, the call log and the oracle; `route_bytes` inverts the decision.
-/
import Edn.Proofs.DispatchTable
import Edn.Proofs.ReaderSteps

namespace Edn.Proofs
open Edn.Model
open Edn.Generated

inductive Leaf | string | character | symbolic | number | identifier

def Leaf.read (ctx : Ctx) (st : St) : Leaf → Res
  | .string => readString ctx st
  | .character => readCharacter ctx st
  | .symbolic => readSymbolic ctx st
  | .number => readNumberRes ctx st
  | .identifier => readIdentifier ctx st

inductive Route
  | leaf (k : Leaf) | deep | stray | closer
  | seq (kind : Nat) (s : Bytes) | map | nsmap | tagged | metadata | skip (s : Bytes)

def route (cfg : Cfg) (d : Nat) (c : UInt8) (cs : Bytes) : Route :=
  let tooDeep : Bool := d ≥ Tables.maxNestingDepth
  match dispatch cfg c with
  | .string => .leaf .string
  | .character => .leaf .character
  | .listOpen => if tooDeep then .deep else .seq 0 cs
  | .vectorOpen => if tooDeep then .deep else .seq 1 cs
  | .mapOpen => if tooDeep then .deep else .map
  | .hash =>
    match cs with
    | nx :: cs' =>
      if nx == 0x23 then .leaf .symbolic
      else if tooDeep then .deep
      else if nx == 0x7B then .seq 2 cs'
      else if nx == 0x5F then .skip cs'
      else if cfg.clj && nx == 0x3A then .nsmap
      else .tagged
    | [] => .tagged
  | .sign =>
    match cs with
    | nx :: _ => if is09 nx then .leaf .number else .leaf .identifier
    | [] => .leaf .identifier
  | .digit => .leaf .number
  | .delimiter => if d == 0 then .stray else .closer
  | .metadata => if tooDeep then .deep else .metadata
  | .identifier => .leaf .identifier

def exec (ctx : Ctx) (R : Call6 → Res) (d : Nat) (dm : Bool) (calls : List Call) (c : UInt8) (cs : Bytes) : Route → Res
  | .leaf k => k.read ctx { rest := c :: cs, calls := calls }
  | .deep => .err (mkErr .invalidSyntax (some (c :: cs).length) (some ((c :: cs).length - 1))) { rest := c :: cs, calls := calls }
  | .stray => .err (mkErr .unmatchedDelimiter) { rest := c :: cs, calls := calls }
  | .closer => .closer { rest := c :: cs, calls := calls }
  | .seq kind s => R (.s d dm kind (c :: cs).length { rest := s, calls := calls } [])
  | .map => R (.m d dm (c :: cs).length none { rest := cs, calls := calls } [] [])
  | .nsmap => R (.n d dm (c :: cs).length { rest := cs, calls := calls })
  | .tagged => R (.t d dm (c :: cs).length { rest := cs, calls := calls })
  | .metadata => R (.me d dm (c :: cs).length { rest := cs, calls := calls })
  | .skip s =>
    match R (.v (d + 1) true { rest := s, calls := calls }) with
    | .ok _ st' => R (.v d dm st')
    | .closer st' => .err (mkErr .invalidDiscard (some (c :: cs).length) (some ((c :: cs).length - 2))) st'
    | .err e st' => .err e st'

theorem stepD_route (ctx : Ctx) (R : Call6 → Res) (d : Nat) (dm : Bool) (calls : List Call) (c : UInt8) (cs : Bytes) :
    stepD ctx R d dm calls c cs = exec ctx R d dm calls c cs (route ctx.cfg d c cs) := by
  unfold stepD route
  simp only []
  cases dispatch ctx.cfg c with
  | hash =>
    cases cs with
    | nil => rfl
    | cons nx cs' => simp only [apply_ite (exec ctx R d dm calls c (nx :: cs'))]; rfl
  | sign =>
    cases cs with
    | nil => rfl
    | cons nx t => simp only [apply_ite (exec ctx R d dm calls c (nx :: t))]; rfl
  | string | character | digit | identifier => rfl
  | listOpen | vectorOpen | mapOpen | delimiter | metadata =>
    simp only [apply_ite (exec ctx R d dm calls c cs)]; rfl

def RouteBytes (cfg : Cfg) (d : Nat) (c : UInt8) (cs : Bytes) : Route → Prop
  | .leaf .string => c = 0x22
  | .leaf .character => c = 0x5C
  | .leaf .symbolic => c = 0x23 ∧ ∃ p, cs = 0x23 :: p
  | .leaf .number => is09 c = true ∨ ((c = 0x2B ∨ c = 0x2D) ∧ ∃ nx t', cs = nx :: t' ∧ is09 nx = true)
  | .leaf .identifier => (is09 c = false ∧ ((c = 0x2B ∨ c = 0x2D) → ∀ nx t', cs = nx :: t' → is09 nx = false)) ∧
      dispatch cfg c ≠ .metadata
  | .deep => Tables.maxNestingDepth ≤ d
  | .stray => d = 0 ∧ (c = 0x29 ∨ c = 0x5D ∨ c = 0x7D)
  | .closer => 0 < d ∧ (c = 0x29 ∨ c = 0x5D ∨ c = 0x7D)
  | .seq kind s => d < Tables.maxNestingDepth ∧
      ((kind = 0 ∧ c = 0x28 ∧ cs = s) ∨ (kind = 1 ∧ c = 0x5B ∧ cs = s) ∨ (kind = 2 ∧ c = 0x23 ∧ cs = 0x7B :: s))
  | .map => d < Tables.maxNestingDepth ∧ c = 0x7B
  | .nsmap => d < Tables.maxNestingDepth ∧ cfg.clj = true ∧ c = 0x23 ∧ ∃ t, cs = 0x3A :: t
  | .tagged => c = 0x23 ∧ (d < Tables.maxNestingDepth ∨ cs = []) ∧ cs.head? ≠ some 0x5F
  | .metadata => d < Tables.maxNestingDepth ∧ cfg.clj = true ∧ c = 0x5E
  | .skip s => d < Tables.maxNestingDepth ∧ c = 0x23 ∧ cs = 0x5F :: s

/-- the inversion of `route`, one row of the dispatch table (`dispatch_row`) per class -/
theorem route_bytes {cfg : Cfg} {d : Nat} {c : UInt8} {cs : Bytes} {rt : Route} (h : route cfg d c cs = rt) :
    RouteBytes cfg d c cs rt := by
  subst h
  unfold route
  simp only []
  have hlim : ¬ decide (d ≥ Tables.maxNestingDepth) = true → d < Tables.maxNestingDepth := fun h =>
    Nat.lt_of_not_le (fun hle => h (decide_eq_true hle))
  have deep : decide (d ≥ Tables.maxNestingDepth) = true → RouteBytes cfg d c cs .deep := of_decide_eq_true
  have row := dispatch_row cfg c
  cases hd : dispatch cfg c with
  | string => rw [hd] at row; exact row
  | character => rw [hd] at row; exact row
  | listOpen => rw [hd] at row; exact ite_ind deep fun h => ⟨hlim h, .inl ⟨rfl, row, rfl⟩⟩
  | vectorOpen => rw [hd] at row; exact ite_ind deep fun h => ⟨hlim h, .inr (.inl ⟨rfl, row, rfl⟩)⟩
  | mapOpen => rw [hd] at row; exact ite_ind deep fun h => ⟨hlim h, row⟩
  | hash =>
    rw [hd] at row
    have hc : c = 0x23 := row
    cases cs with
    | nil => exact ⟨hc, .inr rfl, nofun⟩
    | cons nx cs' =>
      exact ite_ind (fun h1 => ⟨hc, cs', by rw [eq_of_beq h1]⟩) fun _ =>
        ite_ind deep fun h =>
        ite_ind (fun h2 => ⟨hlim h, .inr (.inr ⟨rfl, hc, by rw [eq_of_beq h2]⟩)⟩) fun _ =>
        ite_ind (fun h3 => ⟨hlim h, hc, by rw [eq_of_beq h3]⟩) fun h3 =>
        ite_ind (fun h4 => ⟨hlim h, (Bool.and_eq_true_iff.mp h4).1, hc, cs',
            by rw [eq_of_beq (Bool.and_eq_true_iff.mp h4).2]⟩) fun _ =>
          ⟨hc, .inl (hlim h), fun e => h3 (by simpa using e)⟩
  | sign =>
    rw [hd] at row
    have hsg : c = 0x2B ∨ c = 0x2D := row
    have hnd : is09 c = false := by rcases hsg with rfl | rfl <;> decide
    have hnm : dispatch cfg c ≠ .metadata := by rw [hd]; decide
    cases cs with
    | nil => exact ⟨⟨hnd, fun _ _ _ e => nomatch e⟩, hnm⟩
    | cons nx t =>
      exact ite_ind (fun hnx => .inr ⟨hsg, nx, t, rfl, hnx⟩) fun hnx =>
        ⟨⟨hnd, fun _ nx' t' e => by cases e; simpa using hnx⟩, hnm⟩
  | digit => rw [hd] at row; exact .inl row
  | delimiter =>
    rw [hd] at row
    exact ite_ind (P := RouteBytes cfg d c cs) (fun h0 => ⟨by simpa using h0, row⟩)
      fun h0 => ⟨Nat.pos_of_ne_zero (by simpa using h0), row⟩
  | metadata =>
    rw [hd] at row
    exact ite_ind deep fun h => ⟨hlim h, row⟩
  | identifier =>
    rw [hd] at row
    exact ⟨⟨row.2.2, fun hsg => hsg.elim (absurd · row.1) (absurd · row.2.1)⟩, by rw [hd]; decide⟩

theorem RouteBytes.leafCall {cfg : Cfg} {d : Nat} {c : UInt8} {cs : Bytes} {k : Leaf} (h : RouteBytes cfg d c cs (.leaf k))
    (ctx : Ctx) (calls : List Call) :
    LeafCall ctx { rest := c :: cs, calls := calls } (k.read ctx { rest := c :: cs, calls := calls }) := by
  cases k with
  | string => exact .string
  | character => exact .character
  | symbolic => exact .symbolic
  | number => exact .number rfl (h.imp id fun ⟨hs, hn⟩ => ⟨by rcases hs with rfl | rfl <;> rfl, hn⟩)
  | identifier => exact .identifier

theorem RouteBytes.seq_le {cfg : Cfg} {d : Nat} {c : UInt8} {cs : Bytes} {kind : Nat} {s : Bytes}
    (h : RouteBytes cfg d c cs (.seq kind s)) : s <:+ cs := by
  rcases h.2 with ⟨-, -, rfl⟩ | ⟨-, -, rfl⟩ | ⟨-, -, rfl⟩
  · exact List.suffix_refl _
  · exact List.suffix_refl _
  · exact List.suffix_cons _ _

theorem RouteBytes.skip_lt {cfg : Cfg} {d : Nat} {c : UInt8} {cs s : Bytes} (h : RouteBytes cfg d c cs (.skip s)) :
    s.length < cs.length := by
  rw [h.2.2]; exact Nat.lt_succ_self _

theorem route_clj {cfg : Cfg} {d : Nat} {c : UInt8} {cs : Bytes}
    (h : route cfg d c cs = .nsmap ∨ route cfg d c cs = .metadata) : cfg.clj = true :=
  h.elim (fun h => (route_bytes h).2.1) fun h => (route_bytes h).2.1

/-- the bytes after which `readTagged` refuses to look for a tag -/
abbrev tagWs (c : UInt8) : Bool := c == 0x20 || c == 0x09 || c == 0x0A || c == 0x0D || c == 0x2C

inductive StepRel (ctx : Ctx) (R : Call6 → Res) : Call6 → Res → Prop
  | tEof {d dm start st} : st.rest = [] →
      StepRel ctx R (.t d dm start st) (.err (mkErr .unexpectedEof (some start) (some st.rest.length)) st)
  | tWs {d dm start st c t} : st.rest = c :: t → tagWs c = true →
      StepRel ctx R (.t d dm start st) (.err (mkErr .invalidSyntax (some start) (some st.rest.length)) st)
  | tIdCloser {d dm start st c t st'} : st.rest = c :: t → tagWs c = false → readIdentifier ctx st = .closer st' →
      StepRel ctx R (.t d dm start st) (.closer st')
  | tIdErr {d dm start st c t e st'} : st.rest = c :: t → tagWs c = false → readIdentifier ctx st = .err e st' →
      StepRel ctx R (.t d dm start st) (.err e st')
  | tNotSym {d dm start st c t tagv st'} : st.rest = c :: t → tagWs c = false → readIdentifier ctx st = .ok tagv st' →
      (∀ h md ns nm, tagv ≠ .sym h md ns nm) →
      StepRel ctx R (.t d dm start st) (.err (mkErr .invalidSyntax (some start) (some st'.rest.length)) st')
  | tCloser {d dm start st c t h md ns nm st' st''} : st.rest = c :: t → tagWs c = false →
      readIdentifier ctx st = .ok (.sym h md ns nm) st' → R (.v (d + 1) dm st') = .closer st'' →
      StepRel ctx R (.t d dm start st) (.err (mkErr .invalidSyntax (some start) (some st''.rest.length)) st'')
  | tErr {d dm start st c t h md ns nm st' e st''} : st.rest = c :: t → tagWs c = false →
      readIdentifier ctx st = .ok (.sym h md ns nm) st' → R (.v (d + 1) dm st') = .err e st'' →
      StepRel ctx R (.t d dm start st) (.err e st'')
  | tOk {d dm start st c t h md ns nm st' v st''} : st.rest = c :: t → tagWs c = false →
      readIdentifier ctx st = .ok (.sym h md ns nm) st' → R (.v (d + 1) dm st') = .ok v st'' →
      StepRel ctx R (.t d dm start st) (tagOut ctx dm start (slice st.rest st'.rest) v st'')
  | vEof {d dm st} : skipWs st.rest = [] → StepRel ctx R (.v d dm st) (eofErrOf d { st with rest := [] })
  | vLeaf {d dm st c cs k} : skipWs st.rest = c :: cs → route ctx.cfg d c cs = .leaf k →
      StepRel ctx R (.v d dm st) (k.read ctx { rest := c :: cs, calls := st.calls })
  | vDeep {d dm st c cs} : skipWs st.rest = c :: cs → route ctx.cfg d c cs = .deep →
      StepRel ctx R (.v d dm st) (.err (mkErr .invalidSyntax (some (c :: cs).length) (some ((c :: cs).length - 1)))
        { rest := c :: cs, calls := st.calls })
  | vStray {d dm st c cs} : skipWs st.rest = c :: cs → route ctx.cfg d c cs = .stray →
      StepRel ctx R (.v d dm st) (.err (mkErr .unmatchedDelimiter) { rest := c :: cs, calls := st.calls })
  | vCloser {d dm st c cs} : skipWs st.rest = c :: cs → route ctx.cfg d c cs = .closer →
      StepRel ctx R (.v d dm st) (.closer { rest := c :: cs, calls := st.calls })
  | vSeq {d dm st c cs kind s r} : skipWs st.rest = c :: cs → route ctx.cfg d c cs = .seq kind s →
      R (.s d dm kind (c :: cs).length { rest := s, calls := st.calls } []) = r → StepRel ctx R (.v d dm st) r
  | vMap {d dm st c cs r} : skipWs st.rest = c :: cs → route ctx.cfg d c cs = .map →
      R (.m d dm (c :: cs).length none { rest := cs, calls := st.calls } [] []) = r → StepRel ctx R (.v d dm st) r
  | vNsmap {d dm st c cs r} : skipWs st.rest = c :: cs → route ctx.cfg d c cs = .nsmap →
      R (.n d dm (c :: cs).length { rest := cs, calls := st.calls }) = r → StepRel ctx R (.v d dm st) r
  | vTagged {d dm st c cs r} : skipWs st.rest = c :: cs → route ctx.cfg d c cs = .tagged →
      R (.t d dm (c :: cs).length { rest := cs, calls := st.calls }) = r → StepRel ctx R (.v d dm st) r
  | vMeta {d dm st c cs r} : skipWs st.rest = c :: cs → route ctx.cfg d c cs = .metadata →
      R (.me d dm (c :: cs).length { rest := cs, calls := st.calls }) = r → StepRel ctx R (.v d dm st) r
  | vSkipOk {d dm st c cs s v st1 r} : skipWs st.rest = c :: cs → route ctx.cfg d c cs = .skip s →
      R (.v (d + 1) true { rest := s, calls := st.calls }) = .ok v st1 → R (.v d dm st1) = r → StepRel ctx R (.v d dm st) r
  | vSkipCloser {d dm st c cs s st1} : skipWs st.rest = c :: cs → route ctx.cfg d c cs = .skip s →
      R (.v (d + 1) true { rest := s, calls := st.calls }) = .closer st1 →
      StepRel ctx R (.v d dm st) (.err (mkErr .invalidDiscard (some (c :: cs).length) (some ((c :: cs).length - 2))) st1)
  | vSkipErr {d dm st c cs s e st1} : skipWs st.rest = c :: cs → route ctx.cfg d c cs = .skip s →
      R (.v (d + 1) true { rest := s, calls := st.calls }) = .err e st1 → StepRel ctx R (.v d dm st) (.err e st1)
  | sNext {d dm kind start st acc v st' r} : R (.v (d + 1) dm st) = .ok v st' →
      R (.s d dm kind start st' (v :: acc)) = r → StepRel ctx R (.s d dm kind start st acc) r
  | sErr {d dm kind start st acc e st'} : R (.v (d + 1) dm st) = .err e st' →
      StepRel ctx R (.s d dm kind start st acc) (.err (loopErr start e st'.rest) st')
  | sStray {d dm kind start st acc st'} : R (.v (d + 1) dm st) = .closer st' →
      (∀ r, st'.rest ≠ closerByte kind :: r) →
      StepRel ctx R (.s d dm kind start st acc)
        (.err (mkErr .unmatchedDelimiter (some start) (some (st'.rest.length - 1))) st')
  | sList {d dm kind start st acc st' r} : R (.v (d + 1) dm st) = .closer st' → st'.rest = closerByte kind :: r →
      kind = 0 → StepRel ctx R (.s d dm kind start st acc)
        (.ok (.list (mkHdr start r.length) none acc.reverse) { st' with rest := r })
  | sVec {d dm kind start st acc st' r} : R (.v (d + 1) dm st) = .closer st' → st'.rest = closerByte kind :: r →
      kind = 1 → StepRel ctx R (.s d dm kind start st acc)
        (.ok (.vec (mkHdr start r.length) none acc.reverse) { st' with rest := r })
  | sDup {d dm kind start st acc st' r} : R (.v (d + 1) dm st) = .closer st' → st'.rest = closerByte kind :: r →
      kind ≠ 0 → kind ≠ 1 → (hasDuplicates ctx.cfg acc.reverse).1 = true →
      StepRel ctx R (.s d dm kind start st acc)
        (.err (mkErr .duplicateElement (some start) (some r.length)) { st' with rest := r })
  | sSet {d dm kind start st acc st' r} : R (.v (d + 1) dm st) = .closer st' → st'.rest = closerByte kind :: r →
      kind ≠ 0 → kind ≠ 1 → (hasDuplicates ctx.cfg acc.reverse).1 = false →
      StepRel ctx R (.s d dm kind start st acc)
        (.ok (.set (mkHdr start r.length) none (hasDuplicates ctx.cfg acc.reverse).2) { st' with rest := r })
  | mNext {d dm start ns st ks vs k st' v st'' r} : R (.v (d + 1) dm st) = .ok k st' → R (.v (d + 1) dm st') = .ok v st'' →
      R (.m d dm start ns st'' ((match ns with | some n => qualifyKey n k | none => k) :: ks) (v :: vs)) = r →
      StepRel ctx R (.m d dm start ns st ks vs) r
  | mErr {d dm start ns st ks vs e st'} : R (.v (d + 1) dm st) = .err e st' →
      StepRel ctx R (.m d dm start ns st ks vs) (.err (loopErr start e st'.rest) st')
  | mErr₂ {d dm start ns st ks vs k st' e st''} : R (.v (d + 1) dm st) = .ok k st' → R (.v (d + 1) dm st') = .err e st'' →
      StepRel ctx R (.m d dm start ns st ks vs) (.err (loopErr start e st''.rest) st'')
  | mOdd {d dm start ns st ks vs k st' st''} : R (.v (d + 1) dm st) = .ok k st' → R (.v (d + 1) dm st') = .closer st'' →
      StepRel ctx R (.m d dm start ns st ks vs) (.err (mkErr .invalidSyntax (some start) (some st''.rest.length)) st'')
  | mEof {d dm start ns st ks vs st'} : R (.v (d + 1) dm st) = .closer st' → st'.rest = [] →
      StepRel ctx R (.m d dm start ns st ks vs) (.err (mkErr .unexpectedEof (some start) (some st'.rest.length)) st')
  | mStray {d dm start ns st ks vs st' c r} : R (.v (d + 1) dm st) = .closer st' → st'.rest = c :: r → c ≠ 0x7D →
      StepRel ctx R (.m d dm start ns st ks vs)
        (.err (mkErr .unmatchedDelimiter (some start) (some (st'.rest.length - 1))) st')
  | mDup {d dm start ns st ks vs st' r} : R (.v (d + 1) dm st) = .closer st' → st'.rest = 0x7D :: r →
      (hasDuplicates ctx.cfg ks.reverse).1 = true →
      StepRel ctx R (.m d dm start ns st ks vs)
        (.err (mkErr .duplicateKey (some start) (some r.length)) { st' with rest := r })
  | mOk {d dm start ns st ks vs st' r} : R (.v (d + 1) dm st) = .closer st' → st'.rest = 0x7D :: r →
      (hasDuplicates ctx.cfg ks.reverse).1 = false →
      StepRel ctx R (.m d dm start ns st ks vs)
        (.ok (.map (mkHdr start r.length) none (hasDuplicates ctx.cfg ks.reverse).2 vs.reverse) { st' with rest := r })
  | nCloser {d dm start st st'} : R (.v d dm st) = .closer st' → StepRel ctx R (.n d dm start st) (.closer st')
  | nErr {d dm start st e st'} : R (.v d dm st) = .err e st' → StepRel ctx R (.n d dm start st) (.err e st')
  | nBad {d dm start st kwv st'} : R (.v d dm st) = .ok kwv st' → (∀ h name, kwv ≠ .kw h none name) →
      StepRel ctx R (.n d dm start st) (.err (mkErr .invalidSyntax (some start) (some st'.rest.length)) st')
  | nNoBrace {d dm start st h name st'} : R (.v d dm st) = .ok (.kw h none name) st' →
      (∀ r, skipWs st'.rest ≠ 0x7B :: r) →
      StepRel ctx R (.n d dm start st)
        (.err (mkErr .invalidSyntax (some start) (some (skipWs st'.rest).length)) { st' with rest := skipWs st'.rest })
  | nNext {d dm start st h name st' r res} : R (.v d dm st) = .ok (.kw h none name) st' → skipWs st'.rest = 0x7B :: r →
      R (.m d dm start (some name) { rest := r, calls := st'.calls } [] []) = res → StepRel ctx R (.n d dm start st) res
  | meCloser {d dm start st st'} : R (.v (d + 1) dm st) = .closer st' →
      StepRel ctx R (.me d dm start st) (.err (mkErr .invalidSyntax (some start) (some st'.rest.length)) st')
  | meErr {d dm start st e st'} : R (.v (d + 1) dm st) = .err e st' →
      StepRel ctx R (.me d dm start st) (.err e st')
  | meNoEntries {d dm start st m st'} : R (.v (d + 1) dm st) = .ok m st' → metaEntries m = none →
      StepRel ctx R (.me d dm start st) (.err (mkErr .invalidSyntax (some start) (some st'.rest.length)) st')
  | meCloser₂ {d dm start st m st' p st''} : R (.v (d + 1) dm st) = .ok m st' → metaEntries m = some p →
      R (.v (d + 1) dm st') = .closer st'' →
      StepRel ctx R (.me d dm start st) (.err (mkErr .invalidSyntax (some start) (some st''.rest.length)) st'')
  | meErr₂ {d dm start st m st' p e st''} : R (.v (d + 1) dm st) = .ok m st' → metaEntries m = some p →
      R (.v (d + 1) dm st') = .err e st'' → StepRel ctx R (.me d dm start st) (.err e st'')
  | meNoTarget {d dm start st m st' p form st''} : R (.v (d + 1) dm st) = .ok m st' → metaEntries m = some p →
      R (.v (d + 1) dm st') = .ok form st'' → form.metaTarget = false →
      StepRel ctx R (.me d dm start st) (.err (mkErr .invalidSyntax (some start) (some st''.rest.length)) st'')
  | meOk {d dm start st m st' p form st''} : R (.v (d + 1) dm st) = .ok m st' → metaEntries m = some p →
      R (.v (d + 1) dm st') = .ok form st'' → form.metaTarget = true →
      StepRel ctx R (.me d dm start st)
        (.ok ((attachMeta ctx.cfg m form p.1 p.2).setHdr { (attachMeta ctx.cfg m form p.1 p.2).hdr with s := start }) st'')

variable {ctx : Ctx} {R : Call6 → Res}

theorem step_v_eq (d : Nat) (dm : Bool) (st : St) : step ctx R (.v d dm st) =
    match skipWs st.rest with
    | [] => eofErrOf d { st with rest := [] }
    | c :: cs => exec ctx R d dm st.calls c cs (route ctx.cfg d c cs) := by
  show stepV ctx R d dm st = _
  unfold stepV
  obtain ⟨rest, calls⟩ := st
  cases rest with
  | nil => rfl
  | cons c0 t =>
    simp only [preWs_eq_skipWs]
    cases skipWs (c0 :: t) with
    | nil => rfl
    | cons c cs => exact stepD_route ctx R d dm calls c cs

theorem step_rel_v (d : Nat) (dm : Bool) (st : St) : StepRel ctx R (.v d dm st) (step ctx R (.v d dm st)) := by
  rw [step_v_eq]
  cases hw : skipWs st.rest with
  | nil => exact .vEof hw
  | cons c cs =>
    dsimp only
    cases hrt : route ctx.cfg d c cs with
    | leaf k => exact .vLeaf hw hrt
    | deep => exact .vDeep hw hrt
    | stray => exact .vStray hw hrt
    | closer => exact .vCloser hw hrt
    | seq kind s => exact .vSeq hw hrt rfl
    | map => exact .vMap hw hrt rfl
    | nsmap => exact .vNsmap hw hrt rfl
    | tagged => exact .vTagged hw hrt rfl
    | metadata => exact .vMeta hw hrt rfl
    | skip s =>
      simp only [exec]
      cases hr : R (.v (d + 1) true { rest := s, calls := st.calls }) with
      | ok v st1 => exact .vSkipOk hw hrt hr rfl
      | closer st1 => exact .vSkipCloser hw hrt hr
      | err e st1 => exact .vSkipErr hw hrt hr

theorem step_rel_s (d : Nat) (dm : Bool) (kind start : Nat) (st : St) (acc : List Val) :
    StepRel ctx R (.s d dm kind start st acc) (step ctx R (.s d dm kind start st acc)) := by
  show StepRel ctx R _ (stepS ctx R d dm kind start st acc)
  unfold stepS
  cases hr : R (.v (d + 1) dm st) with
  | ok v st' => exact .sNext hr rfl
  | err e st' =>
    have h := StepRel.sErr (ctx := ctx) (kind := kind) (start := start) (acc := acc) hr
    rw [err_loopErr] at h
    exact h
  | closer st' =>
    have stray := StepRel.sStray (ctx := ctx) (kind := kind) (start := start) (acc := acc) hr
    dsimp only
    cases hs : st'.rest with
    | nil => rw [hs] at stray; exact stray fun r => nofun
    | cons c r =>
      rw [hs] at stray
      dsimp only
      refine ite_ind (fun hc => stray fun r' h => ?_) fun hc => ?_
      · cases h; simp at hc
      · obtain rfl : c = closerByte kind := by simpa using hc
        refine ite_ind (fun hk => .sList hr hs (eq_of_beq hk)) fun hk0 =>
          ite_ind (fun hk => .sVec hr hs (eq_of_beq hk)) fun hk1 => ?_
        have hD := StepRel.sDup (ctx := ctx) (start := start) (acc := acc) hr hs (by simpa using hk0) (by simpa using hk1)
        have hS := StepRel.sSet (ctx := ctx) (start := start) (acc := acc) hr hs (by simpa using hk0) (by simpa using hk1)
        generalize hasDuplicates ctx.cfg acc.reverse = q at hD hS ⊢
        obtain ⟨dup, ys⟩ := q
        exact ite_ind (fun h => hD h) fun h => hS (Bool.eq_false_iff.mpr h)

theorem step_rel_m (d : Nat) (dm : Bool) (start : Nat) (ns : Option Bytes) (st : St) (ks vs : List Val) :
    StepRel ctx R (.m d dm start ns st ks vs) (step ctx R (.m d dm start ns st ks vs)) := by
  show StepRel ctx R _ (stepM ctx R d dm start ns st ks vs)
  unfold stepM
  dsimp only
  cases hr : R (.v (d + 1) dm st) with
  | ok k st' =>
    dsimp only
    cases hr2 : R (.v (d + 1) dm st') with
    | ok v st'' => exact .mNext hr hr2 rfl
    | err e st'' =>
      have h := StepRel.mErr₂ (ctx := ctx) (start := start) (ns := ns) (ks := ks) (vs := vs) hr hr2
      rw [err_loopErr] at h
      exact h
    | closer st'' => exact .mOdd hr hr2
  | err e st' =>
    have h := StepRel.mErr (ctx := ctx) (start := start) (ns := ns) (ks := ks) (vs := vs) hr
    rw [err_loopErr] at h
    exact h
  | closer st' =>
    have eof := StepRel.mEof (ctx := ctx) (start := start) (ns := ns) (ks := ks) (vs := vs) hr
    dsimp only
    cases hs : st'.rest with
    | nil => rw [hs] at eof; exact eof rfl
    | cons c r =>
      have stray := StepRel.mStray (ctx := ctx) (start := start) (ns := ns) (ks := ks) (vs := vs) hr hs
      rw [hs] at stray
      dsimp only
      refine ite_ind (fun hc => stray (by simpa using hc)) fun hc => ?_
      obtain rfl : c = 0x7D := by simpa using hc
      have hD := StepRel.mDup (ctx := ctx) (start := start) (ns := ns) (ks := ks) (vs := vs) hr hs
      have hO := StepRel.mOk (ctx := ctx) (start := start) (ns := ns) (ks := ks) (vs := vs) hr hs
      generalize hasDuplicates ctx.cfg ks.reverse = q at hD hO ⊢
      obtain ⟨dup, keys⟩ := q
      exact ite_ind (fun h => hD h) fun h => hO (Bool.eq_false_iff.mpr h)

theorem step_rel_n (d : Nat) (dm : Bool) (start : Nat) (st : St) :
    StepRel ctx R (.n d dm start st) (step ctx R (.n d dm start st)) := by
  show StepRel ctx R _ (stepN ctx R d dm start st)
  unfold stepN
  cases hr : R (.v d dm st) with
  | closer st' => exact .nCloser hr
  | err e st' => exact .nErr hr
  | ok kwv st' =>
    dsimp only
    split
    · rename_i h name
      have nb := StepRel.nNoBrace (ctx := ctx) (start := start) hr
      cases hw : skipWs st'.rest with
      | nil => rw [hw] at nb; exact nb fun r => nofun
      | cons c r =>
        rw [hw] at nb
        refine ite_ind (fun hc => ?_) fun hc => nb fun r' h => ?_
        · obtain rfl : c = 0x7B := by simpa using hc
          exact .nNext hr hw rfl
        · cases h; simp at hc
    · rename_i hne
      exact .nBad hr fun h name e => hne h name e

theorem step_rel_t (d : Nat) (dm : Bool) (start : Nat) (st : St) :
    StepRel ctx R (.t d dm start st) (step ctx R (.t d dm start st)) := by
  show StepRel ctx R _ (stepT ctx R d dm start st)
  have eof := StepRel.tEof (ctx := ctx) (R := R) (d := d) (dm := dm) (start := start) (st := st)
  unfold stepT
  dsimp only
  cases hs : st.rest with
  | nil => rw [hs] at eof; exact eof rfl
  | cons c t =>
    have ws := StepRel.tWs (ctx := ctx) (R := R) (d := d) (dm := dm) (start := start) hs
    rw [hs] at ws
    refine ite_ind (fun hc => ws hc) fun hc => ?_
    have hc' : tagWs c = false := Bool.eq_false_iff.mpr hc
    cases hr : readIdentifier ctx st with
    | closer st' => exact .tIdCloser hs hc' hr
    | err e st' => exact .tIdErr hs hc' hr
    | ok tagv st' =>
      dsimp only
      split
      · cases hr2 : R (.v (d + 1) dm st') with
        | closer st'' => exact .tCloser hs hc' hr hr2
        | err e st'' => exact .tErr hs hc' hr hr2
        | ok v st'' =>
          have ok := StepRel.tOk (ctx := ctx) (start := start) hs hc' hr hr2
          rw [hs] at ok
          exact ok
      · rename_i hne
        exact .tNotSym hs hc' hr fun h md ns nm e => hne h md ns nm e

theorem step_rel_me (d : Nat) (dm : Bool) (start : Nat) (st : St) :
    StepRel ctx R (.me d dm start st) (step ctx R (.me d dm start st)) := by
  show StepRel ctx R _ (stepMe ctx R d dm start st)
  unfold stepMe
  dsimp only
  cases hr : R (.v (d + 1) dm st) with
  | closer st' => exact .meCloser hr
  | err e st' => exact .meErr hr
  | ok m st' =>
    dsimp only
    cases hm : metaEntries m with
    | none => exact .meNoEntries hr hm
    | some p =>
      dsimp only
      cases hr2 : R (.v (d + 1) dm st') with
      | closer st'' => exact .meCloser₂ hr hm hr2
      | err e st'' => exact .meErr₂ hr hm hr2
      | ok form st'' =>
        exact ite_ind (fun h => .meNoTarget hr hm hr2 (by simpa using h)) fun h => .meOk hr hm hr2 (by simpa using h)

theorem step_rel (c : Call6) : StepRel ctx R c (step ctx R c) := by
  cases c
  · exact step_rel_v ..
  · exact step_rel_s ..
  · exact step_rel_m ..
  · exact step_rel_n ..
  · exact step_rel_t ..
  · exact step_rel_me ..

theorem step_cases {P : Res → Prop} {c : Call6} (h : ∀ r, StepRel ctx R c r → P r) : P (step ctx R c) :=
  h _ (step_rel c)

theorem StepRel.eq {c : Call6} {r : Res} (h : StepRel ctx R c r) : step ctx R c = r := by
  have tHead {d dm start st c t} (hs : st.rest = c :: t) (hc : tagWs c = false) :
      step ctx R (.t d dm start st) =
        match readIdentifier ctx st with
        | .closer st' => .closer st'
        | .err e st' => .err e st'
        | .ok tagv st' =>
          match tagv with
          | .sym .. =>
            match R (.v (d + 1) dm st') with
            | .closer st'' => .err (mkErr .invalidSyntax (some start) (some st''.rest.length)) st''
            | .err e st'' => .err e st''
            | .ok v st'' => tagOut ctx dm start (slice st.rest st'.rest) v st''
          | _ => .err (mkErr .invalidSyntax (some start) (some st'.rest.length)) st' := by
    show stepT ctx R d dm start st = _
    unfold stepT
    dsimp only
    rw [hs]
    exact if_neg fun h => Bool.noConfusion (hc.symm.trans h)
  cases h with
  | tEof hs => simp [step, stepT, hs, Ctx.pos]
  | tWs hs hc =>
    rename_i d dm start st c t
    show stepT ctx R d dm start st = _
    unfold stepT
    dsimp only
    rw [hs]
    exact if_pos hc
  | tIdCloser hs hc hr => rw [tHead hs hc, hr]
  | tIdErr hs hc hr => rw [tHead hs hc, hr]
  | tNotSym hs hc hr hn =>
    rw [tHead hs hc, hr]
    dsimp only
    split
    · exact absurd rfl (hn _ _ _ _)
    · rfl
  | tCloser hs hc hr hv => rw [tHead hs hc, hr]; dsimp only; rw [hv]
  | tErr hs hc hr hv => rw [tHead hs hc, hr]; dsimp only; rw [hv]
  | tOk hs hc hr hv => rw [tHead hs hc, hr]; dsimp only; rw [hv]
  | vEof hw => rw [step_v_eq, hw]
  | vLeaf hw hrt => rw [step_v_eq, hw]; dsimp only; rw [hrt]; rfl
  | vDeep hw hrt => rw [step_v_eq, hw]; dsimp only; rw [hrt]; rfl
  | vStray hw hrt => rw [step_v_eq, hw]; dsimp only; rw [hrt]; rfl
  | vCloser hw hrt => rw [step_v_eq, hw]; dsimp only; rw [hrt]; rfl
  | vSeq hw hrt hr => rw [step_v_eq, hw]; dsimp only; rw [hrt]; exact hr
  | vMap hw hrt hr => rw [step_v_eq, hw]; dsimp only; rw [hrt]; exact hr
  | vNsmap hw hrt hr => rw [step_v_eq, hw]; dsimp only; rw [hrt]; exact hr
  | vTagged hw hrt hr => rw [step_v_eq, hw]; dsimp only; rw [hrt]; exact hr
  | vMeta hw hrt hr => rw [step_v_eq, hw]; dsimp only; rw [hrt]; exact hr
  | vSkipOk hw hrt hv hr => rw [step_v_eq, hw]; dsimp only; rw [hrt]; simp only [exec]; rw [hv]; exact hr
  | vSkipCloser hw hrt hv => rw [step_v_eq, hw]; dsimp only; rw [hrt]; simp only [exec]; rw [hv]
  | vSkipErr hw hrt hv => rw [step_v_eq, hw]; dsimp only; rw [hrt]; simp only [exec]; rw [hv]
  | sNext hv hr => show stepS ctx R _ _ _ _ _ _ = _; unfold stepS; rw [hv]; exact hr
  | sErr hv => show stepS ctx R _ _ _ _ _ _ = _; unfold stepS; rw [hv]; exact (err_loopErr ..).symm
  | sStray hv hn =>
    rename_i d dm kind start st acc st'
    show stepS ctx R d dm kind start st acc = _
    unfold stepS
    rw [hv]
    dsimp only
    cases hs : st'.rest with
    | nil => rfl
    | cons c r => exact if_pos (by simpa using fun h : c = closerByte kind => hn r (hs.trans (by rw [h])))
  | sList hv hs hk => subst hk; simp [step, stepS, hv, hs, Ctx.pos]
  | sVec hv hs hk => subst hk; simp [step, stepS, hv, hs, Ctx.pos]
  | sDup hv hs hk0 hk1 hd => simp [step, stepS, hv, hs, Ctx.pos, hk0, hk1, hd]
  | sSet hv hs hk0 hk1 hd => simp [step, stepS, hv, hs, Ctx.pos, hk0, hk1, hd]
  | mNext hv hv2 hr =>
    show stepM ctx R _ _ _ _ _ _ _ = _; unfold stepM; dsimp only; rw [hv]; dsimp only; rw [hv2]; exact hr
  | mErr hv => show stepM ctx R _ _ _ _ _ _ _ = _; unfold stepM; dsimp only; rw [hv]; exact (err_loopErr ..).symm
  | mErr₂ hv hv2 =>
    show stepM ctx R _ _ _ _ _ _ _ = _; unfold stepM; dsimp only; rw [hv]; dsimp only; rw [hv2]
    exact (err_loopErr ..).symm
  | mOdd hv hv2 => simp [step, stepM, hv, hv2, Ctx.pos]
  | mEof hv hs => simp [step, stepM, hv, hs, Ctx.pos]
  | mStray hv hs hc => simp [step, stepM, hv, hs, hc]
  | mDup hv hs hd => simp [step, stepM, hv, hs, hd, Ctx.pos]
  | mOk hv hs hd => simp [step, stepM, hv, hs, hd, Ctx.pos]
  | nCloser hv => simp [step, stepN, hv]
  | nErr hv => simp [step, stepN, hv]
  | nBad hv hb =>
    rename_i d dm start st kwv st'
    show stepN ctx R d dm start st = _
    unfold stepN
    rw [hv]
    dsimp only
    split
    · exact absurd rfl (hb _ _)
    · rfl
  | nNoBrace hv hn =>
    rename_i d dm start st h name st'
    show stepN ctx R d dm start st = _
    unfold stepN
    rw [hv]
    dsimp only
    cases hw : skipWs st'.rest with
    | nil => rfl
    | cons c r => exact if_neg fun hc => hn r (by rw [hw, eq_of_beq hc])
  | nNext hv hw hr => simp [step, stepN, hv, hw]; exact hr
  | meCloser hv => simp [step, stepMe, hv, Ctx.pos]
  | meErr hv => simp [step, stepMe, hv]
  | meNoEntries hv hm => simp [step, stepMe, hv, hm, Ctx.pos]
  | meCloser₂ hv hm hv2 => simp [step, stepMe, hv, hm, hv2, Ctx.pos]
  | meErr₂ hv hm hv2 => simp [step, stepMe, hv, hm, hv2]
  | meNoTarget hv hm hv2 ht => simp [step, stepMe, hv, hm, hv2, ht, Ctx.pos]
  | meOk hv hm hv2 ht => simp [step, stepMe, hv, hm, hv2, ht]

theorem run_of_rule {f : Nat} {c : Call6} {r : Res} (h : StepRel ctx (run ctx f) c r) : run ctx (f + 1) c = r :=
  (run_succ ctx f c).trans h.eq

theorem readValue_at (ctx : Ctx) (f d : Nat) (dm : Bool) (c : UInt8) (s : Bytes) (cl : List Call)
    (hw : isPreWs c = false) :
    readValue ctx (f + 1) d dm { rest := c :: s, calls := cl } =
      exec ctx (run ctx f) d dm cl c s (route ctx.cfg d c s) := by
  show run ctx (f + 1) (.v d dm { rest := c :: s, calls := cl }) = _
  rw [run_succ, step_v_eq]
  simp only [skipWs_nonws c s hw]

theorem readValue_at_closer (ctx : Ctx) (f d : Nat) (dm : Bool) (c : UInt8) (s : Bytes) (cl : List Call)
    (hc : c = 0x29 ∨ c = 0x5D ∨ c = 0x7D) :
    readValue ctx (f + 1) d dm { rest := c :: s, calls := cl } =
      if d == 0 then .err (mkErr .unmatchedDelimiter) { rest := c :: s, calls := cl }
      else .closer { rest := c :: s, calls := cl } := by
  obtain ⟨hd, hw⟩ := dispatch_closer ctx.cfg c hc
  rw [readValue_at ctx f d dm c s cl hw]
  unfold route
  simp only [hd]
  exact apply_ite (exec ctx (run ctx f) d dm cl c s) _ _ _

theorem readValue_colon (ctx : Ctx) (f d : Nat) (dm : Bool) (cs : Bytes) (cl : List Call) :
    readValue ctx (f + 1) d dm { rest := 0x3A :: cs, calls := cl } =
      readIdentifier ctx { rest := 0x3A :: cs, calls := cl } := by
  have hdisp : dispatch ctx.cfg 0x3A = .identifier := (dispatch_flag ctx.cfg (by decide)).trans (by decide +kernel)
  rw [readValue_at ctx f d dm _ cs cl (by decide)]
  unfold route
  simp only [hdisp]
  rfl

theorem readValue_at_discard (ctx : Ctx) (f d : Nat) (dm : Bool) (s : Bytes) (cl : List Call)
    (hd : d < Tables.maxNestingDepth) :
    readValue ctx (f + 1) d dm { rest := 0x23 :: 0x5F :: s, calls := cl } =
      match readValue ctx f (d + 1) true { rest := s, calls := cl } with
      | .ok _ st' => readValue ctx f d dm st'
      | .closer st' => .err (mkErr .invalidDiscard (some (s.length + 2)) (some s.length)) st'
      | .err e st' => .err e st' := by
  have htd : decide (d ≥ Tables.maxNestingDepth) = false := decide_eq_false (Nat.not_le.mpr hd)
  rw [readValue_at ctx f d dm _ _ cl (by decide)]
  unfold route
  simp only [dispatch_hash, htd, Bool.false_eq_true, ↓reduceIte,
    (by decide : ((0x5F : UInt8) == 0x23) = false), (by decide : ((0x5F : UInt8) == 0x7B) = false),
    (by decide : ((0x5F : UInt8) == 0x5F) = true)]
  rfl

end Edn.Proofs
