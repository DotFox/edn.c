/-
  Character literals, exactly: `edn_read_character` accepts `\body`
  followed by the end of the input or a delimiter precisely when `body` is a spelling of
  the grammar `CharTokX` (Edn.Spec.CharLit) with a code point ≤ 0x10FFFF, and the value is
  that code point; every failure is `invalidCharacter` and leaves the state unchanged.  The reasoning is
  about `charNamed`, `charTail` and `charBody`, the code-point part of `readCharacter` copied out in
  LeafSpec (tied to the model by `readCharacter_eq` there).
-/
import Edn.Spec.CharLit
import Edn.Proofs.LeafSpec

namespace Edn.Proofs
open Edn.Model Edn.Spec

theorem strBytes_newline : strBytes "newline" = [0x6E, 0x65, 0x77, 0x6C, 0x69, 0x6E, 0x65] := by decide +kernel
theorem strBytes_return : strBytes "return" = [0x72, 0x65, 0x74, 0x75, 0x72, 0x6E] := by decide +kernel
theorem strBytes_space : strBytes "space" = [0x73, 0x70, 0x61, 0x63, 0x65] := by decide +kernel
theorem strBytes_tab : strBytes "tab" = [0x74, 0x61, 0x62] := by decide +kernel
theorem strBytes_formfeed : strBytes "formfeed" = [0x66, 0x6F, 0x72, 0x6D, 0x66, 0x65, 0x65, 0x64] := by decide +kernel
theorem strBytes_backspace : strBytes "backspace" = [0x62, 0x61, 0x63, 0x6B, 0x73, 0x70, 0x61, 0x63, 0x65] := by
  decide +kernel

/-! `charNamed` drops `nm.length` bytes (characters of the name) after a match on `strBytes nm`
(its bytes); for the six names, all ASCII, the two lengths agree. -/

theorem strBytes_len_newline : (strBytes "newline").length = "newline".length := by decide +kernel
theorem strBytes_len_return : (strBytes "return").length = "return".length := by decide +kernel
theorem strBytes_len_space : (strBytes "space").length = "space".length := by decide +kernel
theorem strBytes_len_tab : (strBytes "tab").length = "tab".length := by decide +kernel
theorem strBytes_len_formfeed : (strBytes "formfeed").length = "formfeed".length := by decide +kernel
theorem strBytes_len_backspace : (strBytes "backspace").length = "backspace".length := by decide +kernel

theorem charNamed_some {p : Bytes} {nm : String} {c : Nat} {x : Nat × Bytes}
    (hl : (strBytes nm).length = nm.length) (h : charNamed p nm c = some x) :
    x.1 = c ∧ p = strBytes nm ++ x.2 := by
  rcases ite_eq_elim h with ⟨hs, h⟩ | ⟨_, h⟩
  · cases h
    obtain ⟨t, rfl⟩ := List.isPrefixOf_iff_prefix.mp hs
    exact ⟨rfl, by rw [← hl, List.drop_left]⟩
  · cases h

theorem charNamed_tok {cfg : Cfg} {p : Bytes} {nm : String} {c : Nat} {x : Nat × Bytes}
    (hl : (strBytes nm).length = nm.length) (htok : CharTokX cfg (strBytes nm) c)
    (h : charNamed p nm c = some x) : ∃ body, p = body ++ x.2 ∧ CharTokX cfg body x.1 := by
  obtain ⟨e1, e2⟩ := charNamed_some hl h
  exact ⟨_, e2, e1 ▸ htok⟩

theorem charNamed_self {nm : String} (hl : (strBytes nm).length = nm.length) (rest : Bytes) (cp : Nat) :
    charNamed (strBytes nm ++ rest) nm cp = some (cp, rest) := by
  unfold charNamed startsWith
  rw [if_pos (List.isPrefixOf_iff_prefix.mpr (List.prefix_append _ _)), ← hl, List.drop_left]

theorem charNamed_head_ne (c : UInt8) (t : Bytes) (nm : String) (cp : Nat) (b : UInt8) (l : Bytes)
    (hn : strBytes nm = b :: l) (hne : (b == c) = false) : charNamed (c :: t) nm cp = none := by
  unfold charNamed startsWith
  rw [hn, List.isPrefixOf_cons_cons, hne, Bool.false_and]
  rfl

theorem charNamed_other {nm nm' : String} {b b' : UInt8} {l l' : Bytes} (hn : strBytes nm = b :: l)
    (hn' : strBytes nm' = b' :: l') (hne : (b == b') = false) (rest : Bytes) (cp : Nat) :
    charNamed (strBytes nm' ++ rest) nm cp = none := by
  rw [hn', List.cons_append]
  exact charNamed_head_ne _ _ _ _ _ _ hn hne

theorem charNamed_short (c : UInt8) {rest : Bytes} (hr : DelimStart rest) {nm : String} {b b' : UInt8} {l : Bytes}
    (hn : strBytes nm = b :: b' :: l) (hb : isDelim b' = false) (cp : Nat) :
    charNamed (c :: rest) nm cp = none := by
  have : (b' :: l).isPrefixOf rest = false := by
    rcases hr with rfl | ⟨d, t, rfl, hd⟩
    · rfl
    · have : (b' == d) = false := beq_eq_false_iff_ne.mpr fun e => by rw [e, hd] at hb; cases hb
      rw [List.isPrefixOf_cons_cons, this, Bool.false_and]
  unfold charNamed startsWith
  rw [hn, List.isPrefixOf_cons_cons, this, Bool.and_false]
  rfl

theorem charTail_octal (ctx : Ctx) (p : Bytes)
    (h : (ctx.cfg.clj && peek p == 0x6F && !p.tail.isEmpty && is09 (peek p.tail)) = true) :
    charTail ctx p = match octalChar p.tail with
      | none => .error (ctx.pos p.tail)
      | some x => .ok x := by
  unfold charTail
  simp only [h, if_true]
  rfl

theorem charTail_unicode (ctx : Ctx) (p : Bytes)
    (h1 : (ctx.cfg.clj && peek p == 0x6F && !p.tail.isEmpty && is09 (peek p.tail)) = false)
    (h2 : (peek p == 0x75 && !p.tail.isEmpty && (hexDigit? (peek p.tail)).isSome) = true) :
    charTail ctx p = match hex4? p.tail with
      | none => .error (p.tail.length - 4)
      | some (v, q') => if ctx.cfg.exp then .ok (hexMore 2 v q') else .ok (v, q') := by
  unfold charTail
  simp only [h1, h2, Bool.false_eq_true, if_false, if_true]
  rfl

theorem charTail_single (ctx : Ctx) (p : Bytes)
    (h1 : (ctx.cfg.clj && peek p == 0x6F && !p.tail.isEmpty && is09 (peek p.tail)) = false)
    (h2 : (peek p == 0x75 && !p.tail.isEmpty && (hexDigit? (peek p.tail)).isSome) = false) :
    charTail ctx p =
      if !isValidSingleChar ctx.cfg (peek p) then .error (p.length - 1) else .ok ((peek p).toNat, p.tail) := by
  unfold charTail
  simp only [h1, h2, Bool.false_eq_true, if_false]

theorem charBody_tail (ctx : Ctx) (p : Bytes) (h1 : charNamed p "newline" 0x0A = none)
    (h2 : charNamed p "return" 0x0D = none) (h3 : charNamed p "space" 0x20 = none)
    (h4 : charNamed p "tab" 0x09 = none) (h5 : charNamed p "formfeed" 0x0C = none)
    (h6 : charNamed p "backspace" 0x08 = none) : charBody ctx p = charTail ctx p := by
  rw [charBody, h1, h2, h3, h4, h5, h6]
  cases ctx.cfg.clj <;> rfl

theorem charBody_no_name (ctx : Ctx) (c : UInt8) (t : Bytes)
    (h1 : ((0x6E : UInt8) == c) = false) (h2 : ((0x72 : UInt8) == c) = false)
    (h3 : ((0x73 : UInt8) == c) = false) (h4 : ((0x74 : UInt8) == c) = false)
    (h5 : ((0x66 : UInt8) == c) = false) (h6 : ((0x62 : UInt8) == c) = false) :
    charBody ctx (c :: t) = charTail ctx (c :: t) :=
  charBody_tail ctx _ (charNamed_head_ne c t _ _ _ _ strBytes_newline h1)
    (charNamed_head_ne c t _ _ _ _ strBytes_return h2) (charNamed_head_ne c t _ _ _ _ strBytes_space h3)
    (charNamed_head_ne c t _ _ _ _ strBytes_tab h4) (charNamed_head_ne c t _ _ _ _ strBytes_formfeed h5)
    (charNamed_head_ne c t _ _ _ _ strBytes_backspace h6)

theorem isValidSingleChar_exp (cfg : Cfg) (c : UInt8) : isValidSingleChar cfg c = isValidSingleChar ⟨cfg.clj, false⟩ c := by
  obtain ⟨clj, exp⟩ := cfg
  cases clj <;> cases exp <;> rfl

/-- The bytes are compared as numbers: the kernel evaluates `Nat` comparisons far faster than
    `UInt8` ones. -/
def validSingleSpec (clj : Bool) (c : UInt8) : Bool :=
  isValidSingleChar ⟨clj, false⟩ c ==
    (c.toNat != 0x09 && c.toNat != 0x0A && c.toNat != 0x0D && c.toNat != 0x20 &&
      !(clj && (c.toNat == 0x08 || c.toNat == 0x0C)))

theorem validSingleSpec_all : ∀ clj c, validSingleSpec clj c = true
  | true => forall_u8_bool _ (by decide +kernel)
  | false => forall_u8_bool _ (by decide +kernel)

theorem validSingleChar_iff (cfg : Cfg) (c : UInt8) :
    isValidSingleChar cfg c = true ↔
      (c ≠ 0x09 ∧ c ≠ 0x0A ∧ c ≠ 0x0D ∧ c ≠ 0x20 ∧ (cfg.clj = true → c ≠ 0x08 ∧ c ≠ 0x0C)) := by
  have num : ∀ b : UInt8, (c.toNat = b.toNat) = (c = b) := fun b => propext UInt8.toNat_inj
  rw [isValidSingleChar_exp, beq_iff_eq.mp (validSingleSpec_all cfg.clj c)]
  cases cfg.clj <;> simp [and_assoc, ← num]

theorem printable_valid (cfg : Cfg) {c : UInt8} (h : 0x21 ≤ c ∧ c ≤ 0x7E) : isValidSingleChar cfg c = true := by
  have ne : ∀ b : UInt8, b < 0x21 → c ≠ b := fun b hb e => absurd (e ▸ h.1) (UInt8.not_le.mpr hb)
  rw [validSingleChar_iff]
  exact ⟨ne _ (by decide), ne _ (by decide), ne _ (by decide), ne _ (by decide),
    fun _ => ⟨ne _ (by decide), ne _ (by decide)⟩⟩

theorem delim_peek {rest : Bytes} (h : DelimStart rest) {P : UInt8 → Bool} (hP : ∀ c, isDelim c = true → P c = false) :
    (!rest.isEmpty && P (peek rest)) = false := by
  rcases h with rfl | ⟨c, t, rfl, hc⟩
  · rfl
  · rw [peek_cons, hP c hc, Bool.and_false]

theorem delimStart_of_check {r : Bytes} (h : ¬ ((!r.isEmpty && !isDelim (peek r)) = true)) : DelimStart r := by
  cases r with
  | nil => exact .inl rfl
  | cons c t => exact .inr ⟨c, t, rfl, by simpa [peek] using h⟩

theorem run_append {p : UInt8 → Bool} (hp : ∀ c, isDelim c = true → p c = false) {ds rest : Bytes} {n : Nat}
    (hds : ∀ d ∈ ds, p d = true) (hl : ds.length ≤ n) (hr : DelimStart rest) :
    ((ds ++ rest).take n).takeWhile p = ds := by
  have stop : ∀ k, (rest.take k).takeWhile p = [] := by
    intro k
    rcases hr with rfl | ⟨c, t, rfl, hc⟩
    · rw [List.take_nil]; rfl
    · cases k with
      | zero => rfl
      | succ k => rw [List.take_succ_cons, List.takeWhile_cons_of_neg (by rw [hp c hc]; exact Bool.false_ne_true)]
  rw [List.take_append, List.take_of_length_le hl, List.takeWhile_append_of_pos hds, stop, List.append_nil]

theorem octalChar_complete (ds rest : Bytes) (ho : OctDigits ds) (hr : DelimStart rest) :
    octalChar (ds ++ rest) = some (octValue ds, rest) := by
  have hrun := run_append (fun _ => delim_notOct) ho.octal ho.atMost3 hr
  have h1 : ¬ ds.isEmpty = true := by
    cases ds with
    | nil => exact absurd ho.nonempty (by decide)
    | cons _ _ => exact Bool.false_ne_true
  have h2 : ¬ (peek rest == 0x38 || peek rest == 0x39) = true := by
    rcases hr with rfl | ⟨c, t, rfl, hc⟩
    · decide
    · rw [peek_cons, Bool.or_eq_true, beq_iff_eq, beq_iff_eq]
      rintro (rfl | rfl) <;> exact absurd (delim_not09 hc) (by decide)
  unfold octalChar
  simp only [hrun, List.drop_left]
  rw [if_neg h1, if_neg h2]
  exact if_neg (Nat.not_lt.mpr ho.byte)

theorem hexMore_sound (k v : Nat) (s r : Bytes) (cp : Nat) (h : hexMore k v s = (cp, r)) :
    ∃ ext, s = ext ++ r ∧ ext.length ≤ k ∧ (∀ d ∈ ext, (hexDigit? d).isSome = true) ∧
      cp = ext.foldl (fun a c => a * 16 + (hexDigit? c).getD 0) v := by
  obtain ⟨hs, hl, hall⟩ := run_split (fun c => (hexDigit? c).isSome) k s
  rw [hexMore_eq] at h
  cases h
  exact ⟨_, hs, hl, hall, rfl⟩

theorem hexMore_complete (k v : Nat) (ext rest : Bytes) (hl : ext.length ≤ k)
    (hall : ∀ d ∈ ext, (hexDigit? d).isSome = true) (hr : DelimStart rest) :
    hexMore k v (ext ++ rest) = (ext.foldl (fun a c => a * 16 + (hexDigit? c).getD 0) v, rest) := by
  rw [hexMore_eq, run_append (fun _ => delim_notHex) hall hl hr, List.drop_left]

theorem hexValue_four {a b c d : UInt8} {w x y z : Nat} (hw : hexDigit? a = some w) (hx : hexDigit? b = some x)
    (hy : hexDigit? c = some y) (hz : hexDigit? d = some z) (ext : Bytes) :
    hexValue (a :: b :: c :: d :: ext) =
      ext.foldl (fun a c => a * 16 + (hexDigit? c).getD 0) (((w * 16 + x) * 16 + y) * 16 + z) := by
  simp [hexValue, List.foldl_cons, hw, hx, hy, hz]

theorem hexDigits_cons4 {a b c d : UInt8} {w x y z : Nat} (hw : hexDigit? a = some w) (hx : hexDigit? b = some x)
    (hy : hexDigit? c = some y) (hz : hexDigit? d = some z) {ext : Bytes}
    (hall : ∀ e ∈ ext, (hexDigit? e).isSome = true) : ∀ e ∈ a :: b :: c :: d :: ext, (hexDigit? e).isSome = true := by
  intro e he
  simp only [List.mem_cons] at he
  rcases he with rfl | rfl | rfl | rfl | he
  · rw [hw]; rfl
  · rw [hx]; rfl
  · rw [hy]; rfl
  · rw [hz]; rfl
  · exact hall e he

theorem peek_eq_head {p : Bytes} (hp : p ≠ []) : p = peek p :: p.tail := by
  cases p with
  | nil => exact absurd rfl hp
  | cons c t => rfl

theorem charTail_sound (ctx : Ctx) (p r : Bytes) (cp : Nat) (hp : p ≠ [])
    (h : charTail ctx p = .ok (cp, r)) : ∃ body, p = body ++ r ∧ CharTokX ctx.cfg body cp := by
  have hpe := peek_eq_head hp
  cases hc : (ctx.cfg.clj && peek p == 0x6F && !p.tail.isEmpty && is09 (peek p.tail)) with
  | true =>
    rw [charTail_octal ctx p hc] at h
    simp only [Bool.and_eq_true, beq_iff_eq] at hc
    obtain ⟨⟨⟨hclj, hc0⟩, _⟩, _⟩ := hc
    cases ho : octalChar p.tail with
    | none => rw [ho] at h; cases h
    | some x =>
      rw [ho] at h
      cases h
      obtain ⟨ds, hs, hod, rfl⟩ := octalChar_sound ho
      exact ⟨0x6F :: ds, by rw [hpe, hc0, List.cons_append, ← hs], .octal hclj ds hod⟩
  | false =>
  cases hc2 : (peek p == 0x75 && !p.tail.isEmpty && (hexDigit? (peek p.tail)).isSome) with
  | true =>
      rw [charTail_unicode ctx p hc hc2] at h
      simp only [Bool.and_eq_true, beq_iff_eq] at hc2
      obtain ⟨⟨hc0, _⟩, _⟩ := hc2
      cases hx : hex4? p.tail with
      | none => rw [hx] at h; cases h
      | some x =>
        obtain ⟨v, q'⟩ := x
        simp only [hx] at h
        obtain ⟨a, b, c, d, w, x, y, z, hq, hw, hx', hy, hz, hv⟩ := hex4?_some hx
        -- without the experimental flag no further digit is taken: the case `ext = []`
        have key : ∃ ext, q' = ext ++ r ∧ ext.length ≤ 2 ∧ (ext = [] ∨ ctx.cfg.exp = true) ∧
            (∀ e ∈ ext, (hexDigit? e).isSome = true) ∧
            cp = ext.foldl (fun a c => a * 16 + (hexDigit? c).getD 0) v := by
          rcases ite_eq_elim h with ⟨he, h⟩ | ⟨_, h⟩
          · obtain ⟨ext, hs, hl, hall, hcp⟩ := hexMore_sound _ _ _ _ _ (Except.ok.inj h)
            exact ⟨ext, hs, hl, .inr he, hall, hcp⟩
          · cases h
            exact ⟨[], rfl, Nat.zero_le _, .inl rfl, nofun, rfl⟩
        obtain ⟨ext, rfl, hl, hexp, hall, rfl⟩ := key
        refine ⟨0x75 :: a :: b :: c :: d :: ext, by rw [hpe, hc0, hq]; rfl, ?_⟩
        rw [hv, ← hexValue_four hw hx' hy hz ext]
        refine .unicode _ (hexDigits_cons4 hw hx' hy hz hall) ?_
        simp only [List.length_cons]
        rcases hexp with rfl | he
        · exact .inl rfl
        · have : ext.length = 0 ∨ ext.length = 1 ∨ ext.length = 2 := by omega
          rcases this with h0 | h0 | h0 <;> rw [h0]
          · exact .inl rfl
          · exact .inr ⟨he, .inl rfl⟩
          · exact .inr ⟨he, .inr rfl⟩
  | false =>
      rw [charTail_single ctx p hc hc2] at h
      rcases ite_eq_elim h with ⟨_, h⟩ | ⟨hv, h⟩
      · cases h
      · cases h
        exact ⟨[peek p], hpe, .single _ (by simpa using hv)⟩

theorem charNamed_step {cfg : Cfg} {p : Bytes} {nm : String} {c : Nat} {k res : Except Nat (Nat × Bytes)}
    (hl : (strBytes nm).length = nm.length) (htok : CharTokX cfg (strBytes nm) c)
    (h : (match charNamed p nm c with | some x => .ok x | none => k) = res) :
    (∃ x, res = .ok x ∧ ∃ body, p = body ++ x.2 ∧ CharTokX cfg body x.1) ∨ k = res := by
  cases h1 : charNamed p nm c with
  | some x => rw [h1] at h; exact .inl ⟨x, h.symm, charNamed_tok hl htok h1⟩
  | none => rw [h1] at h; exact .inr h

theorem charBody_sound (ctx : Ctx) (p r : Bytes) (cp : Nat) (hp : p ≠ [])
    (h : charBody ctx p = .ok (cp, r)) : ∃ body, p = body ++ r ∧ CharTokX ctx.cfg body cp := by
  have found : ∀ {x : Nat × Bytes}, Except.ok (ε := Nat) (cp, r) = .ok x →
      (∃ body, p = body ++ x.2 ∧ CharTokX ctx.cfg body x.1) → ∃ body, p = body ++ r ∧ CharTokX ctx.cfg body cp :=
    fun e hx => by cases e; exact hx
  rw [charBody] at h
  rcases charNamed_step strBytes_len_newline .newline h with ⟨x, e, hx⟩ | h
  · exact found e hx
  rcases charNamed_step strBytes_len_return .ret h with ⟨x, e, hx⟩ | h
  · exact found e hx
  rcases charNamed_step strBytes_len_space .space h with ⟨x, e, hx⟩ | h
  · exact found e hx
  rcases charNamed_step strBytes_len_tab .tab h with ⟨x, e, hx⟩ | h
  · exact found e hx
  cases hclj : ctx.cfg.clj with
  | false =>
    rw [hclj] at h
    exact charTail_sound ctx p r cp hp h
  | true =>
    rw [hclj, if_pos rfl] at h
    cases h5 : charNamed p "formfeed" 0x0C with
    | some x =>
      rw [h5] at h; cases h
      exact charNamed_tok strBytes_len_formfeed (.formfeed hclj) h5
    | none =>
      rw [h5, Option.orElse_none] at h
      rcases charNamed_step strBytes_len_backspace (.backspace hclj) h with ⟨x, e, hx⟩ | h
      · exact found e hx
      · exact charTail_sound ctx p r cp hp h

theorem charBody_complete (ctx : Ctx) (body rest : Bytes) (cp : Nat) (h : CharTokX ctx.cfg body cp)
    (hr : DelimStart rest) : charBody ctx (body ++ rest) = .ok (cp, rest) := by
  cases h with
  | newline =>
    show charBody ctx (strBytes "newline" ++ rest) = _
    rw [charBody, charNamed_self strBytes_len_newline]
  | ret =>
    show charBody ctx (strBytes "return" ++ rest) = _
    rw [charBody, charNamed_other strBytes_newline strBytes_return (by decide),
      charNamed_self strBytes_len_return]
  | space =>
    show charBody ctx (strBytes "space" ++ rest) = _
    rw [charBody, charNamed_other strBytes_newline strBytes_space (by decide),
      charNamed_other strBytes_return strBytes_space (by decide), charNamed_self strBytes_len_space]
  | tab =>
    show charBody ctx (strBytes "tab" ++ rest) = _
    rw [charBody, charNamed_other strBytes_newline strBytes_tab (by decide),
      charNamed_other strBytes_return strBytes_tab (by decide),
      charNamed_other strBytes_space strBytes_tab (by decide), charNamed_self strBytes_len_tab]
  | formfeed hc =>
    show charBody ctx (strBytes "formfeed" ++ rest) = _
    rw [charBody, charNamed_other strBytes_newline strBytes_formfeed (by decide),
      charNamed_other strBytes_return strBytes_formfeed (by decide),
      charNamed_other strBytes_space strBytes_formfeed (by decide),
      charNamed_other strBytes_tab strBytes_formfeed (by decide), if_pos hc,
      charNamed_self strBytes_len_formfeed]
    rfl
  | backspace hc =>
    show charBody ctx (strBytes "backspace" ++ rest) = _
    rw [charBody, charNamed_other strBytes_newline strBytes_backspace (by decide),
      charNamed_other strBytes_return strBytes_backspace (by decide),
      charNamed_other strBytes_space strBytes_backspace (by decide),
      charNamed_other strBytes_tab strBytes_backspace (by decide), if_pos hc,
      charNamed_other strBytes_formfeed strBytes_backspace (by decide),
      charNamed_self strBytes_len_backspace]
    rfl
  | octal hc ds ho =>
    match ds, ho.nonempty with
    | a :: ds', _ =>
      have ha := oct_is09 (ho.octal a (by simp))
      rw [List.cons_append, charBody_no_name ctx _ _ (by decide) (by decide) (by decide) (by decide) (by decide)
        (by decide), charTail_octal ctx _ (by simp [peek_cons, hc, ha]), List.tail_cons,
        octalChar_complete _ _ ho hr]
  | unicode ds hd hl =>
    obtain ⟨a, b, c, d, ext, rfl⟩ : ∃ a b c d ext, ds = a :: b :: c :: d :: ext := by
      match ds, hl with
      | a :: b :: c :: d :: ext, _ => exact ⟨a, b, c, d, ext, rfl⟩
      | [], hl | [_], hl | [_, _], hl | [_, _, _], hl => simp at hl
    simp only [List.length_cons] at hl
    have hle : ext.length ≤ 2 := by
      rcases hl with hl | ⟨_, hl | hl⟩ <;> omega
    have hex : ext = [] ∨ ctx.cfg.exp = true := by
      rcases hl with hl | hl
      · exact .inl (List.eq_nil_of_length_eq_zero (by omega))
      · exact .inr hl.1
    obtain ⟨w, hw⟩ := Option.isSome_iff_exists.mp (hd a (by simp))
    obtain ⟨x, hx⟩ := Option.isSome_iff_exists.mp (hd b (by simp))
    obtain ⟨y, hy⟩ := Option.isSome_iff_exists.mp (hd c (by simp))
    obtain ⟨z, hz⟩ := Option.isSome_iff_exists.mp (hd d (by simp))
    have hext : ∀ e ∈ ext, (hexDigit? e).isSome = true := fun e he => hd e (by simp [he])
    rw [hexValue_four hw hx hy hz ext, List.cons_append,
      charBody_no_name ctx _ _ (by decide) (by decide) (by decide) (by decide) (by decide) (by decide),
      charTail_unicode ctx _ (by cases ctx.cfg.clj <;> rfl) (by simp [peek_cons, hw])]
    simp only [List.tail_cons, List.cons_append, hex4?_digits hw hx hy hz]
    rcases hex with rfl | he
    · rw [List.nil_append, show hexMore 2 _ rest = _ from hexMore_complete 2 _ [] rest (Nat.zero_le _) nofun hr, List.foldl_nil,
        ite_self]
    · rw [if_pos he, hexMore_complete 2 _ ext rest hle hext hr]
  | single c hc =>
    have h9 := delim_peek hr fun _ => delim_not09
    have hh := delim_peek hr fun _ => delim_notHex
    rw [List.singleton_append,
      charBody_tail ctx _ (charNamed_short c hr strBytes_newline (by decide +kernel) _)
        (charNamed_short c hr strBytes_return (by decide +kernel) _)
        (charNamed_short c hr strBytes_space (by decide +kernel) _)
        (charNamed_short c hr strBytes_tab (by decide +kernel) _)
        (charNamed_short c hr strBytes_formfeed (by decide +kernel) _)
        (charNamed_short c hr strBytes_backspace (by decide +kernel) _),
      charTail_single ctx _ (by rw [List.tail_cons, Bool.and_assoc, h9, Bool.and_false])
        (by rw [List.tail_cons, Bool.and_assoc, hh, Bool.and_false]), peek_cons, hc]
    rfl

theorem readCharacter_cases (ctx : Ctx) (st : St) :
    (∃ ee, readCharacter ctx st = .err (mkErr .invalidCharacter (some st.rest.length) (some ee)) st) ∨
    (∃ cp r, st.rest.tail ≠ [] ∧ charBody ctx st.rest.tail = .ok (cp, r) ∧ cp ≤ 0x10FFFF ∧ DelimStart r ∧
      readCharacter ctx st = .ok (.char (mkHdr st.rest.length r.length) cp) { st with rest := r }) := by
  by_cases hne : st.rest.tail.isEmpty = true
  · exact .inl ⟨_, by rw [readCharacter_eq, if_pos hne]; rfl⟩
  cases hb : charBody ctx st.rest.tail with
  | error ee => exact .inl ⟨ee, by rw [readCharacter_eq, if_neg hne, hb]; rfl⟩
  | ok x =>
    obtain ⟨cp, r⟩ := x
    by_cases hcp : cp > 0x10FFFF
    · exact .inl ⟨_, by rw [readCharacter_eq, if_neg hne, hb]; exact if_pos hcp⟩
    by_cases hd : (!r.isEmpty && !isDelim (peek r)) = true
    · exact .inl ⟨_, by rw [readCharacter_eq, if_neg hne, hb]; exact (if_neg hcp).trans (if_pos hd)⟩
    · exact .inr ⟨cp, r, fun e => hne (by rw [e]; rfl), rfl, Nat.le_of_not_gt hcp, delimStart_of_check hd,
        by rw [readCharacter_eq, if_neg hne, hb]; exact (if_neg hcp).trans (if_neg hd)⟩

theorem readCharacter_sound (ctx : Ctx) (st st' : St) (v : Val) (h : readCharacter ctx st = .ok v st') :
    ∃ c0 body cp, st.rest = c0 :: (body ++ st'.rest) ∧ st'.calls = st.calls ∧
      CharTokX ctx.cfg body cp ∧ cp ≤ 0x10FFFF ∧ DelimStart st'.rest ∧
      v = .char (mkHdr st.rest.length st'.rest.length) cp := by
  rcases readCharacter_cases ctx st with ⟨ee, he⟩ | ⟨cp, r, hp, hb, hcp, hd, hok⟩
  · rw [he] at h; cases h
  · rw [hok] at h
    cases h
    obtain ⟨body, hbody, htok⟩ := charBody_sound ctx _ r cp hp hb
    cases hs : st.rest with
    | nil => rw [hs] at hp; exact absurd rfl hp
    | cons c0 t =>
      rw [hs, List.tail_cons] at hbody
      exact ⟨c0, body, cp, by rw [hbody], rfl, htok, hcp, hd, rfl⟩

theorem readCharacter_sound' (ctx : Ctx) (p : Bytes) (cl : List Call) (st' : St) (v : Val)
    (h : readCharacter ctx { rest := 0x5C :: p, calls := cl } = .ok v st') :
    ∃ body cp, p = body ++ st'.rest ∧ st'.calls = cl ∧ CharTokX ctx.cfg body cp ∧ cp ≤ 0x10FFFF ∧
      DelimStart st'.rest ∧ strip v = .char hdr0 cp := by
  obtain ⟨c0, body, cp, hs, hc, htok, hcp, hd, rfl⟩ := readCharacter_sound ctx _ st' v h
  simp only [List.cons.injEq] at hs
  exact ⟨body, cp, hs.2, hc, htok, hcp, hd, by simp [strip]⟩

theorem readCharacter_err (ctx : Ctx) (st st' : St) (e : ErrInfo) (h : readCharacter ctx st = .err e st') :
    e.code = .invalidCharacter ∧ e.es = some st.rest.length ∧ st' = st := by
  rcases readCharacter_cases ctx st with ⟨ee, he⟩ | ⟨cp, r, -, -, -, -, hok⟩
  · rw [he] at h; cases h; exact ⟨rfl, rfl, rfl⟩
  · rw [hok] at h; cases h

theorem charTokX_nonempty {cfg : Cfg} {body : Bytes} {cp : Nat} (h : CharTokX cfg body cp) (rest : Bytes) :
    (body ++ rest).isEmpty = false := by
  cases h with
  | newline => show (strBytes "newline" ++ rest).isEmpty = false; rw [strBytes_newline]; rfl
  | ret => show (strBytes "return" ++ rest).isEmpty = false; rw [strBytes_return]; rfl
  | space => show (strBytes "space" ++ rest).isEmpty = false; rw [strBytes_space]; rfl
  | tab => show (strBytes "tab" ++ rest).isEmpty = false; rw [strBytes_tab]; rfl
  | formfeed _ => show (strBytes "formfeed" ++ rest).isEmpty = false; rw [strBytes_formfeed]; rfl
  | backspace _ => show (strBytes "backspace" ++ rest).isEmpty = false; rw [strBytes_backspace]; rfl
  | octal _ ds _ => rfl
  | unicode ds _ _ => rfl
  | single c _ => rfl

theorem readCharacter_complete (ctx : Ctx) (c0 : UInt8) (body rest : Bytes) (cl : List Call) (cp : Nat)
    (h : CharTokX ctx.cfg body cp) (hcp : cp ≤ 0x10FFFF) (hr : DelimStart rest) :
    readCharacter ctx { rest := c0 :: (body ++ rest), calls := cl } =
      .ok (.char (mkHdr (body.length + rest.length + 1) rest.length) cp) { rest := rest, calls := cl } := by
  rw [readCharacter_eq]
  simp only [List.tail_cons, charTokX_nonempty h rest, Bool.false_eq_true, if_false,
    charBody_complete ctx body rest cp h hr, show ¬ cp > 0x10FFFF from by omega, delim_peek hr (P := fun c => !isDelim c) (fun c hc => by rw [hc]; rfl),
    Ctx.pos, List.length_cons, List.length_append]

theorem charTokX_functional {cfg : Cfg} {body : Bytes} {cp cp' : Nat}
    (h : CharTokX cfg body cp) (h' : CharTokX cfg body cp') : cp = cp' := by
  have e1 := charBody_complete { cfg := cfg } body [] cp h (.inl rfl)
  have e2 := charBody_complete { cfg := cfg } body [] cp' h' (.inl rfl)
  rw [e1] at e2
  simpa using e2

theorem charBody_toX (cfg : Cfg) {body : Bytes} {cp : Nat} (h : CharBody body cp) : CharTokX cfg body cp := by
  cases h with
  | newline => exact .newline
  | ret => exact .ret
  | space => exact .space
  | tab => exact .tab
  | unicode a b c d cp hx =>
    obtain ⟨w, x, y, z, hw, hx', hy, hz, hv, _⟩ := hex4?_cons_some hx
    have := CharTokX.unicode (cfg := cfg) [a, b, c, d] (hexDigits_cons4 hw hx' hy hz nofun) (.inl rfl)
    rwa [hexValue_four hw hx' hy hz [], List.foldl_nil, ← hv] at this
  | single c hc => exact .single c (printable_valid cfg hc)

/-- a surrogate is accepted as a character … -/
example : (match readCharacter { cfg := Cfg.core } { rest := [0x5C, 0x75, 0x64, 0x38, 0x30, 0x30] } with
    | .ok (.char _ cp) st => cp == 0xD800 && st.rest.isEmpty
    | _ => false) = true := by decide +kernel

/-- … whereas the string decoder rejects `"\ud800"` -/
example : stringGet ⟨true, false⟩ [0x5C, 0x75, 0x64, 0x38, 0x30, 0x30] true = none := by decide +kernel

/-- `\é` (two bytes) is rejected: the first byte is a valid single character, the second is
    not a delimiter -/
example : (match readCharacter { cfg := Cfg.core } { rest := [0x5C, 0xC3, 0xA9] } with
    | .err e st => e.es == some 3 && e.ee == some 1 && st.rest.length == 3
    | _ => false) = true := by decide +kernel

/-- `\o400` is an error (no back-off to `\o40`), `\o377` is 255 -/
example : (match readCharacter { cfg := ⟨true, false⟩ } { rest := [0x5C, 0x6F, 0x34, 0x30, 0x30] } with
    | .err _ _ => true
    | _ => false) = true := by decide +kernel

example : CharTokX ⟨true, false⟩ [0x6F, 0x33, 0x37, 0x37] 255 :=
  .octal rfl [0x33, 0x37, 0x37] ⟨by decide, by decide, by decide, by decide⟩

end Edn.Proofs
