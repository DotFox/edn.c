/-
  * `Fr x a a'` ("frame"): from allocation state `a` to `a'` the parser's arena keeps its life
    state, its count of refused requests does not decrease, and it does not move at all when the
    oracle fails nothing.
  * `Sim x r a v`: the computation that started in `a` and returned `r` satisfies the frame, and
    *if the parser's arena is alive and its count of refused requests did not move, the result is
    the pure value `v`*.  With an oracle that fails nothing the count cannot move (`Fr.quiet`), so
    `Sim` gives the refinement; with an arbitrary oracle it says that a verdict obtained while the
    count stood still is the verdict of the fault-free run — which is what the callers of the
    duplicate check and of the metadata merge test.
  * `Quiet x a`: the oracle fails nothing and the parser's arena is alive, so every request on that
    arena is granted (`Quiet.granted`).
  Each primitive of the allocation state is framed (`request_fr` … `realloc_fr`).  At the end two pure
  counterparts that the looks (Edn.Proofs.AllocLook) are stated against: `cleanDigits_plain`, `mapEntry`.
-/
import Edn.Proofs.AllocBasic
import Edn.Proofs.EqualBody

namespace Edn.Proofs.AllocSim
open Edn.Model Edn.Proofs.AllocBasic Edn.Proofs

def NoFault (x : ACtx) : Prop := ∀ n, x.orc n = false

structure Fr (x : ACtx) (a a' : ASt) : Prop where
  arena : a'.arena = a.arena
  le : a.failedArena ≤ a'.failedArena
  quiet : NoFault x → a'.failedArena = a.failedArena

theorem Fr.refl (x : ACtx) (a : ASt) : Fr x a a := ⟨rfl, Nat.le_refl _, fun _ => rfl⟩

theorem Fr.trans {x : ACtx} {a b c : ASt} (h1 : Fr x a b) (h2 : Fr x b c) : Fr x a c :=
  ⟨h2.arena.trans h1.arena, Nat.le_trans h1.le h2.le, fun hx => (h2.quiet hx).trans (h1.quiet hx)⟩

theorem Fr.squeeze {x : ACtx} {a b c : ASt} (h1 : Fr x a b) (h2 : Fr x b c) (h : c.failedArena = a.failedArena) :
    b.failedArena = a.failedArena ∧ c.failedArena = b.failedArena := by
  have := h1.le; have := h2.le
  constructor <;> omega

theorem Fr.of_eq {x : ACtx} {a a' : ASt} (h1 : a'.arena = a.arena) (h2 : a'.failedArena = a.failedArena) : Fr x a a' :=
  ⟨h1, Nat.le_of_eq h2.symm, fun _ => h2⟩

def Sim {α : Type} (x : ACtx) (r : α × ASt) (a : ASt) (v : α) : Prop :=
  Fr x a r.2 ∧ (a.arena = .alive → r.2.failedArena = a.failedArena → r.1 = v)

theorem request_fr (x : ACtx) (k : ReqKind) (a : ASt) (old : Nat) : Fr x a (a.request x.orc k old).2 := by
  refine ⟨rfl, ?_, fun hx => ?_⟩
  · rw [request_failedArena]; split <;> omega
  · rw [request_failedArena, hx]; simp

theorem request_arena_ok (x : ACtx) (a : ASt) (old : Nat) (ha : a.arena = .alive)
    (hc : (a.request x.orc .arena old).2.failedArena = a.failedArena) : (a.request x.orc .arena old).1 = true := by
  rw [request_failedArena, ha] at hc
  rw [request_ok, ha]
  have e1 : (ReqKind.arena == ReqKind.arena) = true := rfl
  have e2 : (ArenaSt.alive == ArenaSt.alive) = true := rfl
  cases ho : x.orc (a.reqs + 1)
  · rfl
  · rw [ho, e1, e2] at hc
    simp only [Bool.and_self, ↓reduceIte] at hc
    omega

theorem request_nofault (x : ACtx) (hx : NoFault x) (k : ReqKind) (a : ASt) (old : Nat)
    (hk : k = .arena → a.arena = .alive) : (a.request x.orc k old).1 = true :=
  request_succeeds x.orc k a old (hx _) hk

def Quiet (x : ACtx) (a : ASt) : Prop := NoFault x ∧ a.arena = .alive

theorem Quiet.fr {x : ACtx} {a a' : ASt} (q : Quiet x a) (h : Fr x a a') : Quiet x a' := ⟨q.1, h.arena.trans q.2⟩

theorem Quiet.granted {x : ACtx} {a : ASt} (q : Quiet x a) (old : Nat) : (a.request x.orc .arena old).1 = true :=
  request_nofault x q.1 .arena a old fun _ => q.2

theorem not_quiet_of_refused {x : ACtx} {a : ASt} {old : Nat} (hr : (a.request x.orc .arena old).1 = false) :
    ¬ Quiet x a :=
  fun q => Bool.false_ne_true (hr.symm.trans (q.granted old))

theorem free_fr (x : ACtx) (i : Nat) (a : ASt) : Fr x a (a.free i) := Fr.of_eq rfl rfl

theorem rekey_fr (x : ACtx) (a : ASt) (o n : Nat) : Fr x a (a.rekey o n) := by
  unfold ASt.rekey
  split
  · exact Fr.of_eq rfl rfl
  · exact Fr.refl x a

theorem freeAll_fr (x : ACtx) (ids : List Nat) (a : ASt) : Fr x a (a.freeAll ids) := by
  induction ids generalizing a with
  | nil => exact Fr.refl x a
  | cons i is ih => exact (free_fr x i a).trans (ih (a.free i))

theorem release_fr (x : ACtx) (b : TbBuf) (a : ASt) : Fr x a (b.release a) := by
  unfold TbBuf.release
  exact (freeAll_fr x _ a).trans (free_fr x _ _)

theorem rawAlloc_fr (x : ACtx) (k : ReqKind) (a : ASt) : Fr x a (a.rawAlloc x.orc k).2 := by
  unfold ASt.rawAlloc
  have h := request_fr x k a 0
  cases hq : (a.request x.orc k).1 <;> simp only [hq, Bool.false_eq_true, ↓reduceIte]
  · exact h
  · exact h.trans (Fr.of_eq rfl rfl)

theorem rawAlloc_nofault (x : ACtx) (hx : NoFault x) (k : ReqKind) (a : ASt) (hk : k ≠ .arena) :
    (a.rawAlloc x.orc k).1.isSome = true :=
  Option.isSome_iff_exists.mpr (rawAlloc_succeeds x.orc k a (hx _) fun e => absurd e hk)

theorem realloc_fr (x : ACtx) (old : Nat) (a : ASt) : Fr x a (a.realloc x.orc old).2 := by
  unfold ASt.realloc
  have h := request_fr x .realloc a old
  cases hq : (a.request x.orc .realloc old).1 <;> simp only [hq, Bool.false_eq_true, ↓reduceIte]
  · exact h
  · exact h.trans (Fr.of_eq rfl rfl)

theorem realloc_nofault (x : ACtx) (hx : NoFault x) (old : Nat) (a : ASt) : (a.realloc x.orc old).1.isSome = true :=
  Option.isSome_iff_exists.mpr (realloc_succeeds x.orc old a (hx _))

theorem cleanDigits_plain (cfg : Cfg) (d : Bytes) (hc : (!(cfg.exp && d.contains 0x5F)) = true) :
    cleanDigits cfg d = d := by
  cases he : cfg.exp
  · unfold cleanDigits; rw [he]; rfl
  · rw [he] at hc
    exact cleanDigits_noUS cfg d (by simpa using hc)

/-- `mapEntryA` without the allocation state, for a comparison `q` that needs none: the value under
    the first key of `ks'` that is `q`-equal to `k` is `q`-equal to `v` -/
def mapEntry (q : Val → Val → Bool) (k v : Val) (ks' vs' : List Val) : Bool :=
  match findKey q k ks' vs' with
  | some v' => q v v'
  | none => false

theorem mapEntry_cons (q : Val → Val → Bool) (k v k' v' : Val) (ks vs : List Val) :
    mapEntry q k v (k' :: ks) (v' :: vs) = if q k k' then q v v' else mapEntry q k v ks vs := by
  show (match (if q k k' then some v' else findKey q k ks vs) with | some w => q v w | none => false) = _
  cases q k k' <;> rfl

end Edn.Proofs.AllocSim
