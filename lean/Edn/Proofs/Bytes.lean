/-
  Facts about the byte tables extracted from edn.c, each checked on all 256 bytes by the kernel
  (re-checked whenever Tables.lean is regenerated).  A fact that a property cites as it stands is a named
  Bool-valued table check (`def wsTerminates …`, `ws_terminates : ∀ c, wsTerminates c = true`); a fact
  used as a rewrite rule or an implication is stated in that form.  The digit table is swept once against
  a closed form (`digitValueRaw_eq`); what a digit is and is not follows from it by arithmetic, without a
  further sweep.  (The dispatch table: DispatchTable.lean.)
-/
import Edn.Model.Scan
import Edn.Model.Number
import Edn.Model.Str

namespace Edn.Proofs
open Edn.Model

theorem forall_u8_bool (f : UInt8 → Bool) (h : (List.range 256).all (fun n => f (UInt8.ofNat n)) = true) :
    ∀ c, f c = true := by
  intro c
  have := List.all_eq_true.mp h c.toNat (by simpa using c.toNat_lt)
  simpa using this

theorem peek_cons (c : UInt8) (t : Bytes) : peek (c :: t) = c := rfl
theorem adv_cons (a : UInt8) (u : Bytes) : adv (a :: u) = u := rfl
theorem peek_nil : peek [] = 0 := rfl

theorem dropWhile_run (p : UInt8 → Bool) (s : Bytes) :
    ∃ run, s = run ++ s.dropWhile p ∧ (∀ c ∈ run, p c = true) ∧ ∀ d r, s.dropWhile p = d :: r → p d = false := by
  refine ⟨s.takeWhile p, List.takeWhile_append_dropWhile.symm, List.all_eq_true.mp List.all_takeWhile, fun d r h => ?_⟩
  have := List.head?_dropWhile_not p s
  rw [h] at this
  simpa using this

theorem is09_iff (c : UInt8) : is09 c = true ↔ (0x30 ≤ c ∧ c ≤ 0x39) := by
  simp [is09]

theorem slice_append (a b : Bytes) : slice (a ++ b) b = a := by
  unfold slice
  rw [List.length_append, Nat.add_sub_cancel]
  exact List.take_left

theorem wsLane_isWs {c : UInt8} (h : wsLane c = true) : isWs c = true ∧ (c == 0x3B) = false := by
  have := forall_u8_bool (fun c => !wsLane c || (isWs c && c != 0x3B)) (by decide +kernel) c
  simpa [h] using this

theorem digitLane_isDigit (c : UInt8) : digitLane c = isDigit c := by
  simpa using forall_u8_bool (fun c => digitLane c == isDigit c) (by decide +kernel) c

def isDigitIff09 (c : UInt8) : Bool := isDigit c == (0x30 ≤ c && c ≤ 0x39)
theorem isDigit_eq_09 : ∀ c, isDigitIff09 c = true := forall_u8_bool _ (by decide +kernel)

theorem isPreWs_iff (c : UInt8) : isPreWs c = (isWs c || c == 0x3B) := by
  simpa using forall_u8_bool (fun c => isPreWs c == (isWs c || c == 0x3B)) (by decide +kernel) c

def wsTerminates (c : UInt8) : Bool := !(isWs c || c == 0x3B) || (isNumTerm c && isDelim c)
theorem ws_terminates : ∀ c, wsTerminates c = true := forall_u8_bool _ (by decide +kernel)

/-- the scanner's whitespace class is exactly the 11 bytes the documentation lists -/
def wsIsEleven (c : UInt8) : Bool :=
  isWs c == ((0x09 ≤ c && c ≤ 0x0D) || (0x1C ≤ c && c ≤ 0x20) || c == 0x2C)
theorem isWs_eq : ∀ c, wsIsEleven c = true := forall_u8_bool _ (by decide +kernel)

def numTermIsDelim (c : UInt8) : Bool := !isNumTerm c || isDelim c
theorem numTerm_isDelim : ∀ c, numTermIsDelim c = true := forall_u8_bool _ (by decide +kernel)

theorem isPreWs_of_not_delim {c : UInt8} (h : isDelim c = false) : isPreWs c = false := by
  have := ws_terminates c
  rw [wsTerminates, ← isPreWs_iff, h, Bool.and_false, Bool.or_false] at this
  simpa using this

theorem delim_closers : isDelim 0x29 = true ∧ isDelim 0x5D = true ∧ isDelim 0x7D = true ∧
    isDelim 0x22 = true ∧ isDelim 0x23 = true ∧ isDelim 0x5C = true := by decide +kernel

/-- `digit_value` of a byte: `0`..`9` ↦ 0..9, letters of either case ↦ 10..35, anything else 255 -/
def digitSpec (n : Nat) : Nat :=
  if 48 ≤ n ∧ n ≤ 57 then n - 48 else if 65 ≤ n ∧ n ≤ 90 then n - 55
  else if 97 ≤ n ∧ n ≤ 122 then n - 87 else 255

theorem digitValueRaw_eq (c : UInt8) : digitValueRaw c = digitSpec c.toNat := by
  have h : Generated.Tables.digitValues = (List.range 256).map digitSpec := by decide +kernel
  rw [digitValueRaw, h, List.getD_eq_getElem?_getD, List.getElem?_map,
    List.getElem?_range c.toNat_lt]
  rfl

theorem digitSpec_lt {n r : Nat} (hr : r ≤ 10) : digitSpec n < r ↔ 48 ≤ n ∧ n < 48 + r := by
  unfold digitSpec
  split
  · omega
  · split
    · omega
    · split <;> omega

theorem digitSpec_lt_ten {n : Nat} : digitSpec n < 10 ↔ 48 ≤ n ∧ n ≤ 57 := by
  rw [digitSpec_lt (Nat.le_refl 10)]
  omega

theorem digitValue_eq (c : UInt8) (r : Nat) :
    digitValue c r = if digitSpec c.toNat < r then some (digitSpec c.toNat) else none := by
  unfold digitValue
  rw [digitValueRaw_eq]

theorem isSome_digitValue (c : UInt8) (r : Nat) : (digitValue c r).isSome = decide (digitSpec c.toNat < r) := by
  rw [digitValue_eq]
  by_cases h : digitSpec c.toNat < r <;> simp [h]

theorem digitValue_mono {c : UInt8} {r r' : Nat} (h : (digitValue c r).isSome = true) (hr : r ≤ r') :
    (digitValue c r').isSome = true := by
  rw [isSome_digitValue, decide_eq_true_eq] at h ⊢
  omega

theorem ne_of_digit {c : UInt8} {r : Nat} (h : (digitValue c r).isSome = true) (b : UInt8)
    (hb : ¬ digitSpec b.toNat < r) : c ≠ b := by
  rintro rfl
  rw [isSome_digitValue, decide_eq_true_eq] at h
  exact hb h

theorem isSome_ten (c : UInt8) : (digitValue c 10).isSome = is09 c := by
  rw [isSome_digitValue, Bool.eq_iff_iff, decide_eq_true_eq, digitSpec_lt_ten, is09_iff, UInt8.le_iff_toNat_le,
    UInt8.le_iff_toNat_le]
  rfl

/-- what a delimiter is not: a digit of any radix, a hexadecimal digit, a sign, `_` or `:` -/
def delimRow (c : UInt8) : Bool :=
  !isDelim c || (!decide (digitSpec c.toNat < 36) && !(hexDigit? c).isSome &&
    c != 0x2B && c != 0x2D && c != 0x5F && c != 0x3A)
theorem delimRow_all : ∀ c, delimRow c = true := forall_u8_bool _ (by decide +kernel)

theorem delim_row {c : UInt8} (h : isDelim c = true) :
    (digitValue c 36).isSome = false ∧ (hexDigit? c).isSome = false ∧ c ≠ 0x2B ∧ c ≠ 0x2D ∧ c ≠ 0x5F ∧ c ≠ 0x3A := by
  have := delimRow_all c
  rw [delimRow, h, ← isSome_digitValue] at this
  simpa [and_assoc] using this

theorem digit_not_delim {c : UInt8} (h : (digitValue c 36).isSome = true) : isDelim c = false := by
  cases hd : isDelim c with
  | false => rfl
  | true => rw [(delim_row hd).1] at h; cases h

theorem radix_props {c : UInt8} {r : Nat} (hr : r ≤ 36) (h : (digitValue c r).isSome = true) :
    c ≠ 0 ∧ isDelim c = false ∧ c ≠ 0x5F ∧ c ≠ 0x2F ∧ c ≠ 0x2E ∧ c ≠ 0x2B ∧ c ≠ 0x2D := by
  have h36 := digitValue_mono h hr
  exact ⟨ne_of_digit h36 0 (by decide), digit_not_delim h36, ne_of_digit h36 0x5F (by decide),
    ne_of_digit h36 0x2F (by decide), ne_of_digit h36 0x2E (by decide), ne_of_digit h36 0x2B (by decide),
    ne_of_digit h36 0x2D (by decide)⟩

theorem hex_props {c : UInt8} (h : (digitValue c 16).isSome = true) :
    c ≠ 0x72 ∧ c ≠ 0x52 ∧ c ≠ 0x78 ∧ c ≠ 0x58 ∧ c ≠ 0x4E ∧ c ≠ 0x4D :=
  ⟨ne_of_digit h 0x72 (by decide), ne_of_digit h 0x52 (by decide), ne_of_digit h 0x78 (by decide),
    ne_of_digit h 0x58 (by decide), ne_of_digit h 0x4E (by decide), ne_of_digit h 0x4D (by decide)⟩

theorem octal_iff (c : UInt8) : (digitValue c 8).isSome = true ↔ 48 ≤ c.toNat ∧ c.toNat ≤ 55 := by
  rw [isSome_digitValue, decide_eq_true_eq, digitSpec_lt (by decide)]
  omega

theorem delim_not09 {c : UInt8} (h : isDelim c = true) : is09 c = false := by
  cases h9 : is09 c with
  | false => rfl
  | true => exact absurd (digit_not_delim (digitValue_mono (isSome_ten c ▸ h9) (by decide))) (by rw [h]; decide)

theorem delim_notHex {c : UInt8} (h : isDelim c = true) : (hexDigit? c).isSome = false := (delim_row h).2.1

theorem oct_is09 {c : UInt8} (h : isOct c = true) : is09 c = true := by
  simp only [isOct, is09, Bool.and_eq_true, decide_eq_true_eq] at h ⊢
  exact ⟨h.1, UInt8.le_trans h.2 (by decide)⟩

theorem delim_notOct {c : UInt8} (h : isDelim c = true) : isOct c = false := by
  cases ho : isOct c with
  | false => rfl
  | true => exact absurd (oct_is09 ho) (by rw [delim_not09 h]; exact Bool.false_ne_true)

end Edn.Proofs
