/-
  What every value satisfies that the reader returns when no registry is supplied (a handler may return
  anything): its nesting depth fits the equality budget, sets
  and map key lists are duplicate-free (hereditarily), and every filled cache cell holds that value's
  hash (`VOK`); the keys of an attached metadata map are such values too (`MdOK`), so the next
  annotation is merged as the specification merges it.  This makes the value-algebra theorems (C07,
  C08, C09) apply to "every tree the reader returns without a registry".
-/
import Edn.Spec.DispatchClj
import Edn.Proofs.MetaMerge
import Edn.Proofs.Run

namespace Edn.Proofs
open Edn.Model Edn.Spec Edn.Generated

def VOK (cfg : Cfg) (d : Nat) (v : Val) : Prop :=
  depth v + d ≤ Tables.maxNestingDepth ∧ WF cfg v ∧ cacheOK cfg v = true

def _root_.Edn.Model.Res.okP (P : Val → Prop) : Res → Prop
  | .ok v _ => P v
  | _ => True

theorem okP_elim {P : Val → Prop} {r : Res} (h : r.okP P) {v : Val} {st : St} (hr : r = .ok v st) : P v := by
  subst hr; exact h

theorem nest_le_rec : Tables.maxNestingDepth ≤ Tables.maxRecursionDepth := by decide

theorem VOK.weaken {cfg : Cfg} {d : Nat} {v : Val} (h : VOK cfg (d + 1) v) : VOK cfg d v :=
  ⟨by have := h.1; omega, h.2.1, h.2.2⟩

/-- a returned value is an operand of the value algebra: the nesting limit is below the equality budget -/
theorem AllocSim.El_of_VOK {cfg : Cfg} {d : Nat} {v : Val} (h : VOK cfg d v) : AllocSim.El cfg v :=
  ⟨Nat.lt_succ_of_le (Nat.le_trans (Nat.le_trans (Nat.le_add_right _ d) h.1) nest_le_rec), h.2.1, h.2.2⟩

theorem Elems_of_VOK {cfg : Cfg} {d : Nat} {xs : List Val} (hx : ∀ x ∈ xs, VOK cfg d x) : Elems cfg xs :=
  fun x hm => AllocSim.El_of_VOK (hx x hm)

/-- the keys of what an annotation contributes are operands: those of a map annotation, the keyword
    itself, or a synthesised keyword -/
theorem AllocSim.El_metaEntries {cfg : Cfg} {d : Nat} {m : Val} {nks nvs : List Val} (hm : VOK cfg d m)
    (he : metaEntries m = some (nks, nvs)) : Elems cfg nks := by
  have hE := AllocSim.El_of_VOK hm
  cases m <;> cases he
  case map h md => exact map_keys_Elems cfg h md _ _ hE.2.1 hE.1 hE.2.2
  case kw => exact Elems.single hE.1 hE.2.1 hE.2.2
  all_goals exact Elems.single (Nat.succ_pos _) trivial rfl

def freshLeaf (v : Val) : Bool := leaf v && v.hdr.hc == 0

theorem VOK_of_freshLeaf {cfg : Cfg} {d : Nat} {v : Val} (h : freshLeaf v = true)
    (hd : d ≤ Tables.maxNestingDepth) : VOK cfg d v := by
  have key : ∀ (x y : UInt64), (x == 0) = true → (x == 0 || x == y) = true := by
    intro x y hx; rw [hx]; rfl
  cases v with
  | list | vec | set | map | tagged => exact absurd h Bool.false_ne_true
  | _ => exact ⟨by show 0 + d ≤ _; omega, trivial, key _ _ h⟩

theorem depthL_VOK {cfg : Cfg} {d : Nat} {xs : List Val} (hd : d < Tables.maxNestingDepth)
    (hx : ∀ x ∈ xs, VOK cfg (d + 1) x) : depthL xs + (d + 1) ≤ Tables.maxNestingDepth := by
  have := depthL_le xs (Tables.maxNestingDepth - (d + 1)) fun y hy => by
    have := (hx y hy).1; omega
  omega

theorem VOK_of_Elems {cfg : Cfg} {d : Nat} {ys : List Val} (he : Elems cfg ys)
    (hdl : depthL ys + (d + 1) ≤ Tables.maxNestingDepth) : ∀ y ∈ ys, VOK cfg (d + 1) y := by
  intro y hy
  have := depth_le_depthL hy
  exact ⟨by omega, (he y hy).2.1, (he y hy).2.2⟩

/- what an element loop knows of its accumulator is a predicate on every element read so far -/
theorem no_mem_nil {P : Val → Prop} : ∀ x ∈ ([] : List Val), P x := nofun

theorem mem_cons_all {P : Val → Prop} {v : Val} {acc : List Val} (hv : P v) (ha : ∀ x ∈ acc, P x) :
    ∀ x ∈ v :: acc, P x := List.forall_mem_cons.mpr ⟨hv, ha⟩

theorem mem_reverse_all {P : Val → Prop} {xs : List Val} (h : ∀ x ∈ xs, P x) : ∀ x ∈ xs.reverse, P x :=
  fun x hm => h x (List.mem_reverse.mp hm)

theorem VOK_operands {cfg : Cfg} {d : Nat} {xs : List Val} (hd : d < Tables.maxNestingDepth)
    (hx : ∀ x ∈ xs, VOK cfg (d + 1) x) :
    depthL xs + 1 + d ≤ Tables.maxNestingDepth ∧ WFL cfg xs ∧ cacheOKL cfg xs = true :=
  ⟨by have := depthL_VOK hd hx; omega, (WFL_iff cfg xs).mpr fun x hm => (hx x hm).2.1,
    (cacheOKL_iff cfg xs).mpr fun x hm => (hx x hm).2.2⟩

/- In the cache parts below the header is fresh (`hc = 0`), so `rfl` decides the cell's disjunction
   from its first half and never evaluates the hash. -/

theorem VOK_list {cfg : Cfg} {d : Nat} (s e : Nat) {xs : List Val} (hd : d < Tables.maxNestingDepth)
    (hx : ∀ x ∈ xs, VOK cfg (d + 1) x) : VOK cfg d (.list (mkHdr s e) none xs) := by
  obtain ⟨h1, h2, h3⟩ := VOK_operands hd hx
  exact ⟨h1, h2, by show (_ && cacheOKL cfg xs) = true; rw [h3]; rfl⟩

theorem VOK_vec {cfg : Cfg} {d : Nat} (s e : Nat) {xs : List Val} (hd : d < Tables.maxNestingDepth)
    (hx : ∀ x ∈ xs, VOK cfg (d + 1) x) : VOK cfg d (.vec (mkHdr s e) none xs) := by
  obtain ⟨h1, h2, h3⟩ := VOK_operands hd hx
  exact ⟨h1, h2, by show (_ && cacheOKL cfg xs) = true; rw [h3]; rfl⟩

theorem VOK_set {cfg : Cfg} {d : Nat} (s e : Nat) {xs : List Val} (hd : d < Tables.maxNestingDepth)
    (hx : ∀ x ∈ xs, VOK cfg (d + 1) x) (hp : pairwiseDistinct cfg xs) :
    VOK cfg d (.set (mkHdr s e) none xs) := by
  obtain ⟨h1, h2, h3⟩ := VOK_operands hd hx
  exact ⟨h1, ⟨hp, h2⟩, by show (_ && cacheOKL cfg xs) = true; rw [h3]; rfl⟩

theorem VOK_map {cfg : Cfg} {d : Nat} (s e : Nat) {ks vs : List Val} (hd : d < Tables.maxNestingDepth)
    (hk : ∀ x ∈ ks, VOK cfg (d + 1) x) (hv : ∀ x ∈ vs, VOK cfg (d + 1) x)
    (hp : pairwiseDistinct cfg ks) (hl : ks.length = vs.length) :
    VOK cfg d (.map (mkHdr s e) none ks vs) := by
  obtain ⟨k1, k2, k3⟩ := VOK_operands hd hk
  obtain ⟨v1, v2, v3⟩ := VOK_operands hd hv
  exact ⟨by show max (depthL ks) (depthL vs) + 1 + d ≤ _; omega, ⟨hp, hl, k2, v2⟩,
    by show (_ && cacheOKL cfg ks && cacheOKL cfg vs) = true; rw [k3, v3]; rfl⟩

theorem VOK_tagged {cfg : Cfg} {d : Nat} (s e : Nat) (tag : Bytes) {v : Val}
    (hv : VOK cfg (d + 1) v) : VOK cfg d (.tagged (mkHdr s e) none tag v) :=
  ⟨by show depth v + 1 + d ≤ _; have := hv.1; omega, hv.2.1,
    by show (_ && cacheOK cfg v) = true; rw [hv.2.2]; rfl⟩

theorem VOK_set_close {cfg : Cfg} {d : Nat} (s e : Nat) {xs : List Val} (hd : d < Tables.maxNestingDepth)
    (hx : ∀ x ∈ xs, VOK cfg (d + 1) x) (hdup : (hasDuplicates cfg xs).1 = false) :
    VOK cfg d (.set (mkHdr s e) none (hasDuplicates cfg xs).2) := by
  obtain ⟨h1, h2, -, h4, h5⟩ := hasDuplicates_iff cfg xs (Elems_of_VOK hx)
  have hp := h1.mp hdup
  refine VOK_set s e hd (VOK_of_Elems h2 ?_) (h4 hp)
  rw [h5]; exact depthL_VOK hd hx

theorem VOK_map_close {cfg : Cfg} {d : Nat} (s e : Nat) {ks vs : List Val} (hd : d < Tables.maxNestingDepth)
    (hk : ∀ x ∈ ks, VOK cfg (d + 1) x) (hv : ∀ x ∈ vs, VOK cfg (d + 1) x) (hl : ks.length = vs.length)
    (hdup : (hasDuplicates cfg ks).1 = false) :
    VOK cfg d (.map (mkHdr s e) none (hasDuplicates cfg ks).2 vs) := by
  obtain ⟨h1, h2, h3, h4, h5⟩ := hasDuplicates_iff cfg ks (Elems_of_VOK hk)
  have hp := h1.mp hdup
  refine VOK_map s e hd (VOK_of_Elems h2 ?_) hv (h4 hp) (by rw [h3, hl])
  rw [h5]; exact depthL_VOK hd hk

theorem WF_setMd (cfg : Cfg) (v : Val) (m : Option Val) : WF cfg (v.setMd m) = WF cfg v := by
  cases v <;> rfl
theorem cacheOK_setMd (cfg : Cfg) (v : Val) (m : Option Val) : cacheOK cfg (v.setMd m) = cacheOK cfg v := by
  cases v <;> rfl

theorem VOK_setMd {cfg : Cfg} {d : Nat} {v : Val} (m : Option Val) (h : VOK cfg d v) :
    VOK cfg d (v.setMd m) := by
  unfold VOK
  rw [depth_setMd, WF_setMd, cacheOK_setMd]; exact h

theorem VOK_setHdr {cfg : Cfg} {d : Nat} {v : Val} (h' : Hdr) (hh : h'.hc = v.hdr.hc) (h : VOK cfg d v) :
    VOK cfg d (v.setHdr h') := by
  unfold VOK
  rw [depth_setHdr, WF_setHdr]
  refine ⟨h.1, h.2.1, cacheOK_setHdr cfg v h' h.2.2 ?_⟩
  rw [hh]; exact cacheOK_top cfg h.2.2

/-- the value `edn_read_metadata` returns -/
theorem VOK_meta {cfg : Cfg} {d : Nat} {form : Val} (m : Val) (nks nvs : List Val) (start : Nat)
    (h : VOK cfg (d + 1) form) :
    VOK cfg d ((attachMeta cfg m form nks nvs).setHdr { (attachMeta cfg m form nks nvs).hdr with s := start }) := by
  rw [attachMeta_eq]
  exact VOK_setHdr _ rfl (VOK_setMd _ h.weaken)

theorem VOK_qualifyKey {cfg : Cfg} {d : Nat} (n : Bytes) {k : Val} (hd : d ≤ Tables.maxNestingDepth)
    (h : VOK cfg d k) : VOK cfg d (qualifyKey n k) := by
  rcases qualifyKey_cases n k with e | ⟨_, _, e⟩ | ⟨_, _, e⟩ <;> rw [e]
  · exact h
  · exact VOK_of_freshLeaf rfl hd
  · exact VOK_of_freshLeaf rfl hd

theorem VOK_qualifyNs {cfg : Cfg} {d : Nat} (ns : Option Bytes) {k : Val} (hd : d ≤ Tables.maxNestingDepth)
    (h : VOK cfg d k) : VOK cfg d (qualifyNs ns k) := by
  cases ns with
  | none => exact h
  | some n => exact VOK_qualifyKey n hd h

theorem LeafPost.fresh {st : St} {r : Res} (h : LeafPost st r) : r.okP (freshLeaf · = true) := by
  cases r with
  | ok v st' =>
    obtain ⟨hl, hh⟩ := h
    show (leaf v && v.hdr.hc == 0) = true
    rw [hh]
    cases v <;> first | rfl | cases hl
  | closer st' => trivial
  | err e st' => trivial

theorem readIdentifier_fresh (ctx : Ctx) (st : St) : (readIdentifier ctx st).okP (freshLeaf · = true) :=
  (readIdentifier_leafRes ctx st).post.fresh

theorem LeafPost.inv {cfg : Cfg} {d : Nat} {st : St} {r : Res} (h : LeafPost st r) (hd : d ≤ Tables.maxNestingDepth) :
    r.okP fun v => VOK cfg d v ∧ AllocSim.MdOK cfg v := by
  cases r with
  | ok v st' => exact ⟨VOK_of_freshLeaf h.fresh hd, AllocSim.MdOK_of_none (isLeaf_md h.1)⟩
  | closer st' => trivial
  | err e st' => trivial

/-- the calls that occur: the depths at which each function is entered (`readTagged` also at the nesting
    limit, but only on the empty rest), with accumulators whose elements satisfy `VOK` one level deeper -/
def Call6.entered (cfg : Cfg) : Call6 → Prop
  | .v d _ _ => d ≤ Tables.maxNestingDepth
  | .s d _ _ _ _ acc => d < Tables.maxNestingDepth ∧ ∀ x ∈ acc, VOK cfg (d + 1) x
  | .m d _ _ _ _ ks vs => d < Tables.maxNestingDepth ∧ (∀ x ∈ ks, VOK cfg (d + 1) x) ∧
      (∀ x ∈ vs, VOK cfg (d + 1) x) ∧ ks.length = vs.length
  | .n d _ _ _ | .me d _ _ _ => d < Tables.maxNestingDepth
  | .t d _ _ st => d < Tables.maxNestingDepth ∨ st.rest = []

/-- what the value algebra needs of a returned value: `VOK` where it becomes an operand, `MdOK` where it
    becomes the target of a metadata merge -/
def ReaderInv (cfg : Cfg) (c : Call6) (r : Res) : Prop :=
  c.entered cfg → r.okP fun v => VOK cfg c.d v ∧ AllocSim.MdOK cfg v

/-- the route says at which depth `readValue` enters the next function; the closing rules build the value -/
theorem ReaderInv.step {ctx : Ctx} {R : Call6 → Res} (hreg : ctx.opts.registry = none)
    (hR : ∀ c, ReaderInv ctx.cfg c (R c)) {c : Call6} {r : Res} (h : StepRel ctx R c r) : ReaderInv ctx.cfg c r := by
  -- used in parentheses: elaborated against the goal, `into hr …` would take the call from the goal's depth
  have into {c r} (h : R c = r) : ReaderInv ctx.cfg c r := h ▸ hR c
  have val {d dm st v st'} (hv : R (.v d dm st) = .ok v st') (hd : d ≤ Tables.maxNestingDepth) :
      VOK ctx.cfg d v ∧ AllocSim.MdOK ctx.cfg v := into hv hd
  cases h with
  | vLeaf _ hrt => exact fun hd => ((route_bytes hrt).leafCall ctx _).leaf.elim fun _ hl => hl.2.post.inv hd
  | vSeq _ hrt hr => exact fun _ => (into hr) ⟨(route_bytes hrt).1, no_mem_nil⟩
  | vMap _ hrt hr => exact fun _ => (into hr) ⟨(route_bytes hrt).1, no_mem_nil, no_mem_nil, rfl⟩
  | vNsmap _ hrt hr => exact fun _ => (into hr) (route_bytes hrt).1
  | vTagged _ hrt hr => exact fun _ => (into hr) (route_bytes hrt).2.1
  | vMeta _ hrt hr => exact fun _ => (into hr) (route_bytes hrt).1
  | vSkipOk _ _ _ hr => exact fun hd => (into hr) hd
  | sNext hv hr => exact fun ⟨hd, hacc⟩ => (into hr) ⟨hd, mem_cons_all (val hv hd).1 hacc⟩
  | sList => exact fun ⟨hd, hacc⟩ => ⟨VOK_list _ _ hd (mem_reverse_all hacc), AllocSim.MdOK_of_none rfl⟩
  | sVec => exact fun ⟨hd, hacc⟩ => ⟨VOK_vec _ _ hd (mem_reverse_all hacc), AllocSim.MdOK_of_none rfl⟩
  | sSet _ _ _ _ hdup =>
    exact fun ⟨hd, hacc⟩ => ⟨VOK_set_close _ _ hd (mem_reverse_all hacc) hdup, AllocSim.MdOK_of_none rfl⟩
  | mNext hv hv2 hr =>
    intro ⟨hd, hks, hvs, hl⟩
    exact (into hr) ⟨hd, mem_cons_all (VOK_qualifyNs _ hd (val hv hd).1) hks, mem_cons_all (val hv2 hd).1 hvs,
      congrArg (· + 1) hl⟩
  | mOk _ _ hdup =>
    exact fun ⟨hd, hks, hvs, hl⟩ => ⟨VOK_map_close _ _ hd (mem_reverse_all hks) (mem_reverse_all hvs)
      (by rw [List.length_reverse, List.length_reverse, hl]) hdup, AllocSim.MdOK_of_none rfl⟩
  | nNext _ _ hr => exact fun hd => (into hr) ⟨hd, no_mem_nil, no_mem_nil, rfl⟩
  | tOk hs _ _ hv =>
    intro hd
    rw [tagOut_none hreg]
    exact ⟨VOK_tagged _ _ _ (val hv (hd.resolve_right (hs ▸ List.cons_ne_nil _ _))).1, AllocSim.MdOK_of_none rfl⟩
  -- the annotation's keys are operands (`El_metaEntries`), the target keeps the keys it had
  | meOk hv hm hv2 ht =>
    exact fun hd => ⟨VOK_meta _ _ _ _ (val hv2 hd).1, AllocSim.MdOK_setHdr _
      (AllocSim.MdOK_attachMeta ht (AllocSim.El_metaEntries (val hv hd).1 hm) (val hv2 hd).2)⟩
  -- the rules that answer an error or a closing delimiter
  | _ => exact fun _ => trivial

theorem run_inv (ctx : Ctx) (hreg : ctx.opts.registry = none) (f : Nat) : ∀ c, ReaderInv ctx.cfg c (run ctx f c) :=
  run_ind ctx (P := fun _ R => ∀ c, ReaderInv ctx.cfg c (R c)) (fun _ _ => trivial)
    (fun _ ih c => ReaderInv.step hreg ih (step_rel c)) f

theorem readValue_inv (ctx : Ctx) (hreg : ctx.opts.registry = none) (f d : Nat) (dm : Bool) (st st' : St) (v : Val)
    (hd : d ≤ Tables.maxNestingDepth)
    (h : readValue ctx f d dm st = .ok v st') : VOK ctx.cfg d v :=
  (okP_elim (run_inv ctx hreg f (.v d dm st) hd) h).1

theorem readValue_mdOK (ctx : Ctx) (hreg : ctx.opts.registry = none) (f d : Nat) (dm : Bool) (st st' : St) (v : Val)
    (hd : d ≤ Tables.maxNestingDepth)
    (h : readValue ctx f d dm st = .ok v st') : AllocSim.MdOK ctx.cfg v :=
  (okP_elim (run_inv ctx hreg f (.v d dm st) hd) h).2

end Edn.Proofs
