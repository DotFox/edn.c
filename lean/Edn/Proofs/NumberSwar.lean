/-
  The SWAR block converter (`is_made_of_eight_digits_fast`,
  `parse_eight_digits_unrolled`).  A 64-bit word is read as a little-endian list of lanes
  (`lanes`); a mask that repeats one byte acts lane by lane, and each multiply–shift–mask
  step of the converter is the same fact about lanes of width 8, 16 and 32 (`stage`).
-/
import Edn.Model.Number
namespace Edn.Proofs
open Edn.Model

def digitsVal (ds : Bytes) : Nat := ds.foldl (fun a c => a * 10 + dval c) 0

namespace NumSwar

def lanes (B : Nat) : List Nat → Nat
  | [] => 0
  | a :: l => a + B * lanes B l

theorem lanes_lt {B : Nat} : ∀ {l : List Nat}, (∀ a ∈ l, a < B) → lanes B l < B ^ l.length
  | [], _ => Nat.one_pos
  | a :: l, h => by
    have ha := h a List.mem_cons_self
    have ih : lanes B l + 1 ≤ B ^ l.length := lanes_lt fun x hx => h x (List.mem_cons_of_mem _ hx)
    have := Nat.mul_le_mul_left B ih
    rw [Nat.mul_succ] at this
    rw [List.length_cons, Nat.pow_succ, Nat.mul_comm _ B]
    simp only [lanes]
    omega

theorem and_lane {w : Nat} (a b x y : Nat) (ha : a < 2 ^ w) (hb : b < 2 ^ w) :
    (a + 2 ^ w * x) &&& (b + 2 ^ w * y) = (a &&& b) + 2 ^ w * (x &&& y) := by
  have hp : 0 < 2 ^ w := Nat.two_pow_pos w
  have h1 : ((a + 2 ^ w * x) &&& (b + 2 ^ w * y)) % 2 ^ w = a &&& b := by
    rw [Nat.and_mod_two_pow, Nat.add_mul_mod_self_left, Nat.add_mul_mod_self_left,
      Nat.mod_eq_of_lt ha, Nat.mod_eq_of_lt hb]
  have h2 : ((a + 2 ^ w * x) &&& (b + 2 ^ w * y)) / 2 ^ w = x &&& y := by
    rw [Nat.and_div_two_pow, Nat.add_mul_div_left _ _ hp, Nat.add_mul_div_left _ _ hp,
      Nat.div_eq_of_lt ha, Nat.div_eq_of_lt hb, Nat.zero_add, Nat.zero_add]
  rw [← Nat.div_add_mod (_ &&& _) (2 ^ w), h1, h2, Nat.add_comm]

theorem and_lanes_const {w k : Nat} (hk : k < 2 ^ w) : ∀ {l : List Nat}, (∀ a ∈ l, a < 2 ^ w) →
    lanes (2 ^ w) l &&& lanes (2 ^ w) (List.replicate l.length k) = lanes (2 ^ w) (l.map (· &&& k))
  | [], _ => Nat.zero_and _
  | a :: l, h => by
    simp only [lanes, List.length_cons, List.replicate_succ, List.map_cons]
    rw [and_lane _ _ _ _ (h a List.mem_cons_self) hk,
      and_lanes_const hk fun x hx => h x (List.mem_cons_of_mem _ hx)]

theorem add_lanes_const (B k : Nat) : ∀ l : List Nat,
    lanes B l + lanes B (List.replicate l.length k) = lanes B (l.map (· + k))
  | [] => rfl
  | a :: l => by
    simp only [lanes, List.length_cons, List.replicate_succ, List.map_cons, ← add_lanes_const B k l,
      Nat.mul_add]
    omega

theorem lanes_eq_const {B k : Nat} (hk : k < B) : ∀ {l : List Nat}, (∀ a ∈ l, a < B) →
    (lanes B l = lanes B (List.replicate l.length k) ↔ ∀ a ∈ l, a = k)
  | [], _ => by simp
  | a :: l, h => by
    have ha := h a List.mem_cons_self
    have ih := lanes_eq_const hk fun x hx => h x (List.mem_cons_of_mem _ hx)
    simp only [lanes, List.length_cons, List.replicate_succ, List.forall_mem_cons, ← ih]
    constructor
    · intro e
      have := congrArg (· % B) e
      simp only [Nat.add_mul_mod_self_left, Nat.mod_eq_of_lt ha, Nat.mod_eq_of_lt hk] at this
      subst this
      exact ⟨rfl, Nat.eq_of_mul_eq_mul_left (by omega) (Nat.add_left_cancel e)⟩
    · rintro ⟨rfl, e⟩; rw [e]

theorem toNat_lt_lane (b : Bytes) : ∀ a ∈ b.map UInt8.toNat, a < 2 ^ 8 := by
  simp only [List.forall_mem_map]; exact fun c _ => c.toNat_lt

theorem or_byte (x c : Nat) (hc : c < 256) : x * 256 ||| c = c + 2 ^ 8 * x := by
  have := Nat.two_pow_add_eq_or_of_lt (i := 8) (b := c) (by omega) x
  rw [show x * 256 = 2 ^ 8 * x by omega, ← this]; omega

theorem foldr_load : ∀ (l : Bytes), l.length ≤ 8 →
    (l.foldr (fun (c : UInt8) (acc : UInt64) => acc <<< 8 ||| c.toUInt64) 0).toNat
      = lanes (2 ^ 8) (l.map UInt8.toNat)
  | [], _ => rfl
  | c :: cs, h => by
    have h' : cs.length ≤ 7 := Nat.le_of_succ_le_succ h
    have hlt := lanes_lt (toNat_lt_lane cs)
    rw [List.length_map] at hlt
    have hpow : (2 ^ 8) ^ cs.length ≤ (2 ^ 8) ^ 7 := Nat.pow_le_pow_right (by decide) h'
    simp only [List.foldr_cons, UInt64.toNat_or, UInt64.toNat_shiftLeft, UInt8.toNat_toUInt64,
      foldr_load cs (by omega), List.map_cons, lanes]
    rw [show (8 : UInt64).toNat % 64 = 8 by rfl, Nat.shiftLeft_eq, Nat.mod_eq_of_lt (by omega)]
    exact or_byte _ _ c.toNat_lt

theorem load64le_toNat (b : Bytes) (h : b.length = 8) :
    (load64le b).toNat = lanes (2 ^ 8) (b.map UInt8.toNat) := by
  unfold load64le
  rw [List.take_of_length_le (by omega)]
  exact foldr_load b (by omega)

theorem byteHi (n : Nat) (h : n < 2 ^ 8) : n &&& 240 = 48 ↔ 48 ≤ n ∧ n ≤ 63 :=
  (by decide +kernel : ∀ n : Fin 256, n.val &&& 240 = 48 ↔ 48 ≤ n.val ∧ n.val ≤ 63) ⟨n, h⟩
theorem byteLo (n : Nat) (h1 : 48 ≤ n) (h2 : n ≤ 63) : n &&& 15 = n - 48 :=
  (by decide +kernel : ∀ n : Fin 256, 48 ≤ n.val → n.val ≤ 63 → n.val &&& 15 = n.val - 48)
    ⟨n, by omega⟩ h1 h2

theorem is09_iff_toNat (c : UInt8) : is09 c = true ↔ (48 ≤ c.toNat ∧ c.toNat ≤ 57) := by
  simp [is09, UInt8.le_iff_toNat_le]

theorem hiNibbles_iff {l : List Nat} (h8 : l.length = 8) (hl : ∀ a ∈ l, a < 2 ^ 8) :
    lanes (2 ^ 8) l &&& 0xF0F0F0F0F0F0F0F0 = 0x3030303030303030 ↔ ∀ a ∈ l, 48 ≤ a ∧ a ≤ 63 := by
  have cF : (0xF0F0F0F0F0F0F0F0 : Nat) = lanes (2 ^ 8) (List.replicate l.length 0xF0) := by
    rw [h8]; decide
  have c3 : (0x3030303030303030 : Nat) = lanes (2 ^ 8) (List.replicate (l.map (· &&& 0xF0)).length 0x30) := by
    rw [List.length_map, h8]; decide
  rw [cF, and_lanes_const (by decide) hl, c3, lanes_eq_const (by decide), List.forall_mem_map]
  · exact forall₂_congr fun a ha => byteHi a (hl a ha)
  · rw [List.forall_mem_map]
    exact fun a _ => Nat.lt_of_le_of_lt Nat.and_le_right (by decide)

theorem eightDigits_lanes {l : List Nat} (h8 : l.length = 8) (hl : ∀ a ∈ l, a < 2 ^ 8) :
    (lanes (2 ^ 8) l &&& 0xF0F0F0F0F0F0F0F0 = 0x3030303030303030 ∧
      (lanes (2 ^ 8) l + 0x0606060606060606) % 2 ^ 64 &&& 0xF0F0F0F0F0F0F0F0 = 0x3030303030303030)
    ↔ ∀ a ∈ l, 48 ≤ a ∧ a ≤ 57 := by
  have c6 : (0x0606060606060606 : Nat) = lanes (2 ^ 8) (List.replicate l.length 6) := by
    rw [h8]; decide
  -- once the first test has passed, adding 6 to every byte does not carry
  have plus6 : (∀ a ∈ l, a ≤ 63) →
      ((lanes (2 ^ 8) l + 0x0606060606060606) % 2 ^ 64 &&& 0xF0F0F0F0F0F0F0F0 = 0x3030303030303030
        ↔ ∀ a ∈ l, 42 ≤ a ∧ a ≤ 57) := by
    intro hle
    have hl6 : ∀ a ∈ l.map (· + 6), a < 2 ^ 8 := by
      rw [List.forall_mem_map]; exact fun a ha => Nat.lt_of_le_of_lt (Nat.add_le_add_right (hle a ha) 6) (by decide)
    have hlt := lanes_lt hl6
    rw [List.length_map, h8] at hlt
    rw [c6, add_lanes_const, Nat.mod_eq_of_lt hlt, hiNibbles_iff (by rw [List.length_map, h8]) hl6,
      List.forall_mem_map]
    exact forall₂_congr fun a _ => by omega
  rw [hiNibbles_iff h8 hl]
  constructor
  · rintro ⟨h1, h2⟩ a ha
    exact ⟨(h1 a ha).1, (((plus6 fun a ha => (h1 a ha).2).1 h2) a ha).2⟩
  · intro hd
    have h1 : ∀ a ∈ l, 48 ≤ a ∧ a ≤ 63 := fun a ha => ⟨(hd a ha).1, by have := (hd a ha).2; omega⟩
    exact ⟨h1, (plus6 fun a ha => (h1 a ha).2).2 fun a ha => ⟨by have := (hd a ha).1; omega, (hd a ha).2⟩⟩

theorem eightDigitsFast_nat (v : UInt64) :
    eightDigitsFast v = true ↔
      (v.toNat &&& 0xF0F0F0F0F0F0F0F0 = 0x3030303030303030 ∧
       (v.toNat + 0x0606060606060606) % 2 ^ 64 &&& 0xF0F0F0F0F0F0F0F0 = 0x3030303030303030) := by
  unfold eightDigitsFast
  rw [Bool.and_eq_true, beq_iff_eq, beq_iff_eq, ← UInt64.toNat_inj, ← UInt64.toNat_inj (a := _ &&& _),
    UInt64.toNat_and, UInt64.toNat_and, UInt64.toNat_add]
  exact Iff.rfl

theorem _root_.Edn.Proofs.eightDigitsFast_eq (b : Bytes) (h : b.length = 8) :
    eightDigitsFast (load64le b) = b.all is09 := by
  rw [Bool.eq_iff_iff, eightDigitsFast_nat, load64le_toNat _ h,
    eightDigits_lanes (by rw [List.length_map, h]) (toNat_lt_lane b), List.forall_mem_map,
    List.all_eq_true]
  exact forall₂_congr fun c _ => (is09_iff_toNat c).symm

def pairUp (m : Nat) : List Nat → List Nat
  | a :: b :: l => (m * a + b) :: pairUp m l
  | _ => []

theorem pairUp_le {m D : Nat} : ∀ {l : List Nat}, (∀ d ∈ l, d ≤ D) → ∀ e ∈ pairUp m l, e ≤ m * D + D
  | [], _ | [_], _ => by simp [pairUp]
  | a :: b :: l, h => by
    simp only [List.forall_mem_cons] at h
    simp only [pairUp, List.forall_mem_cons]
    exact ⟨Nat.add_le_add (Nat.mul_le_mul_left m h.1) h.2.1, pairUp_le h.2.2⟩

/-- Multiplying by `m·B + 1` adds to every lane `m` times the lane below it; when all those sums fit
    in a lane, the even lanes of the product shifted down by one lane hold `m·a + b` for each pair of
    neighbours `a, b`.  `p` is the lane below the lowest one of `l`. -/
theorem mulShift_lanes {w m D : Nat} (hD : m * D + D < 2 ^ w) : ∀ (l : List Nat) (p : Nat),
    (∀ d ∈ l, d ≤ D) → p ≤ D →
    (m * p + (m * 2 ^ w + 1) * lanes (2 ^ w) l) / 2 ^ w
        &&& lanes (2 ^ w * 2 ^ w) ((pairUp m l).map fun _ => 2 ^ w - 1)
      = lanes (2 ^ w * 2 ^ w) (pairUp m l)
  | [], _, _, _ | [_], _, _, _ => by simp [pairUp, lanes]
  | a :: b :: l, p, h, hp => by
    simp only [List.forall_mem_cons] at h
    obtain ⟨ha, hb, hl⟩ := h
    have hB : 0 < 2 ^ w := Nat.two_pow_pos w
    have h1 : m * p + a < 2 ^ w := by have := Nat.mul_le_mul_left m hp; omega
    have h2 : m * a + b < 2 ^ w := by have := Nat.mul_le_mul_left m ha; omega
    have ih := mulShift_lanes hD l b hl hb
    simp only [lanes, pairUp, List.map_cons]
    generalize lanes (2 ^ w) l = y at ih
    generalize lanes (2 ^ w * 2 ^ w) ((pairUp m l).map fun _ => 2 ^ w - 1) = M at ih
    generalize lanes (2 ^ w * 2 ^ w) (pairUp m l) = R at ih
    -- the product written lane by lane; `y` stands for the lanes above `a`, `b`
    have e : m * p + (m * 2 ^ w + 1) * (a + 2 ^ w * (b + 2 ^ w * y)) =
        (m * p + a) + 2 ^ w * ((m * a + b) + 2 ^ w * (m * b + (m * 2 ^ w + 1) * y)) := by grind
    rw [e, Nat.add_mul_div_left _ _ hB, Nat.div_eq_of_lt h1, Nat.zero_add]
    -- the mask lets `m·a + b` pass, clears the lane above it, and the rest is the induction hypothesis
    generalize hY : m * b + (m * 2 ^ w + 1) * y = Y at ih
    have hr := Nat.mod_lt Y hB
    rw [← Nat.mod_add_div Y (2 ^ w), Nat.mul_assoc, Nat.mul_assoc, ← Nat.zero_add (2 ^ w * M),
      and_lane _ _ _ _ h2 (Nat.sub_one_lt (Nat.ne_of_gt hB)), and_lane _ _ _ _ hr hB, ih,
      Nat.and_zero, Nat.zero_add, Nat.and_two_pow_sub_one_eq_mod, Nat.mod_eq_of_lt h2]

theorem and_mod_of_lt {M k : Nat} (h : M < 2 ^ k) (x : Nat) : x % 2 ^ k &&& M = x &&& M := by
  have := Nat.and_mod_two_pow (a := x) (b := M) (n := k)
  rw [Nat.mod_eq_of_lt h] at this
  rw [← this, Nat.mod_eq_of_lt (Nat.lt_of_le_of_lt Nat.and_le_right h)]

/-- one multiply–shift–mask step of `parse_eight_digits_unrolled` on a 64-bit word made of lanes of
    width `w`: the product may wrap, but what wraps is masked off -/
theorem stage {w w' m D : Nat} (hw : w ≤ 64) (hw' : w' = w + w) (hD : m * D + D < 2 ^ w) {l : List Nat}
    (hl : ∀ d ∈ l, d ≤ D) {K M : Nat} (hK : K = m * 2 ^ w + 1)
    (hM : M = lanes (2 ^ w') ((pairUp m l).map fun _ => 2 ^ w - 1)) (hlt : M < 2 ^ (64 - w)) :
    lanes (2 ^ w) l * K % 2 ^ 64 / 2 ^ w &&& M = lanes (2 ^ w') (pairUp m l) := by
  have h64 : 2 ^ 64 = 2 ^ w * 2 ^ (64 - w) := by rw [← Nat.pow_add, Nat.add_sub_of_le hw]
  rw [h64, Nat.mod_mul_right_div_self, and_mod_of_lt hlt, hM, hK, hw', Nat.pow_add, Nat.mul_comm,
    ← mulShift_lanes hD l 0 hl (Nat.zero_le _), Nat.mul_zero, Nat.zero_add]

theorem parseEightDigits_nat (v : UInt64) : (parseEightDigits v).toNat =
    ((((((v.toNat &&& 0x0F0F0F0F0F0F0F0F) * 2561 % 2 ^ 64) / 2 ^ 8 &&& 0x00FF00FF00FF00FF) * 6553601 % 2 ^ 64) / 2 ^ 16
        &&& 0x0000FFFF0000FFFF) * 42949672960001 % 2 ^ 64) / 2 ^ 32 &&& 0xFFFFFFFF := by
  unfold parseEightDigits
  simp only [UInt64.toNat_and, UInt64.toNat_mul, UInt64.toNat_shiftRight, Nat.shiftRight_eq_div_pow]
  rfl

theorem dval_le_nine {c : UInt8} (h : is09 c = true) : dval c ≤ 9 := by
  have := (is09_iff_toNat c).1 h
  unfold dval; omega

theorem loNibbles (b : Bytes) (h : b.length = 8) (hd : b.all is09 = true) :
    lanes (2 ^ 8) (b.map UInt8.toNat) &&& 0x0F0F0F0F0F0F0F0F = lanes (2 ^ 8) (b.map dval) := by
  have cM : (0x0F0F0F0F0F0F0F0F : Nat) = lanes (2 ^ 8) (List.replicate (b.map UInt8.toNat).length 15) := by
    rw [List.length_map, h]; decide
  rw [cM, and_lanes_const (by decide) (toNat_lt_lane b), List.map_map]
  congr 1
  refine List.map_congr_left fun c hc => ?_
  have := (is09_iff_toNat c).1 (List.all_eq_true.1 hd c hc)
  exact byteLo _ this.1 (by omega)

theorem length8 (b : Bytes) (h : b.length = 8) :
    ∃ b0 b1 b2 b3 b4 b5 b6 b7, b = [b0, b1, b2, b3, b4, b5, b6, b7] := by
  match b, h with
  | [b0, b1, b2, b3, b4, b5, b6, b7], _ => exact ⟨b0, b1, b2, b3, b4, b5, b6, b7, rfl⟩

theorem _root_.Edn.Proofs.parseEightDigits_eq (b : Bytes) (h : b.length = 8) (hd : b.all is09 = true) :
    (parseEightDigits (load64le b)).toNat = digitsVal b := by
  have h0 : ∀ d ∈ b.map dval, d ≤ 9 := by
    rw [List.forall_mem_map]; exact fun c hc => dval_le_nine (List.all_eq_true.1 hd c hc)
  have h1 := pairUp_le (m := 10) h0
  have h2 := pairUp_le (m := 100) h1
  rw [parseEightDigits_nat, load64le_toNat _ h, loNibbles b h hd]
  obtain ⟨b0, b1, b2, b3, b4, b5, b6, b7, rfl⟩ := length8 b h
  -- digits to pairs (×10), pairs to fours (×100), fours to the value (×10000)
  rw [stage (w := 8) (w' := 16) (m := 10) (K := 2561) (M := 0x00FF00FF00FF00FF)
      (by decide) rfl (by decide) h0 (by decide) (by simp [pairUp, lanes]) (by decide),
    stage (w := 16) (w' := 32) (m := 100) (K := 6553601) (M := 0x0000FFFF0000FFFF)
      (by decide) rfl (by decide) h1 (by decide) (by simp [pairUp, lanes]) (by decide),
    stage (w := 32) (w' := 64) (m := 10000) (K := 42949672960001) (M := 0xFFFFFFFF)
      (by decide) rfl (by decide) h2 (by decide) (by simp [pairUp, lanes]) (by decide)]
  simp only [List.map, pairUp, lanes, digitsVal, List.foldl]
  omega

end NumSwar
end Edn.Proofs
