/-
  Continuation independence: what follows a form does not influence how the form is read.  Two runs
  of the same oracle are compared, the big one on an input followed by `r` and the small one on the
  input alone: for every rule by which the big run answers a value (or a closing delimiter) without
  touching `r`, the rule of the small run is exhibited.  The small run may be at a smaller nesting
  depth and in the other discard mode (no registry): the nesting depth only decides between a value
  and the "too deep" error, so the same induction gives depth monotonicity.
-/
import Edn.Spec.DispatchClj
import Edn.Proofs.Ranges
import Edn.Proofs.ReReadLeaf

namespace Edn.Proofs
open Edn.Model Edn.Spec
open Edn.Generated

theorem skipWs_idem_sk (s : Bytes) : skipWs (skipWs s) = skipWs s := skipWs_idem s

theorem qualifyNs_shiftV (ns : Option Bytes) (j : Nat) (k : Val) : qualifyNs ns (shiftV j k) = shiftV j (qualifyNs ns k) := by
  cases ns with
  | none => rfl
  | some n => simp only [qualifyNs, qualifyKey_shiftV]

/-- `big` is the answer on an input followed by `r`, `small` the answer on the input alone (and
    possibly at a smaller nesting depth): if `big` is a value or a closing delimiter found without
    touching `r`, then `small` is the same answer with every position smaller by `r.length`.
    A closing delimiter is an answer only inside a collection, which is what `P` says of the
    small run. -/
def CutRes (P : Prop) (r : Bytes) (cl : List Call) (big small : Res) : Prop :=
  match big with
  | .ok v st' => r.length ≤ st'.rest.length →
      ∃ t' v', st' = { rest := t' ++ r, calls := cl } ∧ small = .ok v' { rest := t', calls := cl } ∧
        shiftV r.length v' = v
  | .closer st' => P → r.length < st'.rest.length →
      ∃ t', st' = { rest := t' ++ r, calls := cl } ∧ small = .closer { rest := t', calls := cl }
  | .err _ _ => True

theorem CutRes.of_le {P : Prop} {r : Bytes} {cl : List Call} {big small : Res}
    (h : r.length ≤ big.st.rest.length → CutRes P r cl big small) : CutRes P r cl big small := by
  cases big with
  | ok v st' => intro hl; exact h hl hl
  | closer st' => intro hP hl; exact h (Nat.le_of_lt hl) hP hl
  | err e st' => trivial

/-- the big run started inside `r` -/
theorem CutRes.vac {P : Prop} {r : Bytes} {cl : List Call} {big small : Res} {st : St}
    (hp : Progress st big) (hst : st.rest.length ≤ r.length) : CutRes P r cl big small := by
  cases big with
  | ok v st' => intro hl; simp only [Progress] at hp; omega
  | closer st' => intro _ hl; simp only [Progress] at hp; omega
  | err e st' => trivial

theorem leaf_cutRes {P : Prop} {r : Bytes} {cl : List Call} {big small : Res} (hc : big.isCloser = false)
    (hcut : OkCut r cl big small) : CutRes P r cl big small := by
  cases big with
  | ok v st' => exact fun hl => hcut v st' rfl hl
  | closer st' => cases hc
  | err e st' => trivial

/-- the call on the input followed by `r`, at depth `d` and in mode `dm`: positions are counted from
    the end of the input, so they grow by `r.length` -/
def Call6.ext (r : Bytes) (d : Nat) (dm : Bool) : Call6 → Call6
  | .v _ _ st => .v d dm { rest := st.rest ++ r, calls := st.calls }
  | .s _ _ kind start st acc =>
    .s d dm kind (start + r.length) { rest := st.rest ++ r, calls := st.calls } (shiftL r.length acc)
  | .m _ _ start ns st ks vs =>
    .m d dm (start + r.length) ns { rest := st.rest ++ r, calls := st.calls } (shiftL r.length ks) (shiftL r.length vs)
  | .n _ _ start st => .n d dm (start + r.length) { rest := st.rest ++ r, calls := st.calls }
  | .t _ _ start st => .t d dm (start + r.length) { rest := st.rest ++ r, calls := st.calls }
  | .me _ _ start st => .me d dm (start + r.length) { rest := st.rest ++ r, calls := st.calls }

/-- what `reader_cut` shows of the oracle -/
def Cut (R : Call6 → Res) : Prop :=
  ∀ (c : Call6) (r : Bytes) (d : Nat) (dm : Bool), c.d ≤ d → CutRes (1 ≤ c.d) r c.st.calls (R (c.ext r d dm)) (R c)

theorem readNumberRes_sign_strict (ctx : Ctx) (c nx : UInt8) (r' : Bytes) (cl : List Call) (v : Val) (st' : St)
    (hs : (c == 0x2B || c == 0x2D) = true) (hd : is09 nx = true)
    (h : readNumberRes ctx { rest := c :: nx :: r', calls := cl } = .ok v st') :
    st'.rest.length < (nx :: r').length := by
  have hc : c = 0x2B ∨ c = 0x2D := (Bool.or_eq_true _ _ ▸ hs).imp beq_iff_eq.mp beq_iff_eq.mp
  unfold readNumberRes at h
  dsimp only at h
  cases hb : readNumber ctx.cfg (c :: nx :: r') with
  | err cur => rw [hb] at h; cases h
  | ok x rest =>
    rw [hb] at h
    simp only [Res.ok.injEq] at h
    obtain ⟨-, rfl⟩ := h
    -- behind the sign the reader's body starts at the digit, and a number costs a byte
    have hsg : SignTok [c] (c == 0x2D) := by
      rcases hc with rfl | rfl
      · exact .inr (.inl ⟨rfl, rfl⟩)
      · exact .inr (.inr ⟨rfl, rfl⟩)
    have hp : numProg (nx :: r').length (readNumber ctx.cfg (c :: nx :: r')) :=
      (readNumber_sign_prog ctx.cfg [c] (nx :: r') (c == 0x2D) hsg hd).2
    rw [hb] at hp
    exact hp

section
variable {ctx : Ctx} {R : Call6 → Res}

theorem Cut.ok (hR : Cut R) {d d' : Nat} (hd : d' ≤ d) {dm : Bool} (dm' : Bool) {t r : Bytes} {cl : List Call} {v : Val}
    {st' : St} (h : R (.v d dm { rest := t ++ r, calls := cl }) = .ok v st') (hl : r.length ≤ st'.rest.length) :
    ∃ t' v', st' = { rest := t' ++ r, calls := cl } ∧
      R (.v d' dm' { rest := t, calls := cl }) = .ok v' { rest := t', calls := cl } ∧ shiftV r.length v' = v := by
  have k := hR (.v d' dm' { rest := t, calls := cl }) r d dm hd
  simp only [Call6.ext] at k
  rw [h] at k
  exact k hl

theorem Cut.closer (hR : Cut R) {d d' : Nat} (hd : d' ≤ d) {dm : Bool} (dm' : Bool) {t r : Bytes} {cl : List Call}
    {st' : St} {c : UInt8} {r2 : Bytes} (h : R (.v (d + 1) dm { rest := t ++ r, calls := cl }) = .closer st')
    (hs : st'.rest = c :: r2) (hle : r.length ≤ r2.length) :
    ∃ t2, r2 = t2 ++ r ∧ st'.calls = cl ∧ R (.v (d' + 1) dm' { rest := t, calls := cl }) = .closer { rest := c :: t2, calls := cl } := by
  have k := hR (.v (d' + 1) dm' { rest := t, calls := cl }) r (d + 1) dm (Nat.succ_le_succ hd)
  simp only [Call6.ext] at k
  rw [h] at k
  obtain ⟨t1, rfl, hs1⟩ := k (Nat.le_add_left 1 d') (by rw [hs]; exact Nat.lt_succ_of_le hle)
  obtain ⟨t2, rfl, rfl⟩ := append_split (tok := [c]) hs hle
  exact ⟨t2, rfl, rfl, hs1⟩

theorem CutRes.deep {P : Prop} {r : Bytes} {cl : List Call} {d d' : Nat} (hd : d' ≤ d) {dm dm' : Bool} {c : UInt8}
    {s s' : Bytes} {a a' : Route} (h : CutRes P r cl (exec ctx R d dm cl c s a) (exec ctx R d' dm' cl c s' a')) :
    CutRes P r cl (exec ctx R d dm cl c s (if decide (d ≥ Tables.maxNestingDepth) = true then .deep else a))
      (exec ctx R d' dm' cl c s' (if decide (d' ≥ Tables.maxNestingDepth) = true then .deep else a')) := by
  by_cases htd : d ≥ Tables.maxNestingDepth
  · rw [if_pos (decide_eq_true htd)]; trivial
  · rw [if_neg (by simpa using htd), if_neg (by simp only [decide_eq_true_eq]; omega)]; exact h

/-- The dispatcher.  The decision looks at one byte behind `c`; where that byte is the first of `r`
    (`#` or a sign is the last byte of the small input), every alternative but the tagged literal and
    the identifier consumes it, so the big run has touched `r`. -/
theorem exec_cut (hA : ∀ c, Answer ctx c (R c)) (hR : Cut R) {d d' : Nat} (hd : d' ≤ d) (dm dm' : Bool)
    (cl : List Call) (c : UInt8) (cs r : Bytes) :
    CutRes (1 ≤ d') r cl (exec ctx R d dm cl c (cs ++ r) (route ctx.cfg d c (cs ++ r)))
      (exec ctx R d' dm' cl c cs (route ctx.cfg d' c cs)) := by
  have hpos : (c :: (cs ++ r)).length = (c :: cs).length + r.length := by
    simp only [List.length_cons, List.length_append]; omega
  have kS (kind : Nat) (s : Bytes) : CutRes (1 ≤ d') r cl
      (R (.s d dm kind (c :: (cs ++ r)).length { rest := s ++ r, calls := cl } []))
      (R (.s d' dm' kind (c :: cs).length { rest := s, calls := cl } [])) :=
    hpos ▸ hR (.s d' dm' kind (c :: cs).length { rest := s, calls := cl } []) r d dm hd
  have kM : CutRes (1 ≤ d') r cl (R (.m d dm (c :: (cs ++ r)).length none { rest := cs ++ r, calls := cl } [] []))
      (R (.m d' dm' (c :: cs).length none { rest := cs, calls := cl } [] [])) :=
    hpos ▸ hR (.m d' dm' (c :: cs).length none { rest := cs, calls := cl } [] []) r d dm hd
  have kN : CutRes (1 ≤ d') r cl (R (.n d dm (c :: (cs ++ r)).length { rest := cs ++ r, calls := cl }))
      (R (.n d' dm' (c :: cs).length { rest := cs, calls := cl })) :=
    hpos ▸ hR (.n d' dm' (c :: cs).length { rest := cs, calls := cl }) r d dm hd
  have kT : CutRes (1 ≤ d') r cl (R (.t d dm (c :: (cs ++ r)).length { rest := cs ++ r, calls := cl }))
      (R (.t d' dm' (c :: cs).length { rest := cs, calls := cl })) :=
    hpos ▸ hR (.t d' dm' (c :: cs).length { rest := cs, calls := cl }) r d dm hd
  have kMe : CutRes (1 ≤ d') r cl (R (.me d dm (c :: (cs ++ r)).length { rest := cs ++ r, calls := cl }))
      (R (.me d' dm' (c :: cs).length { rest := cs, calls := cl })) :=
    hpos ▸ hR (.me d' dm' (c :: cs).length { rest := cs, calls := cl }) r d dm hd
  have vac {c' : Call6} {small : Res} (h : c'.st.rest.length ≤ r.length) : CutRes (1 ≤ d') r cl (R c') small :=
    CutRes.vac (hA c').progress h
  have lt {d dm st v st'} (h : R (.v d dm st) = .ok v st') : st'.rest.length < st.rest.length :=
    (h ▸ hA (.v d dm st) : Ans _ _ _ st (.ok v st')).progress
  have lC := leaf_cutRes (P := 1 ≤ d') (readCharacter_leafRes ctx _).closer (readCharacter_cut ctx (c :: cs) r cl)
  have lI := leaf_cutRes (P := 1 ≤ d') (readIdentifier_leafRes ctx _).closer (readIdentifier_cut ctx (c :: cs) r cl)
  have lY := leaf_cutRes (P := 1 ≤ d') (readSymbolic_leafRes ctx _).closer (readSymbolic_cut ctx (c :: cs) r cl)
  have lN := fun hs =>
    leaf_cutRes (P := 1 ≤ d') (readNumberRes_leafRes ctx _).closer (readNumberRes_cut ctx (c :: cs) r cl hs)
  unfold route
  simp only []
  cases hdisp : dispatch ctx.cfg c with
  | string =>
    exact leaf_cutRes (P := 1 ≤ d') (readString_leafRes ctx _).closer
      (readString_cut ctx (c :: cs) r cl (congrArg some (DispRow.of hdisp)))
  | character => exact lC
  | listOpen => exact CutRes.deep hd (kS 0 cs)
  | vectorOpen => exact CutRes.deep hd (kS 1 cs)
  | mapOpen => exact CutRes.deep hd kM
  | metadata => exact CutRes.deep hd kMe
  | digit => exact lN ⟨c, _, rfl, .inl (dispatch_digit hdisp)⟩
  | identifier => exact lI
  | delimiter =>
    refine ite_rel_left (R := fun a s => CutRes (1 ≤ d') r cl (exec ctx R d dm cl c (cs ++ r) a) s) _
      (fun _ => trivial) (fun _ => ?_)
    intro hP _
    have e : (d' == 0) = false := by rw [beq_eq_false_iff_ne]; omega
    exact ⟨c :: cs, rfl, by rw [e]; rfl⟩
  | hash =>
    cases cs with
    | cons nx cs' =>
      let Rel (a a' : Route) : Prop :=
        CutRes (1 ≤ d') r cl (exec ctx R d dm cl c (nx :: cs' ++ r) a) (exec ctx R d' dm' cl c (nx :: cs') a')
      refine ite_rel (R := Rel) (fun _ => lY) fun _ => CutRes.deep hd ?_
      refine ite_rel (R := Rel) (fun _ => kS 2 cs') fun _ => ?_
      refine ite_rel (R := Rel) (fun _ => ?_) fun _ => ite_rel (R := Rel) (fun _ => kN) fun _ => kT
      -- `#_`: the discarded form, then the value
      show CutRes _ r cl (exec ctx R d dm cl c _ (.skip (cs' ++ r))) (exec ctx R d' dm' cl c _ (.skip cs'))
      simp only [exec]
      cases hr1 : R (.v (d + 1) true { rest := cs' ++ r, calls := cl }) with
      | ok v1 st1 =>
        dsimp only
        apply CutRes.of_le
        intro hb
        have := (hA (.v d dm st1)).progress.st_le
        obtain ⟨t1, v1', rfl, hs1, -⟩ := hR.ok (Nat.succ_le_succ hd) true hr1 (Nat.le_trans hb this)
        rw [hs1]
        exact hR (.v d' dm' { rest := t1, calls := cl }) r d dm hd
      | closer st1 => trivial
      | err e st1 => trivial
    | nil =>
      cases r with
      | nil => exact kT
      | cons nx r' =>
        let Rel (a : Route) (s : Res) : Prop := CutRes (1 ≤ d') (nx :: r') cl (exec ctx R d dm cl c (nx :: r') a) s
        refine ite_rel_left (R := Rel) _ (fun _ => ?_) fun _ => ?_
        · show CutRes _ _ cl (readSymbolic ctx { rest := c :: nx :: r', calls := cl }) _
          cases hrs : readSymbolic ctx { rest := c :: nx :: r', calls := cl } with
          | ok v st' =>
            intro hl
            obtain ⟨t', v', -, hsm, -⟩ := readSymbolic_cut ctx [c] (nx :: r') cl v st' hrs hl
            exact absurd hsm (readSymbolic_one ctx c cl _ _)
          | closer st' => exact absurd (hrs ▸ (readSymbolic_leafRes ctx _).closer) nofun
          | err e st' => trivial
        refine ite_rel_left (R := Rel) _ (fun _ => trivial) fun _ => ?_
        refine ite_rel_left (R := Rel) _ (fun _ => vac (c' := .s ..) (Nat.le_succ _)) fun _ => ?_
        refine ite_rel_left (R := Rel) _ (fun _ => ?_) fun _ =>
          ite_rel_left (R := Rel) _ (fun _ => vac (c' := .n ..) (Nat.le_refl _)) fun _ => kT
        show CutRes _ _ cl (exec ctx R d dm cl c _ (.skip r')) _
        simp only [exec]
        cases hr1 : R (.v (d + 1) true { rest := r', calls := cl }) with
        | ok v1 st1 => exact vac (c' := .v ..) (Nat.le_of_lt (Nat.lt_succ_of_lt (lt hr1)))
        | closer st1 => trivial
        | err e st1 => trivial
  | sign =>
    have hsg := dispatch_sign hdisp
    cases cs with
    | cons nx t0 =>
      exact ite_rel (R := fun a a' => CutRes (1 ≤ d') r cl (exec ctx R d dm cl c (nx :: t0 ++ r) a)
          (exec ctx R d' dm' cl c (nx :: t0) a'))
        (fun hnx => lN ⟨c, _, rfl, .inr ⟨(Bool.or_eq_true _ _ ▸ hsg).imp beq_iff_eq.mp beq_iff_eq.mp, nx, _, rfl, hnx⟩⟩)
        (fun _ => lI)
    | nil =>
      cases r with
      | nil => exact lI
      | cons nx r' =>
        refine ite_rel_left (R := fun a s => CutRes (1 ≤ d') (nx :: r') cl (exec ctx R d dm cl c (nx :: r') a) s) _
          (fun hnx => ?_) (fun _ => lI)
        show CutRes _ _ cl (readNumberRes ctx { rest := c :: nx :: r', calls := cl }) _
        cases hrn : readNumberRes ctx { rest := c :: nx :: r', calls := cl } with
        | ok v st' =>
          intro hl
          have := readNumberRes_sign_strict ctx c nx r' cl v st' hsg hnx hrn
          omega
        | closer st' => exact absurd (hrn ▸ (readNumberRes_leafRes ctx _).closer) nofun
        | err e st' => trivial

theorem step_v_skip (d : Nat) (dm : Bool) (s : Bytes) (cl : List Call) :
    step ctx R (.v d dm { rest := skipWs s, calls := cl }) = step ctx R (.v d dm { rest := s, calls := cl }) := by
  rw [step_v_eq, step_v_eq]
  dsimp only
  rw [skipWs_idem]

theorem StepRel.cut (hreg : ctx.opts.registry = none) (hA : ∀ c, Answer ctx c (R c))
    (hN : ∀ {d dm st v st'}, R (.v d dm st) = .ok v st' → v.hdr.synth = false) (hR : Cut R)
    {c : Call6} {r : Bytes} {d : Nat} {dm : Bool} (hd : c.d ≤ d) {big : Res} (h : StepRel ctx R (c.ext r d dm) big) :
    CutRes (1 ≤ c.d) r c.st.calls big (step ctx R c) := by
  have hd1 : c.d + 1 ≤ d + 1 := Nat.succ_le_succ hd
  have lt {d dm st v st'} (h : R (.v d dm st) = .ok v st') : st'.rest.length < st.rest.length :=
    (h ▸ hA (.v d dm st) : Ans _ _ _ st (.ok v st')).progress
  have le {c big} (h : R c = big) : big.st.rest.length ≤ c.st.rest.length := (h ▸ hA c).progress.st_le
  cases c with
  | v d' dm' st =>
    obtain ⟨t, cl⟩ := st
    dsimp only [Call6.ext, Call6.d, Call6.st] at h hd ⊢
    rw [← h.eq]
    apply CutRes.of_le
    intro hb
    -- progress counted from where `skipWs` stops
    have hp := (step_answer ctx hA (step_rel (.v d dm { rest := skipWs (t ++ r), calls := cl }))).progress
    rw [step_v_skip] at hp
    have hcut := skipWs_cut t r (Nat.le_trans hb hp.st_le)
    cases hs : skipWs t with
    | nil => exact CutRes.vac hp (by rw [hcut, hs]; exact Nat.le_refl _)
    | cons c cs =>
      rw [step_v_eq, step_v_eq]
      dsimp only
      rw [hcut, hs]
      exact exec_cut hA hR hd dm dm' cl c cs r
  | s d' dm' kind start st acc =>
    obtain ⟨t, cl⟩ := st
    dsimp only [Call6.ext, Call6.d, Call6.st] at h hd hd1 ⊢
    cases h with
    | sNext hv hr =>
      apply CutRes.of_le
      intro hb
      obtain ⟨t1, v1, rfl, hs1, rfl⟩ := hR.ok hd1 dm' hv (Nat.le_trans hb (le hr))
      rw [(StepRel.sNext hs1 rfl).eq, ← hr]
      exact hR (.s d' dm' kind start { rest := t1, calls := cl } (v1 :: acc)) r d dm hd
    | sList hv hs hk =>
      intro hle
      obtain ⟨t2, rfl, hcl, hs1⟩ := hR.closer hd dm' hv hs hle
      rw [List.length_append, ← shiftL_reverse]
      exact ⟨t2, _, by rw [← hcl], (StepRel.sList hs1 rfl hk).eq, rfl⟩
    | sVec hv hs hk =>
      intro hle
      obtain ⟨t2, rfl, hcl, hs1⟩ := hR.closer hd dm' hv hs hle
      rw [List.length_append, ← shiftL_reverse]
      exact ⟨t2, _, by rw [← hcl], (StepRel.sVec hs1 rfl hk).eq, rfl⟩
    | sSet hv hs hk0 hk1 hdup =>
      intro hle
      obtain ⟨t2, rfl, hcl, hs1⟩ := hR.closer hd dm' hv hs hle
      rw [← shiftL_reverse, hasDuplicates_shiftL] at hdup
      rw [List.length_append, ← shiftL_reverse, hasDuplicates_shiftL]
      exact ⟨t2, _, by rw [← hcl], (StepRel.sSet hs1 rfl hk0 hk1 hdup).eq, rfl⟩
    | _ => trivial
  | m d' dm' start ns st ks vs =>
    obtain ⟨t, cl⟩ := st
    dsimp only [Call6.ext, Call6.d, Call6.st] at h hd hd1 ⊢
    cases h with
    | mNext hv hv2 hr =>
      apply CutRes.of_le
      intro hb
      have h2 := lt hv2
      have h3 := le hr
      obtain ⟨t1, k1, rfl, hs1, rfl⟩ := hR.ok hd1 dm' hv (by dsimp only [Call6.st] at h3; omega)
      obtain ⟨t2, v2, rfl, hs2, rfl⟩ := hR.ok hd1 dm' hv2 (Nat.le_trans hb h3)
      rw [(StepRel.mNext hs1 hs2 rfl).eq, ← hr]
      have := hR (.m d' dm' start ns { rest := t2, calls := cl } (qualifyNs ns k1 :: ks) (v2 :: vs)) r d dm hd
      simp only [Call6.ext, shiftL_cons, ← qualifyNs_shiftV] at this
      exact this
    | mOk hv hs hdup =>
      intro hle
      obtain ⟨t2, rfl, hcl, hs1⟩ := hR.closer hd dm' hv hs hle
      rw [← shiftL_reverse, hasDuplicates_shiftL] at hdup
      rw [List.length_append, ← shiftL_reverse, ← shiftL_reverse, hasDuplicates_shiftL]
      exact ⟨t2, _, by rw [← hcl], (StepRel.mOk hs1 rfl hdup).eq, rfl⟩
    | _ => trivial
  | n d' dm' start st =>
    obtain ⟨t, cl⟩ := st
    dsimp only [Call6.ext, Call6.d, Call6.st] at h hd ⊢
    cases h with
    | nCloser hv =>
      -- the closing delimiter of the enclosing collection is passed on
      intro hP hl
      have k := hR (.v d' dm' { rest := t, calls := cl }) r d dm hd
      dsimp only [Call6.ext] at k
      rw [hv] at k
      obtain ⟨t1, rfl, hs1⟩ := k hP hl
      exact ⟨t1, rfl, (StepRel.nCloser hs1).eq⟩
    | @nNext _ _ _ _ h name st' r2 _ hv hw hr =>
      apply CutRes.of_le
      intro hb
      have h3 := le hr
      have h2 := skipWs_length_le st'.rest
      rw [hw] at h2
      dsimp only [Call6.st, List.length_cons] at h2 h3
      obtain ⟨t1, v1, rfl, hs1, hv1⟩ := hR.ok hd dm' hv (by omega)
      obtain ⟨h1, rfl⟩ := shiftV_eq_kw hv1
      rw [skipWs_cut t1 r (by rw [hw]; dsimp only [List.length_cons]; omega)] at hw
      obtain ⟨t2, rfl, ht2⟩ := append_split (tok := [0x7B]) hw (by omega)
      rw [(StepRel.nNext hs1 ht2 rfl).eq, ← hr]
      exact hR (.m d' dm' start (some name) { rest := t2, calls := cl } [] []) r d dm hd
    | _ => trivial
  | t d' dm' start st =>
    obtain ⟨t, cl⟩ := st
    dsimp only [Call6.ext, Call6.d, Call6.st] at h hd1 ⊢
    cases h with
    | tIdCloser hs hc hr => cases (hr ▸ (readIdentifier_leafRes ctx _).closer : (Res.closer _).isCloser = false)
    | tOk hs hc hr hv =>
      rw [tagOut_none hreg]
      intro hl
      have h2 := lt hv
      have p1 := readIdentifier_progress ctx { rest := t ++ r, calls := cl }
      rw [hr] at p1
      obtain ⟨t1, v1, rfl, hs1, hv1⟩ := readIdentifier_cut ctx t r cl _ _ hr (by omega)
      obtain ⟨h1, md1, rfl⟩ := shiftV_eq_sym hv1
      obtain ⟨t2, v2, rfl, hs2, rfl⟩ := hR.ok hd1 dm' hv hl
      cases t with
      | nil => simp only [Progress, List.length_append, List.length_nil] at p1; omega
      | cons c' t0 =>
        obtain rfl : c' = _ := List.head_eq_of_cons_eq hs
        refine ⟨t2, _, rfl, (StepRel.tOk (st := { rest := c' :: t0, calls := cl }) rfl hc hs1 hs2).eq.trans
          (tagOut_none hreg ..), ?_⟩
        rw [shiftV_tagged, List.length_append]
        exact congrArg (Val.tagged _ _ · _) (slice_append_right (c' :: t0) t1 r).symm
    | _ => trivial
  | me d' dm' start st =>
    obtain ⟨t, cl⟩ := st
    dsimp only [Call6.ext, Call6.d, Call6.st] at h hd1 ⊢
    cases h with
    | meOk hv hm hv2 ht =>
      intro hl
      have h2 := lt hv2
      obtain ⟨t1, m1, rfl, hs1, rfl⟩ := hR.ok hd1 dm' hv (by omega)
      obtain ⟨t2, form1, rfl, hs2, rfl⟩ := hR.ok hd1 dm' hv2 hl
      rw [metaEntries_shiftV] at hm
      cases hm1 : metaEntries m1 with
      | none => rw [hm1] at hm; cases hm
      | some p1 =>
        rw [hm1] at hm
        cases hm
        rw [metaTarget_shiftV] at ht
        refine ⟨t2, _, rfl, (StepRel.meOk hs1 hm1 hs2 ht).eq, ?_⟩
        have hns : (attachMeta ctx.cfg m1 form1 p1.1 p1.2).hdr.synth = false := by
          rw [attachMeta_eq, hdr_setMd]; exact hN hs2
        rw [shiftV_setHdr, shiftHdr_with_s hns, attachMeta_shiftV, hdr_shiftV]
    | _ => trivial

end

theorem reader_cut (ctx : Ctx) (hreg : ctx.opts.registry = none) (f : Nat) : Cut (run ctx f) :=
  run_ind ctx (P := fun _ R => Cut R) (fun _ _ _ _ _ => trivial)
    (fun f ih _ _ _ _ hd => (step_rel _).cut hreg (run_answer ctx f)
      (fun h => (readValue_ranges ctx hreg f _ _ _ _ _ h).2.1) ih hd) f

/-- positions are relative to the end, so they shift by the length of what followed -/
theorem readValue_cut (ctx : Ctx) (hreg : ctx.opts.registry = none) (f d : Nat) (dm : Bool) (tok r : Bytes) (cl cl' : List Call) (v : Val)
    (h : readValue ctx f d dm { rest := tok ++ r, calls := cl } = .ok v { rest := r, calls := cl' }) :
    ∃ v', readValue ctx f d dm { rest := tok, calls := cl } = .ok v' { rest := [], calls := cl' } ∧
      shiftV r.length v' = v := by
  obtain ⟨t', v', hst, hsmall, hshift⟩ := (reader_cut ctx hreg f).ok (Nat.le_refl d) dm h (Nat.le_refl _)
  obtain ⟨hr, rfl⟩ := St.mk.inj hst
  obtain rfl : t' = [] := List.append_left_eq_self.mp hr.symm
  exact ⟨v', hsmall, hshift⟩

/-- the cut with nothing behind the input -/
theorem readValue_depth_le (ctx : Ctx) (hreg : ctx.opts.registry = none) (f d d' : Nat) (dm dm' : Bool) (st st' : St) (v : Val)
    (hd : d' ≤ d) (h : readValue ctx f d dm st = .ok v st') : readValue ctx f d' dm' st = .ok v st' := by
  obtain ⟨s, cl⟩ := st
  obtain ⟨t', v', rfl, hs, rfl⟩ := (reader_cut ctx hreg f).ok (r := []) hd dm' (by rw [List.append_nil]; exact h)
    (Nat.zero_le _)
  rw [List.append_nil, List.length_nil, shiftV_zero]
  exact hs

theorem readValue_depth_mono (ctx : Ctx) (f d : Nat) (dm dm' : Bool) (hreg : ctx.opts.registry = none) (st st' : St) (v : Val)
    (h : readValue ctx f (d + 1) dm st = .ok v st') : readValue ctx f 0 dm' st = .ok v st' :=
  readValue_depth_le ctx hreg f (d + 1) 0 dm dm' st st' v (Nat.zero_le _) h

end Edn.Proofs
