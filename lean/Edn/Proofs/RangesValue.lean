/-
  The value side of the range proofs.  `RangeOK` sees a header only through its span key, so what
  the reader does to values it has built (`hasDuplicates` fills hash caches, `qualifyKey`,
  `metaEntries`, `attachMeta`) is followed on span keys; then the postcondition `Post` of a reader
  answer and the accumulator invariants of the element loops.
-/
import Edn.Proofs.Interleave
import Edn.Proofs.Run
import Edn.Proofs.MetaMerge

namespace Edn.Proofs
open Edn.Model Edn.Spec

theorem rangeOKL_iff (xs : List Val) : RangeOKL xs ↔ ∀ x ∈ xs, RangeOK x := by
  induction xs with
  | nil => simp [RangeOKL]
  | cons a t ih => simp [RangeOKL, ih]

theorem rangeOKO_none (h : Hdr) : RangeOKO h none := by simp [RangeOKO]

theorem encloses_mono {p p' c : Hdr} (hsy : p'.synth = p.synth) (hs : p.s ≤ p'.s) (he : p'.e ≤ p.e)
    (h : encloses p c) : encloses p' c := by
  unfold encloses at h ⊢
  rcases h with h | h | ⟨h1, h2⟩
  · exact Or.inl (hsy.trans h)
  · exact Or.inr (Or.inl h)
  · exact Or.inr (Or.inr ⟨by omega, by omega⟩)

theorem rangeOKO_mono {p p' : Hdr} {md : Option Val} (hsy : p'.synth = p.synth) (hs : p.s ≤ p'.s) (he : p'.e ≤ p.e)
    (h : RangeOKO p md) : RangeOKO p' md := by
  cases md with
  | none => exact rangeOKO_none _
  | some m =>
    simp only [RangeOKO] at h ⊢
    exact ⟨encloses_mono hsy hs he h.1, h.2⟩

def KidsOK (h : Hdr) : Val → Prop
  | .list _ _ xs | .vec _ _ xs | .set _ _ xs => (∀ x ∈ xs, encloses h x.hdr) ∧ xs.Pairwise before ∧ RangeOKL xs
  | .map _ _ ks vs =>
    (∀ x ∈ ks, encloses h x.hdr) ∧ (∀ x ∈ vs, encloses h x.hdr) ∧ (interleave ks vs).Pairwise before ∧
      RangeOKL ks ∧ RangeOKL vs
  | .tagged _ _ _ v => encloses h v.hdr ∧ RangeOK v
  | _ => True

/-- the header enters `RangeOK` in three places: the value's own range, the enclosure of its
    operands, the enclosure of its metadata -/
theorem rangeOK_iff (x : Val) :
    RangeOK x ↔ (x.hdr.synth = true ∨ x.hdr.e < x.hdr.s) ∧ KidsOK x.hdr x ∧ RangeOKO x.hdr x.md := by
  cases x with
  | list | vec | set => exact ⟨fun ⟨a, b, c, d, e⟩ => ⟨a, ⟨b, c, d⟩, e⟩, fun ⟨a, ⟨b, c, d⟩, e⟩ => ⟨a, b, c, d, e⟩⟩
  | map => exact ⟨fun ⟨a, b, c, d, e, f, g⟩ => ⟨a, ⟨b, c, d, e, f⟩, g⟩, fun ⟨a, ⟨b, c, d, e, f⟩, g⟩ => ⟨a, b, c, d, e, f, g⟩⟩
  | tagged => exact ⟨fun ⟨a, b, c, d⟩ => ⟨a, ⟨b, c⟩, d⟩, fun ⟨a, ⟨b, c⟩, d⟩ => ⟨a, b, c, d⟩⟩
  | sym => exact ⟨fun ⟨a, b⟩ => ⟨a, trivial, b⟩, fun ⟨a, _, b⟩ => ⟨a, b⟩⟩
  | _ => exact ⟨fun a => ⟨a, trivial, trivial⟩, fun a => a.1⟩

theorem kidsOK_setHdr (h h' : Hdr) (x : Val) : KidsOK h (x.setHdr h') = KidsOK h x := by cases x <;> rfl
theorem kidsOK_setMd (h : Hdr) (x : Val) (m : Option Val) : KidsOK h (x.setMd m) = KidsOK h x := by cases x <;> rfl

theorem KidsOK.mono {p p' : Hdr} {x : Val} (hm : ∀ c, encloses p c → encloses p' c) (h : KidsOK p x) :
    KidsOK p' x := by
  cases x with
  | list | vec | set => exact ⟨fun y hy => hm _ (h.1 y hy), h.2⟩
  | map => exact ⟨fun y hy => hm _ (h.1 y hy), fun y hy => hm _ (h.2.1 y hy), h.2.2⟩
  | tagged => exact ⟨hm _ h.1, h.2⟩
  | _ => trivial

theorem rangeOK_setHdr (x : Val) (h' : Hdr) (hsy : h'.synth = x.hdr.synth) (hs : x.hdr.s ≤ h'.s)
    (he : h'.e = x.hdr.e) (h : RangeOK x) : RangeOK (x.setHdr h') := by
  rw [rangeOK_iff] at h ⊢
  rw [hdr_setHdr, md_setHdr, kidsOK_setHdr, hsy, he]
  exact ⟨h.1.imp_right fun h => Nat.lt_of_lt_of_le h hs,
    h.2.1.mono fun c => encloses_mono hsy hs (Nat.le_of_eq he), rangeOKO_mono hsy hs (Nat.le_of_eq he) h.2.2⟩

theorem rangeOK_setMd (x : Val) (m : Option Val) (h : RangeOK x) (hm : RangeOKO x.hdr m) : RangeOK (x.setMd m) := by
  rw [rangeOK_iff] at h ⊢
  rw [hdr_setMd, kidsOK_setMd]
  refine ⟨h.1, h.2.1, ?_⟩
  rcases md_setMd_or x m with e | e <;> rw [e]
  · exact hm
  · exact h.2.2

theorem rangeOK_md (x : Val) (h : RangeOK x) : RangeOKO x.hdr x.md := ((rangeOK_iff x).mp h).2.2

/-- the part of a header the range conditions depend on -/
def skv (v : Val) : Nat × Nat × Bool := (v.hdr.s, v.hdr.e, v.hdr.synth)

def beforeK (a b : Nat × Nat × Bool) : Prop := a.2.2 = true ∨ b.2.2 = true ∨ b.1 ≤ a.2.1
def enclosesK (p : Hdr) (c : Nat × Nat × Bool) : Prop := p.synth = true ∨ c.2.2 = true ∨ (c.1 ≤ p.s ∧ p.e ≤ c.2.1)

theorem pairwise_before_iff (l : List Val) : l.Pairwise before ↔ (l.map skv).Pairwise beforeK := by
  rw [List.pairwise_map]; rfl

theorem encloses_all_iff (p : Hdr) (l : List Val) :
    (∀ x ∈ l, encloses p x.hdr) ↔ ∀ t ∈ l.map skv, enclosesK p t := by
  rw [List.forall_mem_map]; rfl

theorem interleave_map (ks vs : List Val) : (interleave ks vs).map skv = interleave2 (ks.map skv) (vs.map skv) := by
  rw [interleave_eq, interleave2_map]

theorem mem_interleave {ks vs : List Val} {x : Val} (h : x ∈ interleave ks vs) : x ∈ ks ∨ x ∈ vs :=
  mem_interleave2 ks vs x (interleave_eq ks vs ▸ h)

theorem interleave_append (a b c d : List Val) (h : a.length = c.length) :
    interleave (a ++ b) (c ++ d) = interleave a c ++ interleave b d := by
  rw [interleave_eq, interleave_eq, interleave_eq, interleave2_append a c b d h]

theorem interleave_reverse (ks vs : List Val) (h : ks.length = vs.length) :
    interleave ks.reverse vs.reverse = (interleave vs ks).reverse := by
  rw [interleave_eq, interleave_eq, interleave2_reverse ks vs h]

theorem hasDuplicates_skv (cfg : Cfg) (xs : List Val) : (hasDuplicates cfg xs).2.map skv = xs.map skv :=
  (hasDuplicates_elems cfg xs).map_eq skv skv fun _ _ _ _ ⟨_, e⟩ => by rw [e]; simp only [skv, hdr_setHdr]

theorem hasDuplicates_rangeOK (cfg : Cfg) (xs : List Val) (h : RangeOKL xs) : RangeOKL (hasDuplicates cfg xs).2 := by
  rw [rangeOKL_iff] at h ⊢
  intro y hy
  obtain ⟨x, hx, _, rfl⟩ := (hasDuplicates_elems cfg xs).mem_left y hy
  exact rangeOK_setHdr x _ rfl (Nat.le_refl _) rfl (h x hx)

theorem hasDuplicates_length (cfg : Cfg) (xs : List Val) : (hasDuplicates cfg xs).2.length = xs.length :=
  (hasDuplicates_elems cfg xs).length_eq

theorem qualifyKey_ok (n : Bytes) (k : Val) (h : RangeOK k) :
    RangeOK (qualifyKey n k) ∧ ((qualifyKey n k).hdr.synth = true ∨ skv (qualifyKey n k) = skv k) := by
  rcases qualifyKey_cases n k with e | ⟨_, _, e⟩ | ⟨_, _, e⟩ <;> rw [e]
  · exact ⟨h, Or.inr rfl⟩
  · exact ⟨Or.inl rfl, Or.inl rfl⟩
  · exact ⟨⟨Or.inl rfl, trivial⟩, Or.inl rfl⟩

theorem keepOld_sublist (cfg : Cfg) (nk : List Val) (ks vs : List Val) :
    (keepOld cfg nk ks vs).1.Sublist ks ∧ (keepOld cfg nk ks vs).2.Sublist vs ∧
    (interleave (keepOld cfg nk ks vs).1 (keepOld cfg nk ks vs).2).Sublist (interleave ks vs) := by
  rw [keepOld_eq_keepBy]
  refine ⟨(keepBy_sublist _ ks vs).1, (keepBy_sublist _ ks vs).2, ?_⟩
  fun_induction keepBy _ ks vs with
  | case1 k ks v vs hd ih => exact (ih.cons _).cons _
  | case2 k ks v vs hd ih => exact (ih.cons_cons _).cons_cons _
  | case3 ks vs hne => exact List.nil_sublist _

theorem rangeOKL_append (a b : List Val) : RangeOKL (a ++ b) ↔ RangeOKL a ∧ RangeOKL b := by
  simp only [rangeOKL_iff, List.mem_append]
  constructor
  · intro h; exact ⟨fun x hx => h x (Or.inl hx), fun x hx => h x (Or.inr hx)⟩
  · intro h x hx; rcases hx with hx | hx
    · exact h.1 x hx
    · exact h.2 x hx

/-- `x` is synthesised, or lies between the positions `hi` and `lo` of the text (positions are
    remaining lengths, so `hi ≥ lo`, a start is at most `hi` and an end at least `lo`) -/
def Within (hi lo : Nat) (x : Val) : Prop := x.hdr.synth = true ∨ (x.hdr.s ≤ hi ∧ lo ≤ x.hdr.e)

theorem Within.mono {hi lo hi' lo' : Nat} {x : Val} (h : Within hi lo x) (h1 : hi ≤ hi') (h2 : lo' ≤ lo) :
    Within hi' lo' x :=
  h.imp_right fun ⟨a, b⟩ => ⟨Nat.le_trans a h1, Nat.le_trans h2 b⟩

theorem Within.before {hi lo hi' lo' : Nat} {a b : Val} (ha : Within hi lo a) (hb : Within hi' lo' b)
    (h : hi' ≤ lo) : before a b := by
  rcases ha with ha | ha
  · exact Or.inl ha
  · exact Or.inr (hb.imp_right fun hb => Nat.le_trans hb.1 (Nat.le_trans h ha.2))

theorem within_of_skv {hi lo : Nat} {a b : Val} (h : skv a = skv b) (w : Within hi lo b) : Within hi lo a := by
  have e := Prod.mk.inj h
  have e' := Prod.mk.inj e.2
  unfold Within
  rw [show a.hdr.s = b.hdr.s from e.1, show a.hdr.e = b.hdr.e from e'.1, show a.hdr.synth = b.hdr.synth from e'.2]
  exact w

theorem Within.encloses {hi lo : Nat} {x : Val} (h : Within hi lo x) : encloses (mkHdr hi lo) x.hdr := Or.inr h

/-- kept for a value that becomes an annotation: `metaEntries` hands the keys and values of a map to the
    merge as pairs -/
def MapLen : Val → Prop
  | .map _ _ ks vs => ks.length = vs.length
  | _ => True

/-- the metadata map attached to `v` is the reader's own (synthetic header) and its entries, unless
    synthetic, do not start before `v`, whose start `readMeta` moves to the `^` -/
def MdTop (v : Val) : Prop :=
  ∀ mh mmd ks vs, v.md = some (.map mh mmd ks vs) →
    mh.synth = true ∧ ∀ x, x ∈ ks ∨ x ∈ vs → Within v.hdr.s 0 x

/-- the `.ok v st'` case of `Post` -/
structure OkPost (n : Nat) (v : Val) (st' : St) : Prop where
  rok : RangeOK v
  nsyn : v.hdr.synth = false
  he : v.hdr.e = st'.rest.length
  hlt : st'.rest.length < v.hdr.s
  hs : v.hdr.s ≤ n
  mlen : MapLen v
  mdtop : MdTop v

theorem OkPost.mono {n m : Nat} {v : Val} {st' : St} (h : OkPost n v st') (hnm : n ≤ m) : OkPost m v st' :=
  { h with hs := Nat.le_trans h.hs hnm }

theorem OkPost.within {n : Nat} {v : Val} {st' : St} (h : OkPost n v st') : Within n st'.rest.length v :=
  Or.inr ⟨h.hs, Nat.le_of_eq h.he.symm⟩

theorem mdTop_of_none {v : Val} (h : v.md = none) : MdTop v := by
  intro mh mmd ks vs hm; rw [h] at hm; cases hm

theorem okPost_fresh {v : Val} {start stop : Nat} {st' : St} (hr : RangeOK v) (hh : v.hdr = mkHdr start stop)
    (hmd : v.md = none) (hml : MapLen v) (hlt : stop < start) (hst : st'.rest.length = stop) : OkPost start v st' :=
  ⟨hr, by rw [hh]; rfl, by rw [hh]; exact hst.symm, by rw [hh, hst]; exact hlt, by rw [hh]; exact Nat.le_refl _, hml,
    mdTop_of_none hmd⟩

/-- of the entries `metaEntries` takes from an annotation that lies between `hi` and `lo` -/
structure EntriesOK (lo hi : Nat) (nks nvs : List Val) : Prop where
  len : nks.length = nvs.length
  okk : RangeOKL nks
  okv : RangeOKL nvs
  pw : (interleave nks nvs).Pairwise before
  bnd : ∀ x, x ∈ nks ∨ x ∈ nvs → Within hi lo x

theorem EntriesOK.pair {lo hi : Nat} {a b : Val} (ha : RangeOK a) (hb : RangeOK b)
    (hsyn : a.hdr.synth = true ∨ b.hdr.synth = true) (wa : Within hi lo a) (wb : Within hi lo b) :
    EntriesOK lo hi [a] [b] :=
  ⟨rfl, ⟨ha, trivial⟩, ⟨hb, trivial⟩, List.pairwise_pair.mpr (hsyn.elim Or.inl fun h => Or.inr (Or.inl h)),
    fun _ hx => hx.elim (List.eq_of_mem_singleton · ▸ wa) (List.eq_of_mem_singleton · ▸ wb)⟩

theorem metaEntries_ok {n : Nat} {m : Val} {st' : St} {nks nvs : List Val} (h : OkPost n m st')
    (he : metaEntries m = some (nks, nvs)) : EntriesOK st'.rest.length n nks nvs := by
  -- the synthesised partner of a keyword, vector, string or symbol annotation
  have hkw : ∀ nm, RangeOK (.kw synthHdr none nm) := fun _ => Or.inl rfl
  cases m <;> simp only [metaEntries] at he <;> try (cases he)
  case map mh mmd =>
    obtain ⟨-, hek, hev, hpw, hokk, hokv, -⟩ := h.rok
    refine ⟨h.mlen, hokk, hokv, hpw, fun x hx => ?_⟩
    rcases hx.elim (hek x) (hev x) with h1 | h1 | ⟨h1, h2⟩
    · rw [show mh.synth = false from h.nsyn] at h1; cases h1
    · exact Or.inl h1
    · exact Or.inr ⟨Nat.le_trans h1 h.hs, Nat.le_trans (Nat.le_of_eq h.he.symm) h2⟩
  case kw => exact .pair h.rok (Or.inl rfl) (Or.inr rfl) h.within (Or.inl rfl)
  case vec => exact .pair (hkw _) h.rok (Or.inl rfl) (Or.inl rfl) h.within
  case str => exact .pair (hkw _) h.rok (Or.inl rfl) (Or.inl rfl) h.within
  case sym => exact .pair (hkw _) h.rok (Or.inl rfl) (Or.inl rfl) h.within

theorem newMd_ok (cfg : Cfg) {lo hi : Nat} {form : Val} {st'' : St} {nks nvs : List Val}
    (hf : OkPost lo form st'') (he : EntriesOK lo hi nks nvs) (hlo : lo ≤ hi) :
    ∃ mh mmd K V, newMd cfg form nks nvs = .map mh mmd K V ∧ mh.synth = true ∧ RangeOK (.map mh mmd K V) ∧
      ∀ x, x ∈ K ∨ x ∈ V → Within hi 0 x := by
  have hbn : ∀ x, x ∈ nks ∨ x ∈ nvs → Within hi 0 x := fun x hx => (he.bnd x hx).mono (Nat.le_refl _) (Nat.zero_le _)
  rcases newMd_cases cfg form nks nvs with ⟨mh, mmd, ks, vs, hmd, e⟩ | ⟨-, e⟩ <;> rw [e]
  · obtain ⟨hsy, hb⟩ := hf.mdtop mh mmd ks vs hmd
    have hro := rangeOK_md form hf.rok
    rw [hmd] at hro
    obtain ⟨-, -, -, -, hpw, hokk, hokv, hoo⟩ := hro
    obtain ⟨s1, s2, s3⟩ := keepOld_sublist cfg nks ks vs
    -- the surviving old entries start inside the form, hence after all new entries
    have hbo : ∀ x, x ∈ (keepOld cfg nks ks vs).1 ∨ x ∈ (keepOld cfg nks ks vs).2 → Within lo 0 x :=
      fun x hx => (hb x (hx.imp (s1.subset ·) (s2.subset ·))).mono hf.hs (Nat.le_refl _)
    refine ⟨mh, mmd, _, _, rfl, hsy, ⟨Or.inl hsy, fun x _ => Or.inl hsy, fun x _ => Or.inl hsy, ?_, ?_, ?_, hoo⟩, ?_⟩
    · rw [interleave_append _ _ _ _ he.len, List.pairwise_append]
      exact ⟨he.pw, hpw.sublist s3, fun a ha b hb' =>
        (he.bnd a (mem_interleave ha)).before (hbo b (mem_interleave hb')) (Nat.le_refl _)⟩
    · rw [rangeOKL_append, rangeOKL_iff, rangeOKL_iff]
      exact ⟨(rangeOKL_iff _).mp he.okk, fun x hx => (rangeOKL_iff _).mp hokk x (s1.subset hx)⟩
    · rw [rangeOKL_append, rangeOKL_iff, rangeOKL_iff]
      exact ⟨(rangeOKL_iff _).mp he.okv, fun x hx => (rangeOKL_iff _).mp hokv x (s2.subset hx)⟩
    · intro x hx
      have hx' : (x ∈ nks ∨ x ∈ nvs) ∨ (x ∈ (keepOld cfg nks ks vs).1 ∨ x ∈ (keepOld cfg nks ks vs).2) := by
        rcases hx with hx | hx
        · exact (List.mem_append.mp hx).imp Or.inl Or.inl
        · exact (List.mem_append.mp hx).imp Or.inr Or.inr
      exact hx'.elim (hbn x) fun h => (hbo x h).mono hlo (Nat.le_refl _)
  · exact ⟨synthHdr, none, nks, nvs, rfl, rfl,
      ⟨Or.inl rfl, fun x _ => Or.inl rfl, fun x _ => Or.inl rfl, he.pw, he.okk, he.okv, rangeOKO_none _⟩, hbn⟩

theorem mapLen_setHdr (x : Val) (h : Hdr) (hx : MapLen x) : MapLen (x.setHdr h) := by
  cases x <;> exact hx
theorem mapLen_setMd (x : Val) (m : Option Val) (hx : MapLen x) : MapLen (x.setMd m) := by
  cases x <;> exact hx

/-- the value `readMeta` returns -/
theorem attachMeta_ok (cfg : Cfg) {lo hi start : Nat} {m form : Val} {st'' : St} {nks nvs : List Val}
    (hf : OkPost lo form st'') (he : EntriesOK lo hi nks nvs) (hlo : lo ≤ hi) (hhi : hi ≤ start)
    (ht : form.metaTarget = true) :
    OkPost start ((attachMeta cfg m form nks nvs).setHdr { (attachMeta cfg m form nks nvs).hdr with s := start }) st'' := by
  obtain ⟨mh, mmd, K, V, hnew, hsy, hrok, hb⟩ := newMd_ok cfg hf he hlo
  rw [attachMeta_eq, hnew]
  have hfs : form.hdr.s ≤ start := Nat.le_trans hf.hs (Nat.le_trans hlo hhi)
  have h1 : RangeOK (form.setMd (some (.map mh mmd K V))) :=
    rangeOK_setMd _ _ hf.rok ⟨Or.inr (Or.inl hsy), hrok⟩
  refine ⟨rangeOK_setHdr _ _ rfl ?_ rfl h1, ?_, ?_, ?_, ?_, mapLen_setHdr _ _ (mapLen_setMd _ _ hf.mlen), ?_⟩
  · rw [hdr_setMd]; exact hfs
  · rw [hdr_setHdr, hdr_setMd]; exact hf.nsyn
  · rw [hdr_setHdr, hdr_setMd]; exact hf.he
  · rw [hdr_setHdr]; exact Nat.lt_of_lt_of_le hf.hlt hfs
  · rw [hdr_setHdr]; exact Nat.le_refl _
  · intro mh' mmd' ks' vs' hmd
    rw [md_setHdr, md_setMd _ _ ht] at hmd
    cases hmd
    rw [hdr_setHdr]
    exact ⟨hsy, fun x hx => (hb x hx).mono hhi (Nat.le_refl _)⟩

/-- what the range proofs show about a reader result; `n` bounds the start of the value (or of the
    error range: end ≤ start ≤ `n` in remaining-length coordinates, an unset component standing for
    the position where the parser stopped) from above -/
def Post (ctx : Ctx) (n : Nat) (r : Res) : Prop :=
  match r with
  | .ok v st' => ctx.opts.registry = none → OkPost n v st'
  | .closer _ => True
  | .err e st' => ErrB n e st'

theorem Post.mono {ctx : Ctx} {n m : Nat} {r : Res} (h : Post ctx n r) (hnm : n ≤ m) : Post ctx m r := by
  cases r with
  | ok v st' => exact fun hr => (h hr).mono hnm
  | closer st' => trivial
  | err e st' => exact ErrB.mono h hnm

theorem isLeaf_facts {v : Val} (hl : isLeaf v = true) :
    ((v.hdr.synth = true ∨ v.hdr.e < v.hdr.s) → RangeOK v) ∧ v.md = none ∧ MapLen v := by
  cases v with
  | sym h md ns nm =>
    cases md with
    | none => exact ⟨fun h0 => ⟨h0, rangeOKO_none _⟩, rfl, trivial⟩
    | some m => cases hl
  | list | vec | set | map | tagged => cases hl
  | _ => exact ⟨id, rfl, trivial⟩

theorem leaf_okPost {v : Val} {a b n : Nat} {st' : St} (hl : isLeaf v = true) (hh : v.hdr = mkHdr a b)
    (hb : st'.rest.length = b) (hab : b < a) (han : a ≤ n) : OkPost n v st' := by
  obtain ⟨hr, hmd, hml⟩ := isLeaf_facts hl
  rw [hh] at hr
  exact (okPost_fresh (hr (Or.inr hab)) hh hmd hml hab hb).mono han

theorem LeafPost.post {ctx : Ctx} {st : St} {r : Res} (h : LeafPost st r) (hp : Progress st r) :
    Post ctx st.rest.length r := by
  cases r with
  | ok v st' => exact fun _ => leaf_okPost h.1 h.2 rfl hp (Nat.le_refl _)
  | closer st' => trivial
  | err e st' => exact h hp

/-- accumulated elements of a sequence (reverse reading order), opened at `start`, with the
    cursor at `cur` -/
structure AccS (start cur : Nat) (acc : List Val) : Prop where
  ok : ∀ x ∈ acc, RangeOK x
  bnd : ∀ x ∈ acc, Within start cur x
  pw : acc.Pairwise (fun a b => before b a)

theorem AccS.nil (start cur : Nat) : AccS start cur [] :=
  ⟨nofun, nofun, List.Pairwise.nil⟩

theorem AccS.push {start cur : Nat} {acc : List Val} {v : Val} {st' : St} (h : AccS start cur acc)
    (hv : OkPost cur v st') (hcs : cur ≤ start) : AccS start st'.rest.length (v :: acc) := by
  have hle : st'.rest.length ≤ cur := Nat.le_of_lt (Nat.lt_of_lt_of_le hv.hlt hv.hs)
  exact ⟨List.forall_mem_cons.mpr ⟨hv.rok, h.ok⟩,
    List.forall_mem_cons.mpr ⟨hv.within.mono hcs (Nat.le_refl _), fun x hx => (h.bnd x hx).mono (Nat.le_refl _) hle⟩,
    List.pairwise_cons.mpr ⟨fun x hx => (h.bnd x hx).before hv.within (Nat.le_refl _), h.pw⟩⟩

theorem seq_transfer {h : Hdr} {xs ys : List Val} (hsk : ys.map skv = xs.map skv)
    (h1 : ∀ x ∈ xs, encloses h x.hdr) (h2 : xs.Pairwise before) :
    (∀ x ∈ ys, encloses h x.hdr) ∧ ys.Pairwise before := by
  rw [encloses_all_iff] at h1 ⊢
  rw [pairwise_before_iff] at h2 ⊢
  rw [hsk]
  exact ⟨h1, h2⟩

theorem AccS.close (cfg : Cfg) {start cur stop : Nat} {acc : List Val} {st'' : St} (h : AccS start cur acc)
    (hs : stop ≤ cur) (hlt : stop < start) (hst : st''.rest.length = stop) :
    OkPost start (.list (mkHdr start stop) none acc.reverse) st'' ∧
    OkPost start (.vec (mkHdr start stop) none acc.reverse) st'' ∧
    OkPost start (.set (mkHdr start stop) none (hasDuplicates cfg acc.reverse).2) st'' := by
  have c1 : ∀ x ∈ acc.reverse, encloses (mkHdr start stop) x.hdr :=
    fun x hx => ((h.bnd x (List.mem_reverse.mp hx)).mono (Nat.le_refl _) hs).encloses
  have c2 : acc.reverse.Pairwise before := List.pairwise_reverse.mpr h.pw
  have c3 : RangeOKL acc.reverse := (rangeOKL_iff _).mpr fun x hx => h.ok x (List.mem_reverse.mp hx)
  have ht := seq_transfer (hasDuplicates_skv cfg acc.reverse) c1 c2
  exact ⟨okPost_fresh ⟨Or.inr hlt, c1, c2, c3, rangeOKO_none _⟩ rfl rfl trivial hlt hst,
    okPost_fresh ⟨Or.inr hlt, c1, c2, c3, rangeOKO_none _⟩ rfl rfl trivial hlt hst,
    okPost_fresh ⟨Or.inr hlt, ht.1, ht.2, hasDuplicates_rangeOK _ _ c3, rangeOKO_none _⟩ rfl rfl trivial hlt hst⟩

structure AccM (start cur : Nat) (ks vs : List Val) : Prop where
  len : ks.length = vs.length
  okk : ∀ x ∈ ks, RangeOK x
  okv : ∀ x ∈ vs, RangeOK x
  bnd : ∀ x, x ∈ ks ∨ x ∈ vs → Within start cur x
  pw : (interleave vs ks).Pairwise (fun a b => before b a)

theorem AccM.nil (start cur : Nat) : AccM start cur [] [] :=
  ⟨rfl, nofun, nofun, fun _ h => h.elim nofun nofun, List.Pairwise.nil⟩

/-- `k'` is the key as it is stored: `k` itself or its synthesised qualified form -/
theorem AccM.push {start cur : Nat} {ks vs : List Val} {k k' v : Val} {st' st'' : St} (h : AccM start cur ks vs)
    (hk : OkPost cur k st') (hv : OkPost st'.rest.length v st'') (hcs : cur ≤ start)
    (hk' : RangeOK k' ∧ (k'.hdr.synth = true ∨ skv k' = skv k)) :
    AccM start st''.rest.length (k' :: ks) (v :: vs) := by
  have hle' : st'.rest.length ≤ cur := Nat.le_of_lt (Nat.lt_of_lt_of_le hk.hlt hk.hs)
  have hle'' : st''.rest.length ≤ st'.rest.length := Nat.le_of_lt (Nat.lt_of_lt_of_le hv.hlt hv.hs)
  have wk : Within cur st'.rest.length k' := hk'.2.elim Or.inl fun hq => within_of_skv hq hk.within
  have wold : ∀ y ∈ interleave vs ks, Within start cur y := fun y hy => h.bnd y (mem_interleave hy).symm
  refine ⟨congrArg (· + 1) h.len, List.forall_mem_cons.mpr ⟨hk'.1, h.okk⟩, List.forall_mem_cons.mpr ⟨hv.rok, h.okv⟩,
    ?_, ?_⟩
  · intro x hx
    rcases hx.imp List.mem_cons.mp List.mem_cons.mp with (rfl | hx) | (rfl | hx)
    · exact wk.mono hcs hle''
    · exact (h.bnd x (Or.inl hx)).mono (Nat.le_refl _) (Nat.le_trans hle'' hle')
    · exact hv.within.mono (Nat.le_trans hle' hcs) (Nat.le_refl _)
    · exact (h.bnd x (Or.inr hx)).mono (Nat.le_refl _) (Nat.le_trans hle'' hle')
  · refine List.pairwise_cons.mpr ⟨fun y hy => ?_, List.pairwise_cons.mpr ⟨fun y hy => ?_, h.pw⟩⟩
    · rcases List.mem_cons.mp hy with rfl | hy
      · exact wk.before hv.within (Nat.le_refl _)
      · exact (wold y hy).before hv.within hle'
    · exact (wold y hy).before wk (Nat.le_refl _)

theorem AccM.close (cfg : Cfg) {start cur stop : Nat} {ks vs : List Val} {st'' : St} (h : AccM start cur ks vs)
    (hs : stop ≤ cur) (hlt : stop < start) (hst : st''.rest.length = stop) :
    OkPost start (.map (mkHdr start stop) none (hasDuplicates cfg ks.reverse).2 vs.reverse) st'' := by
  have hsk := hasDuplicates_skv cfg ks.reverse
  have henc : ∀ x, x ∈ ks ∨ x ∈ vs → encloses (mkHdr start stop) x.hdr :=
    fun x hx => ((h.bnd x hx).mono (Nat.le_refl _) hs).encloses
  have hpw : (interleave ks.reverse vs.reverse).Pairwise before := by
    rw [interleave_reverse _ _ h.len, List.pairwise_reverse]; exact h.pw
  refine okPost_fresh ⟨Or.inr hlt, ?_, fun x hx => henc x (Or.inr (List.mem_reverse.mp hx)), ?_, ?_, ?_,
    rangeOKO_none _⟩ rfl rfl ?_ hlt hst
  · rw [encloses_all_iff, hsk, ← encloses_all_iff]
    exact fun x hx => henc x (Or.inl (List.mem_reverse.mp hx))
  · rw [pairwise_before_iff, interleave_map, hsk, ← interleave_map, ← pairwise_before_iff]
    exact hpw
  · exact hasDuplicates_rangeOK _ _ ((rangeOKL_iff _).mpr fun x hx => h.okk x (List.mem_reverse.mp hx))
  · exact (rangeOKL_iff _).mpr fun x hx => h.okv x (List.mem_reverse.mp hx)
  · show _ = _
    rw [hasDuplicates_length, List.length_reverse, List.length_reverse]
    exact h.len

end Edn.Proofs
