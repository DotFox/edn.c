/-
  The six mutually recursive reader functions as ONE function `run ctx f` of a call (`Call6`), its
  non-recursive step `step ctx R` over an oracle `R` for the calls with one unit of fuel less, and the
  induction on the fuel that goes through them (`run_succ`, `run_ind`).  What a step can do is listed in
  `Edn.Proofs.StepRel`.
-/
import Edn.Proofs.LeafSpec

namespace Edn.Proofs
open Edn.Model
open Edn.Generated

def eofErrOf (d : Nat) (st : St) : Res :=
  .err { code := .unexpectedEof, es := none, ee := none, eofTop := d == 0 } st

theorem hdr_setMd (v : Val) (m : Option Val) : (v.setMd m).hdr = v.hdr := by cases v <;> rfl

theorem qualifyKey_cases (n : Bytes) (k : Val) :
    qualifyKey n k = k ∨ (∃ ns nm, qualifyKey n k = .kw synthHdr ns nm) ∨
      (∃ ns nm, qualifyKey n k = .sym synthHdr none ns nm) := by
  cases k <;> try exact .inl rfl
  case sym h md ns nm =>
    cases ns with
    | none => exact .inr (.inr ⟨_, _, rfl⟩)
    | some m =>
      by_cases hm : (m == [0x5F]) = true
      · exact .inr (.inr ⟨none, nm, if_pos hm⟩)
      · exact .inl (if_neg hm)
  case kw h ns nm =>
    cases ns with
    | none => exact .inr (.inl ⟨_, _, rfl⟩)
    | some m =>
      by_cases hm : (m == [0x5F]) = true
      · exact .inr (.inl ⟨none, nm, if_pos hm⟩)
      · exact .inl (if_neg hm)

theorem readValue_zero (ctx : Ctx) (d : Nat) (dm : Bool) (st : St) : readValue ctx 0 d dm st = fuelOut st := by
  rw [readValue]
theorem readSeq_zero (ctx : Ctx) (d : Nat) (dm : Bool) (kind start : Nat) (st : St) (acc : List Val) :
    readSeq ctx 0 d dm kind start st acc = fuelOut st := by
  rw [readSeq]
theorem readMap_zero (ctx : Ctx) (d : Nat) (dm : Bool) (start : Nat) (ns : Option Bytes) (st : St)
    (ks vs : List Val) : readMap ctx 0 d dm start ns st ks vs = fuelOut st := by
  rw [readMap]
theorem readNsMap_zero (ctx : Ctx) (d : Nat) (dm : Bool) (start : Nat) (st : St) :
    readNsMap ctx 0 d dm start st = fuelOut st := by
  rw [readNsMap]
theorem readTagged_zero (ctx : Ctx) (d : Nat) (dm : Bool) (start : Nat) (st : St) :
    readTagged ctx 0 d dm start st = fuelOut st := by
  rw [readTagged]
theorem readMeta_zero (ctx : Ctx) (d : Nat) (dm : Bool) (start : Nat) (st : St) :
    readMeta ctx 0 d dm start st = fuelOut st := by
  rw [readMeta]

/-- no handler can be called: in discard mode, and where no registry is supplied -/
def quiet (ctx : Ctx) (dm : Bool) : Bool := dm || ctx.opts.registry.isNone

/-- `q` is `quiet ctx dm` wherever a step is walked -/
def Later (q : Bool) (st st' : St) : Prop :=
  st'.rest <:+ st.rest ∧ (q = true → st'.calls = st.calls)

theorem Later.refl (q : Bool) (st : St) : Later q st st := ⟨List.suffix_refl _, fun _ => rfl⟩

theorem Later.trans {q : Bool} {a b c : St} (h1 : Later q a b) (h2 : Later q b c) : Later q a c :=
  ⟨h2.1.trans h1.1, fun hq => (h2.2 hq).trans (h1.2 hq)⟩

theorem Later.rest {q : Bool} {st : St} {s : Bytes} (h : s <:+ st.rest) :
    Later q st { st with rest := s } := ⟨h, fun _ => rfl⟩

/-- the error an element loop reports when its element fails with `e`: the end of the input
    becomes UNTERMINATED_COLLECTION from the opening delimiter, everything else is passed on -/
def loopErr (start : Nat) (e : ErrInfo) (r : Bytes) : ErrInfo :=
  if e.code == .unexpectedEof && !e.fuelOut then mkErr .unterminatedCollection (some start) (some r.length) else e

theorem loopErr_hard {start : Nat} {e : ErrInfo} {r : Bytes} (h : e.code ≠ .unexpectedEof) : loopErr start e r = e := by
  have hb : (e.code == Err.unexpectedEof) = false := by
    cases hc : e.code <;> first | rfl | exact absurd hc h
  unfold loopErr
  rw [hb]
  rfl

theorem loopErr_eof {start : Nat} {e : ErrInfo} {r : Bytes} (h : e.code = .unexpectedEof) (hf : e.fuelOut = false) :
    loopErr start e r = mkErr .unterminatedCollection (some start) (some r.length) := by
  unfold loopErr
  rw [h, hf]
  rfl

theorem err_loopErr (start : Nat) (e : ErrInfo) (r : Bytes) (st' : St) :
    Res.err (loopErr start e r) st' =
      if e.code == .unexpectedEof && !e.fuelOut then
        .err (mkErr .unterminatedCollection (some start) (some r.length)) st'
      else .err e st' :=
  apply_ite (Res.err · st') _ _ _

theorem preWs_eq_skipWs (c0 : UInt8) (t : Bytes) :
    (if isPreWs c0 = true then skipWs (c0 :: t) else c0 :: t) = skipWs (c0 :: t) := by
  split
  · rfl
  · rename_i h; rw [skipWs_nonws c0 t (by simpa using h)]

inductive Call6
  | v (d : Nat) (dm : Bool) (st : St)
  | s (d : Nat) (dm : Bool) (kind start : Nat) (st : St) (acc : List Val)
  | m (d : Nat) (dm : Bool) (start : Nat) (ns : Option Bytes) (st : St) (ks vs : List Val)
  | n (d : Nat) (dm : Bool) (start : Nat) (st : St)
  | t (d : Nat) (dm : Bool) (start : Nat) (st : St)
  | me (d : Nat) (dm : Bool) (start : Nat) (st : St)

namespace Call6

def st : Call6 → St
  | v _ _ st | s _ _ _ _ st _ | m _ _ _ _ st _ _ | n _ _ _ st | t _ _ _ st | me _ _ _ st => st

def dm : Call6 → Bool
  | v _ dm _ | s _ dm _ _ _ _ | m _ dm _ _ _ _ _ | n _ dm _ _ | t _ dm _ _ | me _ dm _ _ => dm

def d : Call6 → Nat
  | v d _ _ | s d _ _ _ _ _ | m d _ _ _ _ _ _ | n d _ _ _ | t d _ _ _ | me d _ _ _ => d

/-- `readValue` hands a closing delimiter to the loop that called it (depth ≥ 1); `readNsMap` reads its
    prefix at its own depth and passes a closer on; the other four never answer "closer" -/
def mayClose : Call6 → Prop
  | v d _ _ | n d _ _ _ => d ≠ 0
  | _ => False

/-- `readValue` flags the end of the input as lying between forms at depth 0 only; `readNsMap` passes on
    what `readValue` answers at its own depth; the other four read one level down -/
def mayTop : Call6 → Prop
  | v d _ _ | n d _ _ _ => d = 0
  | _ => False

end Call6

def run (ctx : Ctx) (f : Nat) : Call6 → Res
  | .v d dm st => readValue ctx f d dm st
  | .s d dm kind start st acc => readSeq ctx f d dm kind start st acc
  | .m d dm start ns st ks vs => readMap ctx f d dm start ns st ks vs
  | .n d dm start st => readNsMap ctx f d dm start st
  | .t d dm start st => readTagged ctx f d dm start st
  | .me d dm start st => readMeta ctx f d dm start st

/-- the dispatcher of `readValue` at `c :: cs` -/
def stepD (ctx : Ctx) (R : Call6 → Res) (d : Nat) (dm : Bool) (calls : List Call) (c : UInt8) (cs : Bytes) : Res :=
  let s := c :: cs
  let st : St := { rest := s, calls := calls }
  let here := ctx.pos s
  let tooDeep : Bool := d ≥ Tables.maxNestingDepth
  let deepErr : Res := .err (mkErr .invalidSyntax (some here) (some (here - 1))) st
  match dispatch ctx.cfg c with
  | .string => readString ctx st
  | .character => readCharacter ctx st
  | .listOpen => if tooDeep then deepErr else R (.s d dm 0 here { st with rest := cs } [])
  | .vectorOpen => if tooDeep then deepErr else R (.s d dm 1 here { st with rest := cs } [])
  | .mapOpen => if tooDeep then deepErr else R (.m d dm here none { st with rest := cs } [] [])
  | .hash =>
    match cs with
    | nx :: cs' =>
      if nx == 0x23 then readSymbolic ctx st
      else if tooDeep then deepErr
      else if nx == 0x7B then R (.s d dm 2 here { st with rest := cs' } [])
      else if nx == 0x5F then
        match R (.v (d + 1) true { st with rest := cs' }) with
        | .ok _ st' => R (.v d dm st')
        | .closer st' => .err (mkErr .invalidDiscard (some here) (some (here - 2))) st'
        | .err e st' => .err e st'
      else if ctx.cfg.clj && nx == 0x3A then R (.n d dm here { st with rest := cs })
      else R (.t d dm here { st with rest := cs })
    | [] => R (.t d dm here { st with rest := cs })
  | .sign =>
    match cs with
    | nx :: _ => if is09 nx then readNumberRes ctx st else readIdentifier ctx st
    | [] => readIdentifier ctx st
  | .digit => readNumberRes ctx st
  | .delimiter =>
    if d == 0 then .err (mkErr .unmatchedDelimiter) st else .closer st
  | .metadata => if tooDeep then deepErr else R (.me d dm here { st with rest := cs })
  | .identifier => readIdentifier ctx st

def stepV (ctx : Ctx) (R : Call6 → Res) (d : Nat) (dm : Bool) (st : St) : Res :=
  match st.rest with
  | [] => eofErrOf d st
  | c0 :: _ =>
    match (if isPreWs c0 then skipWs st.rest else st.rest) with
    | [] => eofErrOf d { st with rest := [] }
    | c :: cs => stepD ctx R d dm st.calls c cs

def stepS (ctx : Ctx) (R : Call6 → Res) (d : Nat) (dm : Bool) (kind start : Nat) (st : St) (acc : List Val) : Res :=
    match R (.v (d + 1) dm st) with
    | .ok v st' => R (.s d dm kind start st' (v :: acc))
    | .err e st' =>
      if e.code == .unexpectedEof && !e.fuelOut then
        .err (mkErr .unterminatedCollection (some start) (some (ctx.pos st'.rest))) st'
      else .err e st'
    | .closer st' =>
      match st'.rest with
      | [] => .err (mkErr .unmatchedDelimiter (some start) (some (st'.rest.length - 1))) st'
      | c :: r =>
        if c != closerByte kind then
          .err (mkErr .unmatchedDelimiter (some start) (some (st'.rest.length - 1))) st'
        else
          let st'' := { st' with rest := r }
          let stop := ctx.pos r
          let xs := acc.reverse
          let h : Hdr := (mkHdr (start) (stop))
          if kind == 0 then .ok (.list h none xs) st''
          else if kind == 1 then .ok (.vec h none xs) st''
          else
            let (dup, ys) := hasDuplicates ctx.cfg xs
            if dup then .err (mkErr .duplicateElement (some start) (some stop)) st''
            else .ok (.set h none ys) st''

def stepM (ctx : Ctx) (R : Call6 → Res) (d : Nat) (dm : Bool) (start : Nat) (ns : Option Bytes) (st : St)
    (ks vs : List Val) : Res :=
    let unterminated (st' : St) : Res :=
      .err (mkErr .unterminatedCollection (some start) (some (ctx.pos st'.rest))) st'
    match R (.v (d + 1) dm st) with
    | .err e st' => if e.code == .unexpectedEof && !e.fuelOut then unterminated st' else .err e st'
    | .closer st' =>
      match st'.rest with
      | [] => .err (mkErr .unexpectedEof (some start) (some (ctx.pos st'.rest))) st'
      | c :: r =>
        if c != 0x7D then .err (mkErr .unmatchedDelimiter (some start) (some (st'.rest.length - 1))) st'
        else
          let st'' := { st' with rest := r }
          let stop := ctx.pos r
          let keys := ks.reverse
          let vals := vs.reverse
          let (dup, keys') := hasDuplicates ctx.cfg keys
          if dup then .err (mkErr .duplicateKey (some start) (some stop)) st''
          else .ok (.map (mkHdr (start) (stop)) none keys' vals) st''
    | .ok k st' =>
      match R (.v (d + 1) dm st') with
      | .closer st'' => .err (mkErr .invalidSyntax (some start) (some (ctx.pos st''.rest))) st''
      | .err e st'' => if e.code == .unexpectedEof && !e.fuelOut then unterminated st'' else .err e st''
      | .ok v st'' =>
        let k' := match ns with
          | some n => qualifyKey n k
          | none => k
        R (.m d dm start ns st'' (k' :: ks) (v :: vs))

def stepN (ctx : Ctx) (R : Call6 → Res) (d : Nat) (dm : Bool) (start : Nat) (st : St) : Res :=
    match R (.v d dm st) with
    | .closer st' => .closer st'
    | .err e st' => .err e st'
    | .ok kwv st' =>
      let serr (st' : St) : Res := .err (mkErr .invalidSyntax (some start) (some (ctx.pos st'.rest))) st'
      match kwv with
      | .kw _ none name =>
        let s := skipWs st'.rest
        let st2 := { st' with rest := s }
        match s with
        | c :: r => if c == 0x7B then R (.m d dm start (some name) { st2 with rest := r } [] []) else serr st2
        | [] => serr st2
      | _ => serr st'

/-- what `readTagged` answers once tag and element are read: the part that sees the registry and no
    recursive call -/
def tagOut (ctx : Ctx) (dm : Bool) (start : Nat) (tag : Bytes) (v : Val) (st'' : St) : Res :=
  let stop := ctx.pos st''.rest
  let passthrough : Res := .ok (.tagged (mkHdr (start) (stop)) none tag v) st''
  match ctx.opts.registry with
  | none => passthrough
  | some reg =>
    if dm then passthrough
    else match reg tag with
      | some h =>
        let st3 := { st'' with calls := st''.calls ++ [⟨h.name, v.hdr.s, v.hdr.e⟩] }
        match h.run v with
        | none => .err (mkErr .invalidSyntax (some start) (some stop)) st3
        | some r => .ok (r.setHdr { r.hdr with s := start, e := stop }) st3
      | none =>
        if ctx.opts.mode == 1 then .ok v st''
        else if ctx.opts.mode == 2 then .err (mkErr .unknownTag (some start) (some stop)) st''
        else passthrough

theorem tagOut_none {ctx : Ctx} (hreg : ctx.opts.registry = none) (dm : Bool) (start : Nat) (tag : Bytes) (v : Val)
    (st'' : St) :
    tagOut ctx dm start tag v st'' = .ok (.tagged (mkHdr start st''.rest.length) none tag v) st'' := by
  unfold tagOut
  rw [hreg]
  rfl

def stepT (ctx : Ctx) (R : Call6 → Res) (d : Nat) (dm : Bool) (start : Nat) (st : St) : Res :=
    let s := st.rest
    let cur (st : St) := some (ctx.pos st.rest)
    match s with
    | [] => .err (mkErr .unexpectedEof (some start) (cur st)) st
    | c :: _ =>
      if c == 0x20 || c == 0x09 || c == 0x0A || c == 0x0D || c == 0x2C then
        .err (mkErr .invalidSyntax (some start) (cur st)) st
      else
        match readIdentifier ctx st with
        | .closer st' => .closer st'
        | .err e st' => .err e st'
        | .ok tagv st' =>
          match tagv with
          | .sym .. =>
            match R (.v (d + 1) dm st') with
            | .closer st'' => .err (mkErr .invalidSyntax (some start) (cur st'')) st''
            | .err e st'' => .err e st''
            | .ok v st'' => tagOut ctx dm start (slice s st'.rest) v st''
          | _ => .err (mkErr .invalidSyntax (some start) (cur st')) st'

def stepMe (ctx : Ctx) (R : Call6 → Res) (d : Nat) (dm : Bool) (start : Nat) (st : St) : Res :=
    let serr (st' : St) : Res := .err (mkErr .invalidSyntax (some start) (some (ctx.pos st'.rest))) st'
    match R (.v (d + 1) dm st) with
    | .closer st' => serr st'
    | .err e st' => .err e st'
    | .ok m st' =>
      match metaEntries m with
      | none => serr st'
      | some (nks, nvs) =>
        match R (.v (d + 1) dm st') with
        | .closer st'' => serr st''
        | .err e st'' => .err e st''
        | .ok form st'' =>
          if !form.metaTarget then serr st''
          else
            let form' := attachMeta ctx.cfg m form nks nvs
            .ok (form'.setHdr { form'.hdr with s := start }) st''

def step (ctx : Ctx) (R : Call6 → Res) : Call6 → Res
  | .v d dm st => stepV ctx R d dm st
  | .s d dm kind start st acc => stepS ctx R d dm kind start st acc
  | .m d dm start ns st ks vs => stepM ctx R d dm start ns st ks vs
  | .n d dm start st => stepN ctx R d dm start st
  | .t d dm start st => stepT ctx R d dm start st
  | .me d dm start st => stepMe ctx R d dm start st

theorem run_zero (ctx : Ctx) (c : Call6) : run ctx 0 c = fuelOut c.st := by
  cases c
  · exact readValue_zero ..
  · exact readSeq_zero ..
  · exact readMap_zero ..
  · exact readNsMap_zero ..
  · exact readTagged_zero ..
  · exact readMeta_zero ..

theorem run_succ (ctx : Ctx) (f : Nat) (c : Call6) : run ctx (f + 1) c = step ctx (run ctx f) c := by
  cases c with
  | v d dm st =>
    show readValue ctx (f + 1) d dm st = stepV ctx (run ctx f) d dm st
    rw [readValue]
    unfold stepV
    simp only []
    cases hs : st.rest with
    | nil => rfl
    | cons c0 t =>
      simp only []
      cases hw : (if isPreWs c0 = true then skipWs (c0 :: t) else c0 :: t) with
      | nil => rfl
      | cons c cs => rfl
  | s d dm kind start st acc => show readSeq ctx (f + 1) d dm kind start st acc = _; rw [readSeq]; rfl
  | m d dm start ns st ks vs => show readMap ctx (f + 1) d dm start ns st ks vs = _; rw [readMap]; rfl
  | n d dm start st => show readNsMap ctx (f + 1) d dm start st = _; rw [readNsMap]; rfl
  | t d dm start st => show readTagged ctx (f + 1) d dm start st = _; rw [readTagged]; rfl
  | me d dm start st => show readMeta ctx (f + 1) d dm start st = _; rw [readMeta]; rfl

/- `run_succ` function by function, for a proof that walks a body in step with another program
   (the allocation-aware reader) -/
section
variable (ctx : Ctx) (f d : Nat) (dm : Bool) (start : Nat) (st : St)
theorem readValue_eq_stepV : readValue ctx (f + 1) d dm st = stepV ctx (run ctx f) d dm st := run_succ ctx f (.v d dm st)
theorem readSeq_eq_stepS (kind : Nat) (acc : List Val) :
    readSeq ctx (f + 1) d dm kind start st acc = stepS ctx (run ctx f) d dm kind start st acc :=
  run_succ ctx f (.s d dm kind start st acc)
theorem readMap_eq_stepM (ns : Option Bytes) (ks vs : List Val) :
    readMap ctx (f + 1) d dm start ns st ks vs = stepM ctx (run ctx f) d dm start ns st ks vs :=
  run_succ ctx f (.m d dm start ns st ks vs)
theorem readNsMap_eq_stepN : readNsMap ctx (f + 1) d dm start st = stepN ctx (run ctx f) d dm start st :=
  run_succ ctx f (.n d dm start st)
theorem readTagged_eq_stepT : readTagged ctx (f + 1) d dm start st = stepT ctx (run ctx f) d dm start st :=
  run_succ ctx f (.t d dm start st)
theorem readMeta_eq_stepMe : readMeta ctx (f + 1) d dm start st = stepMe ctx (run ctx f) d dm start st :=
  run_succ ctx f (.me d dm start st)
end

theorem run_ind (ctx : Ctx) {P : Nat → (Call6 → Res) → Prop} (zero : P 0 fun c => fuelOut c.st)
    (succ : ∀ f, P f (run ctx f) → P (f + 1) (step ctx (run ctx f))) : ∀ f, P f (run ctx f) := by
  intro f
  induction f with
  | zero => exact (funext (run_zero ctx) : run ctx 0 = _) ▸ zero
  | succ f ih => exact (funext (run_succ ctx f) : run ctx (f + 1) = _) ▸ succ f ih

theorem run_v (ctx : Ctx) (f d : Nat) (dm : Bool) (st : St) : run ctx f (.v d dm st) = readValue ctx f d dm st := rfl

end Edn.Proofs
