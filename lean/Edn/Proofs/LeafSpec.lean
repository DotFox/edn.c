/-
  The vocabulary of answers: the tests on a reader's answer that every invariant of the reader is stated
  in (`Res.isFuelOut`, `Res.st`, `Res.isCloser`, `Res.codeIs`, `Res.noTop`) and `Progress` (a value consumes
  at least one byte, nothing moves the cursor backwards).
  One specification per leaf reader.  The whitespace skipper and the leaf readers (strings, characters,
  identifiers, symbolic values, numbers): where their scanners stop, and then, one theorem per reader,
  everything the inductions on the fuel use of its answer: `LeafRes` (never a closing delimiter, never out
  of fuel; a leaf value whose header spans what was consumed, or an error of the reader's code with a range
  inside the input; the call log passed through), `LeafAns` (with `Progress`, the kind of the value, and
  the new rest a suffix of the old).  `LeafCall` lists the calls by which the dispatcher reaches a leaf
  reader, so that the inductions treat them as one case.  Also here, because it needs nothing more: the
  exactness of the `##` tokens (`SymName`, `readSymbolic_ok_iff`).
-/
import Edn.Proofs.NumberProgress
import Edn.Proofs.TextBlockScan
import Edn.Spec.Renders
import Edn.Spec.StringFull

namespace Edn.Proofs
open Edn.Model Edn.Spec

def _root_.Edn.Model.Res.isFuelOut : Res → Bool
  | .err e _ => e.fuelOut
  | _ => false

def _root_.Edn.Model.Res.st : Res → St
  | .ok _ st | .closer st | .err _ st => st

def _root_.Edn.Model.Res.isCloser : Res → Bool
  | .closer _ => true
  | _ => false

def _root_.Edn.Model.Res.codeIs (c : Err) : Res → Bool
  | .err e _ => decide (e.code = c)
  | _ => true

def _root_.Edn.Model.Res.noTop : Res → Bool
  | .err e _ => !e.eofTop
  | _ => true

def Progress (before : St) (r : Res) : Prop :=
  match r with
  | .ok _ st' => st'.rest.length < before.rest.length
  | .closer st' => st'.rest.length ≤ before.rest.length
  | .err _ st' => st'.rest.length ≤ before.rest.length

theorem skipWs_suffix (s : Bytes) : skipWs s <:+ s := by
  rw [skipWs_eq]
  obtain ⟨tr, rest, -, rfl, ⟨_, _, _, _, _, h⟩ | ⟨h, -⟩⟩ := skipWsScalar_spec s <;> rw [h]
  · exact List.suffix_append tr rest
  · exact List.nil_suffix

theorem skipWs_length_le (s : Bytes) : (skipWs s).length ≤ s.length := (skipWs_suffix s).length_le

theorem skipWs_nonws (c : UInt8) (t : Bytes) (h : isPreWs c = false) : skipWs (c :: t) = c :: t := by
  rw [skipWs_eq]
  unfold skipWsScalar
  rw [skipWsScalarAux_false_cons]
  rw [isPreWs_iff] at h
  simp only [Bool.or_eq_false_iff] at h
  simp [h.1, h.2]

theorem findQuote_suffix (s q : Bytes) (e : Bool) (h : findQuote s = some (q, e)) : q <:+ s := by
  obtain ⟨sp, t, -, rfl, rfl, -⟩ := (findQuote_some_iff s q e).mp h
  exact List.suffix_append _ _

theorem findQuote_ne_nil (s q : Bytes) (e : Bool) (h : findQuote s = some (q, e)) : q ≠ [] := by
  obtain ⟨sp, t, -, -, rfl, -⟩ := (findQuote_some_iff s q e).mp h
  exact List.cons_ne_nil _ _

/- `charNamed`, `charTail` (what may stand where no name does) and `charBody` are the code-point part of
   `Edn.Model.readCharacter` copied out, so that it has lemmas of its own; `readCharacter_eq` ties the
   copy to the model. -/
def charNamed (p : Bytes) (nm : String) (cp : Nat) : Option (Nat × Bytes) :=
  if startsWith p (strBytes nm) then some (cp, p.drop nm.length) else none

def charTail (ctx : Ctx) (p : Bytes) : Except Nat (Nat × Bytes) :=
  let c := peek p
  let c1 := peek p.tail
  if ctx.cfg.clj && c == 0x6F && !p.tail.isEmpty && is09 c1 then
    match octalChar p.tail with
    | none => .error (ctx.pos p.tail)
    | some x => .ok x
  else if c == 0x75 && !p.tail.isEmpty && (hexDigit? c1).isSome then
    let q := p.tail
    match hex4? q with
    | none => .error (q.length - 4)
    | some (v, q') =>
      if ctx.cfg.exp then .ok (hexMore 2 v q') else .ok (v, q')
  else if !isValidSingleChar ctx.cfg c then .error (p.length - 1)
  else .ok (c.toNat, p.tail)

def charBody (ctx : Ctx) (p : Bytes) : Except Nat (Nat × Bytes) :=
      match charNamed p "newline" 0x0A with
      | some x => .ok x
      | none => match charNamed p "return" 0x0D with
      | some x => .ok x
      | none => match charNamed p "space" 0x20 with
      | some x => .ok x
      | none => match charNamed p "tab" 0x09 with
      | some x => .ok x
      | none =>
      match (if ctx.cfg.clj then (charNamed p "formfeed" 0x0C).orElse (fun _ => charNamed p "backspace" 0x08) else none) with
      | some x => .ok x
      | none => charTail ctx p

theorem readCharacter_eq (ctx : Ctx) (st : St) :
    readCharacter ctx st =
      if st.rest.tail.isEmpty then
        .err (mkErr .invalidCharacter (some (ctx.pos st.rest)) (some (ctx.pos st.rest.tail))) st
      else
        match charBody ctx st.rest.tail with
        | .error ee => .err (mkErr .invalidCharacter (some (ctx.pos st.rest)) (some ee)) st
        | .ok (cp, rest) =>
          if cp > 0x10FFFF then .err (mkErr .invalidCharacter (some (ctx.pos st.rest)) (some (ctx.pos rest))) st
          else if !rest.isEmpty && !isDelim (peek rest) then
            .err (mkErr .invalidCharacter (some (ctx.pos st.rest)) (some (ctx.pos rest))) st
          else .ok (.char (mkHdr (ctx.pos st.rest) (ctx.pos rest)) cp) { st with rest := rest } := by
  rfl

theorem charNamed_suffix {p : Bytes} {nm : String} {cp : Nat} {x : Nat × Bytes}
    (h : charNamed p nm cp = some x) : x.2 <:+ p := by
  rcases ite_eq_elim h with ⟨_, h⟩ | ⟨_, h⟩ <;> cases h
  exact List.drop_suffix _ _

theorem run_split (p : UInt8 → Bool) (n : Nat) (s : Bytes) :
    s = (s.take n).takeWhile p ++ s.drop ((s.take n).takeWhile p).length ∧
      ((s.take n).takeWhile p).length ≤ n ∧ ∀ d ∈ (s.take n).takeWhile p, p d = true :=
  ⟨(List.prefix_iff_eq_append.mp ((List.takeWhile_prefix p).trans (List.take_prefix n s))).symm,
    Nat.le_trans (List.takeWhile_prefix p).length_le (List.length_take_le n s), List.all_eq_true.mp List.all_takeWhile⟩

theorem octalChar_sound {s r : Bytes} {v : Nat} (h : octalChar s = some (v, r)) :
    ∃ ds, s = ds ++ r ∧ OctDigits ds ∧ v = octValue ds := by
  obtain ⟨hs, hlen, hall⟩ := run_split isOct 3 s
  unfold octalChar at h
  simp only [] at h
  generalize List.takeWhile isOct (List.take 3 s) = digs at h hs hlen hall
  rcases ite_eq_elim h with ⟨_, h⟩ | ⟨hne, h⟩
  · cases h
  rcases ite_eq_elim h with ⟨_, h⟩ | ⟨_, h⟩
  · cases h
  rcases ite_eq_elim h with ⟨_, h⟩ | ⟨hv, h⟩
  · cases h
  cases h
  refine ⟨digs, hs, ⟨?_, hlen, hall, Nat.le_of_not_gt hv⟩, rfl⟩
  cases digs with
  | nil => exact absurd rfl hne
  | cons _ _ => exact Nat.succ_le_succ (Nat.zero_le _)

theorem octalChar_suffix {s : Bytes} {x : Nat × Bytes} (h : octalChar s = some x) : x.2 <:+ s := by
  obtain ⟨ds, hs, -⟩ := octalChar_sound (v := x.1) (r := x.2) h
  exact ⟨ds, hs.symm⟩

theorem hex4_suffix {q : Bytes} {x : Nat × Bytes} (h : hex4? q = some x) : x.2 <:+ q := by
  obtain ⟨a, b, c, d, _, _, _, _, rfl, -⟩ := hex4?_some (cp := x.1) (r' := x.2) h
  exact ⟨[a, b, c, d], rfl⟩

theorem hexMore_eq : ∀ (k v : Nat) (s : Bytes), hexMore k v s =
    (((s.take k).takeWhile fun c => (hexDigit? c).isSome).foldl (fun a c => a * 16 + (hexDigit? c).getD 0) v,
      s.drop ((s.take k).takeWhile fun c => (hexDigit? c).isSome).length)
  | 0, _, _ => rfl
  | _ + 1, _, [] => rfl
  | k + 1, v, c :: r => by
    rw [hexMore, List.take_succ_cons, List.takeWhile_cons]
    cases hd : hexDigit? c with
    | none => rfl
    | some d =>
      simp only [Option.isSome_some, if_true, List.foldl_cons, List.length_cons, List.drop_succ_cons, hd,
        Option.getD_some]
      exact hexMore_eq k _ r

theorem hexMore_suffix (k v : Nat) (s : Bytes) : (hexMore k v s).2 <:+ s := by
  rw [hexMore_eq]; exact List.drop_suffix _ _

def charProg (p : Bytes) : Except Nat (Nat × Bytes) → Prop
  | .ok x => x.2 <:+ p
  | .error ee => ee ≤ p.length

theorem charProg_named {p : Bytes} (nm : String) (cp : Nat) {k : Except Nat (Nat × Bytes)} (hk : charProg p k) :
    charProg p (match charNamed p nm cp with | some x => .ok x | none => k) := by
  cases h : charNamed p nm cp with
  | some x => exact charNamed_suffix h
  | none => exact hk

theorem charBody_prog (ctx : Ctx) (p : Bytes) : charProg p (charBody ctx p) := by
  unfold charBody
  have ht := List.tail_suffix p
  refine charProg_named _ _ (charProg_named _ _ (charProg_named _ _ (charProg_named _ _ ?_)))
  cases hx : (if ctx.cfg.clj = true then
      (charNamed p "formfeed" 0x0C).orElse (fun _ => charNamed p "backspace" 0x08) else none) with
  | some x =>
    rcases ite_eq_elim hx with ⟨_, hx⟩ | ⟨_, hx⟩
    · cases hff : charNamed p "formfeed" 0x0C with
      | some z => rw [hff] at hx; cases hx; exact charNamed_suffix hff
      | none => rw [hff] at hx; exact charNamed_suffix hx
    · cases hx
  | none =>
    unfold charTail
    dsimp only
    refine ite_ind (fun _ => ?_) fun _ => ite_ind (fun _ => ?_) fun _ => ite_ind (fun _ => ?_) fun _ => ht
    · cases h : octalChar p.tail with
      | none => exact ht.length_le
      | some x => exact (octalChar_suffix h).trans ht
    · cases h : hex4? p.tail with
      | none => exact Nat.le_trans (Nat.sub_le _ _) ht.length_le
      | some x =>
        obtain ⟨v, q'⟩ := x
        have hq : q' <:+ p := (hex4_suffix h).trans ht
        exact ite_ind (fun _ => (hexMore_suffix 2 v q').trans hq) fun _ => hq
    · exact Nat.sub_le _ _

theorem identSplit_valid (len : Nat) (sl : Option Nat) (h : (identSplit len sl).valid = true) :
    1 ≤ (identSplit len sl).len := by
  unfold identSplit at h ⊢
  by_cases h0 : (len == 0) = true
  · rw [if_pos h0] at h; cases h
  have hl : 1 ≤ len := Nat.pos_of_ne_zero fun e => h0 (by rw [e]; rfl)
  rw [if_neg h0] at h ⊢
  cases sl with
  | none => exact hl
  | some k =>
    let P : IdentScan → Prop := fun x => x.valid = true → 1 ≤ x.len
    exact ite_ind (P := P) (fun _ _ => Nat.le_refl 1) (fun _ => ite_ind (P := P) (fun _ h => Bool.noConfusion h)
      fun _ => ite_ind (P := P) (fun _ h => Bool.noConfusion h) fun _ _ => hl) h

theorem scanIdent_valid (s : Bytes) (h : (scanIdent s).valid = true) : 1 ≤ (scanIdent s).len := by
  rw [scanIdent_eq_spec] at h ⊢
  unfold scanIdentSpec at h ⊢
  exact ite_ind (P := fun x : IdentScan => x.valid = true → 1 ≤ x.len) (fun _ h => Bool.noConfusion h)
    (fun _ => identSplit_valid _ _) h

theorem scanIdent_nil : (scanIdent []).valid = false := by decide

/-- the range of the error lies within the last `n` bytes of the input.  Positions are lengths of the
    remaining input, so the start is the larger number; an absent field counts as the cursor of `st'`. -/
def ErrB (n : Nat) (e : ErrInfo) (st' : St) : Prop :=
  e.ee.getD st'.rest.length ≤ e.es.getD st'.rest.length ∧ e.es.getD st'.rest.length ≤ n

theorem ErrB.mono {n m : Nat} {e : ErrInfo} {st' : St} (h : ErrB n e st') (hnm : n ≤ m) : ErrB m e st' :=
  ⟨h.1, Nat.le_trans h.2 hnm⟩

theorem errB_some {n a b : Nat} {code : Err} {st' : St} (hba : b ≤ a) (han : a ≤ n) :
    ErrB n (mkErr code (some a) (some b)) st' := ⟨hba, han⟩

theorem errB_none {n : Nat} {code : Err} {st' : St} (h : st'.rest.length ≤ n) :
    ErrB n (mkErr code) st' := ⟨Nat.le_refl _, h⟩

/-- what a leaf reader can answer: no operands and no metadata (`leaf` of `EqualBody` asks only for
    "no operands", so it holds of a symbol with metadata too) -/
def isLeaf : Val → Bool
  | .nil .. | .bool .. | .int .. | .bigint .. | .float .. | .bigdec .. | .ratio .. | .bigratio ..
  | .char .. | .str .. | .kw .. => true
  | .sym _ none _ _ => true
  | _ => false

def LeafPost (st : St) (r : Res) : Prop :=
  match r with
  | .ok v st' => isLeaf v = true ∧ v.hdr = mkHdr st.rest.length st'.rest.length
  | .closer _ => True
  | .err e st' => st'.rest.length ≤ st.rest.length → ErrB st.rest.length e st'

theorem LeafPost.err {st st' : St} {code : Err} {a b : Nat} (hba : b ≤ a) (ha : a ≤ st.rest.length) :
    LeafPost st (.err (mkErr code (some a) (some b)) st') :=
  fun _ => errB_some hba ha

structure LeafRes (code : Err) (st : St) (r : Res) : Prop where
  closer : r.isCloser = false
  fuel : r.isFuelOut = false
  calls : r.st.calls = st.calls
  code : r.codeIs code = true
  top : r.noTop = true
  post : LeafPost st r

theorem LeafRes.ok {code : Err} {st st' : St} {v : Val} (hl : isLeaf v = true)
    (hh : v.hdr = mkHdr st.rest.length st'.rest.length) (hc : st'.calls = st.calls) :
    LeafRes code st (.ok v st') := ⟨rfl, rfl, hc, rfl, rfl, hl, hh⟩

theorem LeafRes.err {code : Err} {st st' : St} {a b : Nat} (hba : b ≤ a) (ha : a ≤ st.rest.length)
    (hc : st'.calls = st.calls) : LeafRes code st (.err (mkErr code (some a) (some b)) st') :=
  ⟨rfl, rfl, hc, decide_eq_true rfl, rfl, .err hba ha⟩

theorem isLeaf_md {v : Val} (h : isLeaf v = true) : v.md = none := by
  cases v with
  | sym _ md _ _ => cases md with
    | none => rfl
    | some _ => cases h
  | _ => first | rfl | cases h

theorem leaf_eq {v : Val} (h : isLeaf v = true) : v = (strip v).setHdr v.hdr := by
  cases v with
  | sym _ md _ _ => cases md with
    | none => rfl
    | some _ => cases h
  | _ => first | rfl | cases h

theorem LeafRes.ok_leaf {code : Err} {st st' : St} {r : Res} {v : Val} (h : LeafRes code st r)
    (hr : r = .ok v st') : isLeaf v = true ∧ v.hdr = mkHdr st.rest.length st'.rest.length := by
  have := h.post; rw [hr] at this; exact this

/-- the leaves that the identifier, character and symbolic-value readers answer -/
def isTok : Val → Bool
  | .nil .. | .bool .. | .float .. | .char .. | .kw .. | .sym _ none _ _ => true
  | _ => false

/-- all that the proof families use of the answer of a reader that scans for itself; `K` is the kind
    of value it returns -/
def LeafAns (code : Err) (K : Val → Bool) (st : St) (r : Res) : Prop :=
  Progress st r ∧ LeafRes code st r ∧ (∀ v st', r = .ok v st' → K v = true) ∧ r.st.rest <:+ st.rest

theorem LeafAns.kind {code : Err} {K : Val → Bool} {st : St} {r : Res} (h : LeafAns code K st r) :
    ∀ v st', r = .ok v st' → K v = true := h.2.2.1

theorem LeafAns.ite {code : Err} {K : Val → Bool} {st : St} {c : Prop} [Decidable c] {a b : Res}
    (ha : LeafAns code K st a) (hb : LeafAns code K st b) : LeafAns code K st (if c then a else b) :=
  ite_ind (fun _ => ha) fun _ => hb

theorem LeafAns.ok {code : Err} {K : Val → Bool} {st : St} {v : Val} {s : Bytes} (hk : K v = true) (hl : isLeaf v = true)
    (hh : v.hdr = mkHdr st.rest.length s.length) (hs : s <:+ st.rest) (hlt : s.length < st.rest.length) :
    LeafAns code K st (.ok v { st with rest := s }) := ⟨hlt, .ok hl hh rfl, fun _ _ h => by cases h; exact hk, hs⟩

theorem LeafAns.err {code : Err} {K : Val → Bool} {st : St} {b : Nat} {s : Bytes} (hb : b ≤ st.rest.length)
    (hs : s <:+ st.rest) :
    LeafAns code K st (.err (mkErr code (some st.rest.length) (some b)) { st with rest := s }) :=
  ⟨hs.length_le, .err hb (Nat.le_refl _) rfl, nofun, hs⟩

def isStr : Val → Bool
  | .str .. => true
  | _ => false

theorem readString_spec (ctx : Ctx) (st : St) : LeafAns .invalidString isStr st (readString ctx st) := by
  unfold readString
  dsimp only
  refine ite_ind (fun hb => ?_) fun _ => ?_
  · -- a text block: the opener is four bytes long
    have h4 : 4 ≤ st.rest.length :=
      (List.isPrefixOf_iff_prefix.mp ((Bool.and_eq_true _ _).mp hb).2).length_le
    have hd : (st.rest.drop 4).length < st.rest.length := by rw [List.length_drop]; omega
    have hl := tbLines_outcome ((st.rest.drop 4).length + 2) (st.rest.drop 4) [] (by omega)
    unfold readTextBlockBody
    generalize tbLines ((st.rest.drop 4).length + 2) (st.rest.drop 4) [] = r at hl
    match r with
    | .ok (_, r') =>
      have hs := ClosedAt.suffix hl
      exact .ok rfl rfl rfl (hs.trans (List.drop_suffix _ _)) (Nat.lt_of_le_of_lt hs.length_le hd)
    | .error (.eofInLine ls) =>
      have hs : ls <:+ st.rest := (CutLine.suffix hl).trans (List.drop_suffix _ _)
      exact ⟨hs.length_le, ⟨rfl, rfl, rfl, rfl, rfl, fun h => errB_none h⟩, nofun, hs⟩
    | .error .missingCloser => exact .err (Nat.zero_le _) List.nil_suffix
  · cases hq : findQuote st.rest.tail with
    | none => exact .err (Nat.zero_le _) (List.suffix_refl _)
    | some x =>
      obtain ⟨q, esc⟩ := x
      have hs : q <:+ st.rest := (findQuote_suffix _ _ _ hq).trans (List.tail_suffix _)
      have hne := findQuote_ne_nil _ _ _ hq
      have hq' : q.tail.length < q.length := by
        cases q with
        | nil => exact absurd rfl hne
        | cons c r => exact Nat.lt_succ_self _
      exact .ok rfl rfl rfl ((List.tail_suffix q).trans hs) (Nat.lt_of_lt_of_le hq' hs.length_le)

theorem readCharacter_spec (ctx : Ctx) (st : St) :
    LeafAns .invalidCharacter isTok st (readCharacter ctx st) := by
  rw [readCharacter_eq]
  have ht := List.tail_suffix st.rest
  refine ite_ind (fun _ => .err ht.length_le (List.suffix_refl _)) fun hne => ?_
  -- behind the backslash there is at least one byte
  have hlt : st.rest.tail.length < st.rest.length := by
    cases hs : st.rest with
    | nil => rw [hs] at hne; exact absurd rfl hne
    | cons c r => exact Nat.lt_succ_self _
  have hb := charBody_prog ctx st.rest.tail
  cases heq : charBody ctx st.rest.tail with
  | error ee =>
    rw [heq] at hb
    exact .err (Nat.le_trans hb ht.length_le) (List.suffix_refl _)
  | ok x =>
    obtain ⟨cp, rest⟩ := x
    rw [heq] at hb
    have hr : rest.length ≤ st.rest.length := (List.IsSuffix.trans hb ht).length_le
    exact .ite (.err hr (List.suffix_refl _)) (.ite (.err hr (List.suffix_refl _))
      (.ok rfl rfl rfl (List.IsSuffix.trans hb ht) (Nat.lt_of_le_of_lt (List.IsSuffix.length_le hb) hlt)))

theorem readIdentifier_spec (ctx : Ctx) (st : St) :
    LeafAns .invalidSyntax isTok st (readIdentifier ctx st) := by
  unfold readIdentifier
  dsimp only
  refine ite_ind (fun _ => .err (Nat.le_refl _) (List.suffix_refl _)) fun hv => ?_
  -- a valid token is not empty
  have hlt : (st.rest.drop (scanIdent st.rest).len).length < st.rest.length := by
    have hv' : (scanIdent st.rest).valid = true := by simpa using hv
    have h1 := scanIdent_valid _ hv'
    have hne : st.rest ≠ [] := fun hs => by rw [hs, scanIdent_nil] at hv'; cases hv'
    have := List.length_pos_iff.mpr hne
    rw [List.length_drop]
    omega
  have serr : LeafAns .invalidSyntax isTok st (.err (mkErr .invalidSyntax (some (ctx.pos st.rest))
      (some (ctx.pos (st.rest.drop (scanIdent st.rest).len))))
      { st with rest := st.rest.drop (scanIdent st.rest).len }) :=
    .err (Nat.le_of_lt hlt) (List.drop_suffix _ _)
  have ok : ∀ {v : Val}, isTok v = true → isLeaf v = true →
      v.hdr = mkHdr st.rest.length (st.rest.drop (scanIdent st.rest).len).length →
      LeafAns .invalidSyntax isTok st (.ok v { st with rest := st.rest.drop (scanIdent st.rest).len }) :=
    fun hk hl hh => .ok hk hl hh (List.drop_suffix _ _) hlt
  cases (scanIdent st.rest).ns with
  | none =>
    exact .ite (.ite serr (.ite serr (ok rfl rfl rfl)))
      (.ite (ok rfl rfl rfl) (.ite (ok rfl rfl rfl) (.ite (ok rfl rfl rfl) (ok rfl rfl rfl))))
  | some k => exact .ite (.ite serr (.ite serr (ok rfl rfl rfl))) (ok rfl rfl rfl)

theorem strBytes_Inf : strBytes "Inf" = [0x49, 0x6E, 0x66] := by decide +kernel
theorem strBytes_negInf : strBytes "-Inf" = [0x2D, 0x49, 0x6E, 0x66] := by decide +kernel
theorem strBytes_NaN : strBytes "NaN" = [0x4E, 0x61, 0x4E] := by decide +kernel
theorem len_Inf : (strBytes "Inf").length = 3 := by rw [strBytes_Inf]; rfl
theorem len_mInf : (strBytes "-Inf").length = 4 := by rw [strBytes_negInf]; rfl
theorem len_NaN : (strBytes "NaN").length = 3 := by rw [strBytes_NaN]; rfl

/-- the three names `readSymbolic` knows behind `##` -/
inductive SymName : Bytes → UInt64 → Prop
  | inf : SymName (strBytes "Inf") infBits
  | negInf : SymName (strBytes "-Inf") negInfBits
  | nan : SymName (strBytes "NaN") nanBits

/-- `readSymbolic` is entered at `##` and does not look at these two bytes again: it returns a value
    iff one of the three names follows them (no name is a prefix of another, so the order of the
    tests does not matter). -/
theorem readSymbolic_ok_iff (ctx : Ctx) (s : Bytes) (cl : List Call) (v : Val) (st' : St) :
    readSymbolic ctx { rest := s, calls := cl } = .ok v st' ↔
      ∃ kw bits rest, SymName kw bits ∧ s.drop 2 = kw ++ rest ∧
        v = .float (mkHdr s.length rest.length) bits ∧ st' = { rest := rest, calls := cl } := by
  unfold readSymbolic
  dsimp only [Ctx.pos]
  constructor
  · have found {kw bits k} {b : Res} (hn : SymName kw bits) (hk : kw.length = k)
        (hb : b = .ok v st' → ∃ kw bits rest, SymName kw bits ∧ s.drop 2 = kw ++ rest ∧
          v = .float (mkHdr s.length rest.length) bits ∧ st' = { rest := rest, calls := cl })
        (h : (if startsWith (s.drop 2) kw = true then
          .ok (.float (mkHdr s.length ((s.drop 2).drop k).length) bits) { rest := (s.drop 2).drop k, calls := cl }
          else b) = .ok v st') :
        ∃ kw bits rest, SymName kw bits ∧ s.drop 2 = kw ++ rest ∧
          v = .float (mkHdr s.length rest.length) bits ∧ st' = { rest := rest, calls := cl } := by
      rcases ite_eq_elim h with ⟨h1, h⟩ | ⟨-, h⟩
      · obtain ⟨t, ht⟩ := List.isPrefixOf_iff_prefix.mp h1
        rw [← ht, ← hk, List.drop_left] at h
        cases h
        exact ⟨kw, bits, t, hn, ht.symm, rfl, rfl⟩
      · exact hb h
    exact found .inf len_Inf (found .negInf len_mInf (found .nan len_NaN nofun))
  · rintro ⟨kw, bits, rest, hn, hs, rfl, rfl⟩
    rw [hs]
    cases hn
    · simp [startsWith, strBytes_Inf]
    · simp [startsWith, strBytes_Inf, strBytes_negInf]
    · simp [startsWith, strBytes_Inf, strBytes_negInf, strBytes_NaN]

theorem SymName.ne_nil {kw : Bytes} {bits : UInt64} (h : SymName kw bits) : kw ≠ [] := by
  cases h <;> decide +kernel

theorem readSymbolic_spec (ctx : Ctx) (st : St) :
    LeafAns .invalidSyntax isTok st (readSymbolic ctx st) := by
  unfold readSymbolic
  dsimp only
  -- a name found behind `##` has been consumed
  have mk : ∀ (nm : String) (bits : UInt64) (k : Nat) {b : Res}, 0 < k → 0 < (strBytes nm).length →
      LeafAns .invalidSyntax isTok st b →
      LeafAns .invalidSyntax isTok st (if startsWith (st.rest.drop 2) (strBytes nm) = true then
        .ok (.float (mkHdr (ctx.pos st.rest) (ctx.pos ((st.rest.drop 2).drop k))) bits)
          { st with rest := (st.rest.drop 2).drop k } else b) := by
    intro nm bits k b hk hnm hb
    refine ite_ind (fun hsw => .ok rfl rfl rfl ((List.drop_suffix _ _).trans (List.drop_suffix _ _)) ?_) fun _ => hb
    have := (List.isPrefixOf_iff_prefix.mp hsw).length_le
    rw [List.length_drop] at this
    rw [List.length_drop, List.length_drop]
    omega
  exact mk "Inf" _ 3 (by decide) (by rw [len_Inf]; decide) (mk "-Inf" _ 4 (by decide) (by rw [len_mInf]; decide)
    (mk "NaN" _ 3 (by decide) (by rw [len_NaN]; decide) (.err (Nat.zero_le _) (List.suffix_refl _))))

theorem readNumberRes_leafRes (ctx : Ctx) (st : St) :
    LeafRes .invalidNumber st (readNumberRes ctx st) := by
  unfold readNumberRes
  dsimp only
  cases readNumber ctx.cfg st.rest with
  | ok v rest => exact .ok (by cases v <;> rfl) (by cases v <;> rfl) rfl
  | err cur => exact ⟨rfl, rfl, rfl, rfl, rfl, fun h => errB_some h (Nat.le_refl _)⟩

theorem readNumberRes_progress (ctx : Ctx) (st : St) (c : UInt8) (cs : Bytes) (h : st.rest = c :: cs)
    (hc : is09 c = true ∨ ((c == 0x2B || c == 0x2D) = true ∧ ∃ d t, cs = d :: t ∧ is09 d = true)) :
    Progress st (readNumberRes ctx st) ∧ (readNumberRes ctx st).st.rest <:+ st.rest := by
  unfold readNumberRes
  dsimp only
  have := readNumber_prog ctx.cfg c cs hc
  rw [← h] at this
  generalize readNumber ctx.cfg st.rest = o at this
  cases o with
  | ok v r => exact ⟨this.2, this.1⟩
  | err cur => exact ⟨this.2, this.1⟩

/- The four readers that scan for themselves advance on every input; the number reader needs a digit, or a
   sign and a digit, at the cursor (`readNumberRes_progress`). -/
theorem readString_progress (ctx : Ctx) (st : St) : Progress st (readString ctx st) :=
  (readString_spec ctx st).1
theorem readCharacter_progress (ctx : Ctx) (st : St) : Progress st (readCharacter ctx st) :=
  (readCharacter_spec ctx st).1
theorem readIdentifier_progress (ctx : Ctx) (st : St) : Progress st (readIdentifier ctx st) :=
  (readIdentifier_spec ctx st).1
theorem readSymbolic_progress (ctx : Ctx) (st : St) : Progress st (readSymbolic ctx st) :=
  (readSymbolic_spec ctx st).1

theorem readString_leafRes (ctx : Ctx) (st : St) : LeafRes .invalidString st (readString ctx st) :=
  (readString_spec ctx st).2.1
theorem readCharacter_leafRes (ctx : Ctx) (st : St) : LeafRes .invalidCharacter st (readCharacter ctx st) :=
  (readCharacter_spec ctx st).2.1
theorem readIdentifier_leafRes (ctx : Ctx) (st : St) : LeafRes .invalidSyntax st (readIdentifier ctx st) :=
  (readIdentifier_spec ctx st).2.1
theorem readSymbolic_leafRes (ctx : Ctx) (st : St) : LeafRes .invalidSyntax st (readSymbolic ctx st) :=
  (readSymbolic_spec ctx st).2.1

theorem readIdentifier_rest_suffix {ctx : Ctx} {st st' : St} {v : Val} (h : readIdentifier ctx st = .ok v st') :
    st'.rest <:+ st.rest :=
  (h ▸ (readIdentifier_spec ctx st).2.2.2 :)

/-- `r` is the answer of a leaf reader at `st`, called (as the dispatch of `readValue` does) on
    input on which it is bound to advance -/
inductive LeafCall (ctx : Ctx) (st : St) : Res → Prop
  | string : LeafCall ctx st (readString ctx st)
  | character : LeafCall ctx st (readCharacter ctx st)
  | symbolic : LeafCall ctx st (readSymbolic ctx st)
  | number {c : UInt8} {cs : Bytes} : st.rest = c :: cs →
      (is09 c = true ∨ ((c == 0x2B || c == 0x2D) = true ∧ ∃ d t, cs = d :: t ∧ is09 d = true)) →
      LeafCall ctx st (readNumberRes ctx st)
  | identifier : LeafCall ctx st (readIdentifier ctx st)

theorem LeafCall.progress {ctx : Ctx} {st : St} {r : Res} (h : LeafCall ctx st r) : Progress st r := by
  cases h with
  | string => exact readString_progress ctx st
  | character => exact readCharacter_progress ctx st
  | symbolic => exact readSymbolic_progress ctx st
  | number h hc => exact (readNumberRes_progress ctx st _ _ h hc).1
  | identifier => exact readIdentifier_progress ctx st

theorem LeafCall.suffix {ctx : Ctx} {st : St} {r : Res} (h : LeafCall ctx st r) : r.st.rest <:+ st.rest := by
  cases h with
  | string => exact (readString_spec ctx st).2.2.2
  | character => exact (readCharacter_spec ctx st).2.2.2
  | symbolic => exact (readSymbolic_spec ctx st).2.2.2
  | number h hc => exact (readNumberRes_progress ctx st _ _ h hc).2
  | identifier => exact (readIdentifier_spec ctx st).2.2.2

theorem LeafCall.leaf {ctx : Ctx} {st : St} {r : Res} (h : LeafCall ctx st r) :
    ∃ code, code ≠ .ok ∧ LeafRes code st r := by
  cases h with
  | string => exact ⟨_, by decide, readString_leafRes ctx st⟩
  | character => exact ⟨_, by decide, readCharacter_leafRes ctx st⟩
  | symbolic => exact ⟨_, by decide, readSymbolic_leafRes ctx st⟩
  | number => exact ⟨_, by decide, readNumberRes_leafRes ctx st⟩
  | identifier => exact ⟨_, by decide, readIdentifier_leafRes ctx st⟩

end Edn.Proofs
