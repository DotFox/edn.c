/-
  `readValueA` maintains `BndV` (Edn.Proofs.AllocBoundLeaf).  The functions entered after an opening
  byte (`readSeqA` … `readMetaA`) maintain `BndL L0`: the opening byte, read when `L0 + 1` bytes were
  left, paid four requests, two of which they may use, and reserved `Rsv ℓ L0` for the looks of the
  duplicate check / metadata merge at the end of the form, which has at most `2 * L0 + 2` nodes.
  An element pays for its own requests and for the one request of the builder; an entry for the
  rewritten key and the two requests of the map builder; the closing delimiter (four requests) for
  the final array(s), the scratch array of the duplicate check and the collection value.  Each exit
  is a chain of `Pay` facts closed by one inequality over these constants.

  What is needed of the values read (they fit, two nodes per byte) is a fact about the reader of
  Edn.Model.Reader (`readValue_fit`), taken over through `readValueA_nofault` (`VA_ok`).

  A third induction beside the ledger's (`reader_rg`, Edn.Proofs.AllocLedger) and `World`
  (Edn.Proofs.AllocSim): `BndV` and `BndL` depend on the reading position and on the sizes of the values
  read so far, and they hold under a fault-free oracle only (`Hyp`), where those two quantify over every
  oracle.
-/
import Edn.Proofs.AllocBoundDup
import Edn.Proofs.AllocBoundLeaf
import Edn.Proofs.AllocSim

namespace Edn.Proofs.AllocBound
open Edn.Model Edn.Proofs Edn.Proofs.AllocBasic

/-- `S` nodes out of at most `2 * L0`: the reserve pays four looks per pair -/
theorem Rsv_pays {ℓ S L0 : Nat} (h : S ≤ 2 * L0) : ℓ * (4 * (S * S)) ≤ Rsv ℓ L0 := by
  have h1 : S * S ≤ (2 * (L0 + 1)) * (2 * (L0 + 1)) := Nat.mul_le_mul (by omega) (by omega)
  have h2 : (2 * (L0 + 1)) * (2 * (L0 + 1)) = 4 * ((L0 + 1) * (L0 + 1)) := by grind
  exact Nat.mul_le_mul_left _ (by omega)

theorem Rsv_pays2 {ℓ A B L0 : Nat} (hA : A ≤ 2 * L0) (hB : B ≤ 2 * L0 + 2) : ℓ * (2 * (A * B)) ≤ Rsv ℓ L0 := by
  have h1 : A * B ≤ (2 * (L0 + 1)) * (2 * (L0 + 1)) := Nat.mul_le_mul (by omega) (by omega)
  have h2 : (2 * (L0 + 1)) * (2 * (L0 + 1)) = 4 * ((L0 + 1) * (L0 + 1)) := by grind
  exact Nat.mul_le_mul_left _ (by omega)

def BndL (N ℓ L0 : Nat) (st : St) (a : ASt) (r : Res × ASt) : Prop :=
  r.2.arena = .alive ∧
  match r.1 with
  | .ok _ st' | .closer st' => Pay N ℓ (2 + Rsv ℓ L0) 0 st a st' r.2
  | .err _ _ => PayE N ℓ (4 + Rsv ℓ L0) st a r.2

section
variable {N ℓ L0 k g : Nat} {st1 st : St} {a1 a : ASt} {r : Res × ASt}

/-- the opening byte pays for what the form entered after it may spend -/
theorem BndL.toV (h : BndL N ℓ L0 st1 a r) (hp : Pay N ℓ 0 (4 + Rsv ℓ L0) st a st1 a) : BndV N ℓ st a r := by
  obtain ⟨ha, h2⟩ := h
  refine ⟨ha, ?_⟩
  rcases r with ⟨r, a'⟩
  cases r with
  | ok v st' => exact (hp.trans h2).le (by omega)
  | closer st' => exact (hp.trans h2).le (by omega)
  | err e st' => exact PayE.after h2 hp (by omega)

theorem BndL.after (h : BndL N ℓ L0 st1 a1 r) (hp : Pay N ℓ k g st a st1 a1) (hc : k ≤ g) : BndL N ℓ L0 st a r := by
  obtain ⟨ha, h2⟩ := h
  refine ⟨ha, ?_⟩
  rcases r with ⟨r, a'⟩
  cases r with
  | ok v st' => exact (hp.trans h2).le (by omega)
  | closer st' => exact (hp.trans h2).le (by omega)
  | err e st' => exact PayE.after h2 hp (by omega)

theorem BndV.errL {st' : St} {a' : ASt} {rr : Res} {e : ErrInfo} (h : BndV N ℓ st a (rr, a')) :
    BndL N ℓ L0 st a (.err e st', a') :=
  ⟨h.1, by have := h.payE; unfold PayE at *; dsimp only at *; omega⟩

/-- applied instead of `split`, which would rewrite the whole program text -/
theorem BndV.ite {c : Prop} [Decidable c] {t e : Res × ASt} (ht : c → BndV N ℓ st a t)
    (he : ¬c → BndV N ℓ st a e) : BndV N ℓ st a (if c then t else e) :=
  ite_ind ht he

theorem BndL.ite {c : Prop} [Decidable c] {t e : Res × ASt} (ht : c → BndL N ℓ L0 st a t)
    (he : ¬c → BndL N ℓ L0 st a e) : BndL N ℓ L0 st a (if c then t else e) :=
  ite_ind ht he

end

theorem pre_suffix (c0 : UInt8) (s0 : Bytes) : (if isPreWs c0 = true then skipWs s0 else s0) <:+ s0 := by
  split
  · exact skipWs_suffix s0
  · exact List.suffix_refl _

section
variable {x : ACtx} {input : Bytes} {N ℓ : Nat} (H : Hyp x input N ℓ)

-- `BV`, `BS`, `BM`, `B4 R`: the bound (`BndV` for `readValueA`; `BndL` for `readSeqA`, `readMapA` and
-- for `R` = `readNsMapA`, `readTaggedA`, `readMetaA`, which have the same arguments) holds of the
-- function with fuel `f`, from every state with a live arena at every suffix of the input.
abbrev BV (x : ACtx) (input : Bytes) (N ℓ f : Nat) : Prop :=
  ∀ d dm st a, a.arena = .alive → st.rest <:+ input → BndV N ℓ st a (readValueA x f d dm st a)
abbrev BS (x : ACtx) (input : Bytes) (N ℓ f : Nat) : Prop :=
  ∀ d dm kind start st a b acc L0, a.arena = .alive → st.rest <:+ input →
    FitL x.ctx.cfg N ℓ acc → szL acc + 2 * st.rest.length ≤ 2 * L0 →
    BndL N ℓ L0 st a (readSeqA x f d dm kind start st a b acc)
abbrev BM (x : ACtx) (input : Bytes) (N ℓ f : Nat) : Prop :=
  ∀ d dm start ns st a b ks vs L0, a.arena = .alive → st.rest <:+ input →
    FitL x.ctx.cfg N ℓ ks → szL ks + szL vs + 2 * st.rest.length ≤ 2 * L0 →
    BndL N ℓ L0 st a (readMapA x f d dm start ns st a b ks vs)
abbrev B4 (R : ACtx → Nat → Nat → Bool → Nat → St → ASt → Res × ASt) (x : ACtx) (input : Bytes) (N ℓ f : Nat) : Prop :=
  ∀ d dm start st a L0, a.arena = .alive → st.rest <:+ input → st.rest.length ≤ L0 →
    BndL N ℓ L0 st a (R x f d dm start st a)

include H

theorem VA_ok {f d : Nat} {dm : Bool} {st st' : St} {a a' : ASt} {v : Val} (ha : a.arena = .alive)
    (hsuf : st.rest <:+ input) (hq : readValueA x f d dm st a = (.ok v st', a')) :
    (Fit x.ctx.cfg N ℓ v ∧ sz v + 2 * st'.rest.length ≤ 2 * st.rest.length) ∧ st'.rest <:+ input := by
  have h := (Edn.Proofs.AllocSim.readValueA_nofault x H.orc f d dm st a ha).1
  rw [hq] at h
  exact readValue_fit H.reg H.name H.str hsuf h.symm

theorem readIdentifierA_ok_suffix {st st' : St} {a a' : ASt} {v : Val} (ha : a.arena = .alive)
    (hq : readIdentifierA x st a = (.ok v st', a')) : st'.rest <:+ st.rest := by
  have h := readIdentifierA_granted x st a (request_ff (N := 0) H.orc .arena a 0 ha).1
  rw [hq] at h
  exact readIdentifier_rest_suffix h.symm

/-- `#_ form form` -/
theorem discardA_bnd (f : Nat) (hV : BV x input N ℓ f) (d : Nat) (dm : Bool) (st0 : St) (e : ErrInfo) (a : ASt)
    (ha : a.arena = .alive) (hsuf : st0.rest <:+ input) :
    BndV N ℓ st0 a (match readValueA x f (d + 1) true st0 a with
      | (.ok _ st', a') => readValueA x f d dm st' a'
      | (.closer st', a') => (.err e st', a')
      | (.err e' st', a') => (.err e' st', a')) := by
  have h1 := hV (d + 1) true st0 a ha hsuf
  rcases hq : readValueA x f (d + 1) true st0 a with ⟨r, a'⟩
  rw [hq] at h1
  cases r with
  | ok v st' => exact (hV d dm st' a' h1.1 (VA_ok H ha hsuf hq).2).after h1.2 (by omega)
  | closer st' => exact h1.err
  | err e' st' => exact h1.err

theorem readValueA_bstep (f : Nat) (hV : BV x input N ℓ f) (hS : BS x input N ℓ f) (hM : BM x input N ℓ f)
    (hN : B4 readNsMapA x input N ℓ f) (hT : B4 readTaggedA x input N ℓ f) (hMe : B4 readMetaA x input N ℓ f) :
    BV x input N ℓ (f + 1) := by
  intro d dm st a ha hsuf
  unfold readValueA
  dsimp only
  have noCost : ∀ (e : ErrInfo) (st' : St), BndV N ℓ st a (.err e st', a) :=
    fun e st' => ⟨ha, Pay.err Pay.refl (by omega)⟩
  split
  · exact noCost _ _
  · next c0 t hs0 =>
    have hpre := pre_suffix c0 st.rest
    generalize (if isPreWs c0 = true then skipWs st.rest else st.rest) = s at hpre ⊢
    cases s with
    | nil => exact noCost _ _
    | cons c cs =>
      dsimp only
      have hsufI : (c :: cs) <:+ input := hpre.trans hsuf
      have hcs : cs <:+ input := (List.suffix_cons c cs).trans hsufI
      let stc : St := { rest := c :: cs, calls := st.calls }
      let sto : St := { rest := cs, calls := st.calls }
      have pc : Pay N ℓ 0 0 st a stc a := Pay.fwd hpre.length_le
      have up : ∀ r, BndV N ℓ stc a r → BndV N ℓ st a r := fun r h => h.after pc (Nat.le_refl _)
      have upL : ∀ r, BndL N ℓ cs.length sto a r → BndV N ℓ st a r :=
        fun r h => h.toV ((pc.trans (Pay.byte (st := stc) rfl)).le (Nat.le_refl _))
      have hnil : szL [] + 2 * sto.rest.length ≤ 2 * cs.length := by simp [szL, sto]
      have hnil2 : szL [] + szL [] + 2 * sto.rest.length ≤ 2 * cs.length := by simp [szL, sto]
      split
      · exact up _ (readStringA_bnd H stc a ha)
      · exact up _ (readCharacterA_bnd H stc a ha)
      · exact .ite (fun _ => noCost _ _) (fun _ => upL _ (hS _ _ _ _ sto a _ _ _ ha hcs FitL.nil hnil))
      · exact .ite (fun _ => noCost _ _) (fun _ => upL _ (hS _ _ _ _ sto a _ _ _ ha hcs FitL.nil hnil))
      · exact .ite (fun _ => noCost _ _) (fun _ => upL _ (hM _ _ _ _ sto a _ _ _ _ ha hcs FitL.nil hnil2))
      · -- `#`
        split
        · next nx cs' =>
          have hcs' : cs' <:+ input := (List.suffix_cons nx cs').trans hcs
          have pn : Pay N ℓ 0 (4 + Rsv ℓ cs'.length) st a ⟨cs', st.calls⟩ a :=
            ((pc.trans (Pay.fwd (st := stc) (st1 := ⟨nx :: cs', st.calls⟩) (Nat.le_succ _))).trans
              (Pay.byte (st := ⟨nx :: cs', st.calls⟩) rfl)).le (Nat.le_refl _)
          refine .ite (fun _ => ?_) (fun _ => .ite (fun _ => noCost _ _) (fun _ => .ite (fun _ => ?_) (fun _ =>
            .ite (fun _ => ?_) (fun _ => .ite (fun _ => ?_) (fun _ => ?_)))))
          · -- `##`
            exact up _ (readSymbolicA_bnd H stc a ha)
          · -- `#{`
            exact (hS _ _ _ _ ⟨cs', st.calls⟩ a _ _ cs'.length ha hcs' FitL.nil (by simp [szL])).toV pn
          · -- `#_`
            exact (discardA_bnd H f hV d dm ⟨cs', st.calls⟩ _ a ha hcs').after pn (Nat.zero_le _)
          · -- `#:`
            exact upL _ (hN _ _ _ sto a _ ha hcs (Nat.le_refl _))
          · exact upL _ (hT _ _ _ sto a _ ha hcs (Nat.le_refl _))
        · exact upL _ (hT _ _ _ sto a _ ha hcs (Nat.le_refl _))
      · -- sign
        next hdisp =>
        have hsg := dispatch_sign hdisp
        split
        · next nx t =>
          refine .ite (fun hnx => ?_) (fun _ => up _ (readIdentifierA_bnd H stc a ha))
          exact up _ (readNumberResA_bnd H stc a ha
            (readNumberRes_progress x.ctx stc c (nx :: t) rfl (Or.inr ⟨hsg, nx, t, rfl, hnx⟩)).1)
        · exact up _ (readIdentifierA_bnd H stc a ha)
      · next hdisp =>
        exact up _ (readNumberResA_bnd H stc a ha
          (readNumberRes_progress x.ctx stc c cs rfl (Or.inl (dispatch_digit hdisp))).1)
      · exact .ite (fun _ => noCost _ _) (fun _ => ⟨ha, pc⟩)
      · exact .ite (fun _ => noCost _ _) (fun _ => upL _ (hMe _ _ _ sto a _ ha hcs (Nat.le_refl _)))
      · exact up _ (readIdentifierA_bnd H stc a ha)

theorem valueA_pay (st st'' stE : St) (a a1 : ASt) (v : Val) (L0 k g : Nat) (ha1 : a1.arena = .alive)
    (hp : Pay N ℓ k g st a st'' a1) (hc : k + 1 ≤ g + 2 + Rsv ℓ L0) : BndL N ℓ L0 st a (valueA x a1 v st'' stE) := by
  have hst := (request_ff (N := N) H.orc .arena a1 0 ha1).2
  unfold valueA
  rw [request_ff_eq H.orc .arena a1 0 ha1]
  exact ⟨hst.1, (hp.trans hst.pay).le (by omega)⟩

/-- the close of a set or a map: the scratch array of the duplicate check, four looks per pair of the
    `S ≤ 2 * L0` nodes out of the reserve, the value -/
theorem dupCloseA_pay (st st'' : St) (a a1 : ASt) (xs : List Val) (e : ErrInfo) (mk : List Val → Val) (L0 k g : Nat)
    (gx : FitL x.ctx.cfg N ℓ xs) (hx : szL xs ≤ 2 * L0) (ha1 : a1.arena = .alive) (hp : Pay N ℓ k g st a st'' a1)
    (hc : k ≤ g) : BndL N ℓ L0 st a (dupCloseA x xs a1 e st'' mk) := by
  have h3 := hasDuplicatesA_stp (N := N) H.orc H.sort xs a1 gx ha1
  have hpay := Rsv_pays (ℓ := ℓ) hx
  have p2 := hp.trans (h3.pay (ℓ := ℓ) (st := st''))
  unfold dupCloseA
  generalize hasDuplicatesA x xs a1 = q at h3 p2 ⊢
  have herr : ∀ {e s}, BndL N ℓ L0 st a (.err e s, q.2) := ⟨h3.1, p2.err (by omega)⟩
  exact .ite (fun _ => herr) fun _ => .ite (fun _ => herr) fun _ => valueA_pay H st _ _ a _ _ L0 _ _ h3.1 p2 (by omega)

theorem readSeqA_bstep (f : Nat) (hV : BV x input N ℓ f) (hS : BS x input N ℓ f) : BS x input N ℓ (f + 1) := by
  intro d dm kind start st a b acc L0 ha hsuf gacc hacc
  unfold readSeqA
  dsimp only
  have h1 := hV (d + 1) dm st a ha hsuf
  rcases hq : readValueA x f (d + 1) dm st a with ⟨r, a'⟩
  rw [hq] at h1
  have herr : ∀ {e st''}, BndL N ℓ L0 st a (.err e st'', a') := h1.errL
  obtain ⟨ha', p⟩ := h1
  cases r with
  | ok v st' =>
    dsimp only at p ⊢
    obtain ⟨⟨gv, hsz⟩, hsuf'⟩ := VA_ok H ha hsuf hq
    obtain ⟨⟨b', hb'⟩, h2⟩ := (add_prim x b a').stp (N := N) H.orc ha'
    rcases hq2 : b.add x a' with ⟨ob, a1⟩
    rw [hq2] at hb' h2
    dsimp only at hb' h2
    subst hb'
    dsimp only
    exact (hS d dm kind start st' a1 b' (v :: acc) L0 h2.1 hsuf' (FitL.cons gv gacc)
      (by simp only [szL]; omega)).after (p.trans h2.pay) (by omega)
  | err e st' => exact .ite (fun _ => herr) (fun _ => herr)
  | closer st' =>
    dsimp only at p ⊢
    split
    · exact herr
    · next c r hr =>
      refine .ite (fun _ => herr) (fun _ => ?_)
      obtain ⟨hokF, h2⟩ := (finish_prim x b a').stp (N := N) H.orc ha'
      rcases hq2 : b.finish x a' with ⟨okF, a1⟩
      rw [hq2] at hokF h2
      dsimp only at hokF h2
      subst hokF
      simp only [Bool.not_true, Bool.false_eq_true, ↓reduceIte]
      have p1 := (p.trans h2.pay).trans (Pay.byte (a := a1) hr)
      exact .ite (fun _ => valueA_pay H st _ _ a a1 _ L0 _ _ h2.1 p1 (by omega)) fun _ =>
        .ite (fun _ => valueA_pay H st _ _ a a1 _ L0 _ _ h2.1 p1 (by omega)) fun _ =>
        dupCloseA_pay H st _ a a1 _ _ _ L0 _ _ gacc.reverse (by rw [szL_reverse]; omega) h2.1 p1 (by omega)

theorem readMapA_bstep (f : Nat) (hV : BV x input N ℓ f) (hM : BM x input N ℓ f) : BM x input N ℓ (f + 1) := by
  intro d dm start ns st a b ks vs L0 ha hsuf gks hacc
  unfold readMapA
  dsimp only
  have h1 := hV (d + 1) dm st a ha hsuf
  rcases hq : readValueA x f (d + 1) dm st a with ⟨r, a'⟩
  rw [hq] at h1
  have herr : ∀ {e st''}, BndL N ℓ L0 st a (.err e st'', a') := h1.errL
  obtain ⟨ha', p⟩ := h1
  cases r with
  | err e st' => exact .ite (fun _ => herr) (fun _ => herr)
  | closer st' =>
    dsimp only at p ⊢
    split
    · exact herr
    · next c r hr =>
      refine .ite (fun _ => herr) (fun _ => ?_)
      obtain ⟨hokF, h2⟩ := (finishPair_prim x b a').stp (N := N) H.orc ha'
      rcases hq2 : b.finishPair x a' with ⟨okF, a1⟩
      rw [hq2] at hokF h2
      dsimp only at hokF h2
      subst hokF
      simp only [Bool.not_true, Bool.false_eq_true, ↓reduceIte]
      exact dupCloseA_pay H st _ a a1 _ _ (fun ys => .map _ none ys vs.reverse) L0 _ _ gks.reverse
        (by rw [szL_reverse]; omega) h2.1 ((p.trans h2.pay).trans (Pay.byte (a := a1) hr)) (by omega)
  | ok k st' =>
    dsimp only at p ⊢
    obtain ⟨⟨gk, hszk⟩, hsuf'⟩ := VA_ok H ha hsuf hq
    have h2 := hV (d + 1) dm st' a' ha' hsuf'
    rcases hq2 : readValueA x f (d + 1) dm st' a' with ⟨r2, a''⟩
    rw [hq2] at h2
    have herr2 : ∀ {e st3}, BndL N ℓ L0 st a (.err e st3, a'') := (h2.after p (Nat.zero_le _)).errL
    obtain ⟨ha'', p2⟩ := h2
    cases r2 with
    | closer st'' => exact herr2
    | err e st'' => exact .ite (fun _ => herr2) (fun _ => herr2)
    | ok v st'' =>
      dsimp only at p2 ⊢
      obtain ⟨⟨-, hszv⟩, hsuf''⟩ := VA_ok H ha' hsuf' hq2
      have gk' : Fit x.ctx.cfg N ℓ (match (generalizing := false) ns with | some n => qualifyKey n k | none => k) ∧
          sz (match (generalizing := false) ns with | some n => qualifyKey n k | none => k) ≤ sz k := by
        split
        · exact ⟨fun h0 => good_qualifyKey _ _ (gk h0) (Nat.lt_of_le_of_lt (Nat.zero_le _) (H.name h0)), sz_qualifyKey _ _⟩
        · exact ⟨gk, Nat.le_refl _⟩
      -- the rewritten key
      obtain ⟨hokK, h3⟩ := (optional_prim x (ns.isSome && qualifyAllocs k) a'').stp (N := N) H.orc ha''
      generalize (if (ns.isSome && qualifyAllocs k) = true then a''.request x.orc .arena else (true, a'')) = rk
        at hokK h3 ⊢
      rcases rk with ⟨okK, a1⟩
      dsimp only at hokK h3 ⊢
      subst hokK
      simp only [Bool.not_true, Bool.false_eq_true, ↓reduceIte]
      obtain ⟨⟨b', hb'⟩, h4⟩ := (addPair_prim x b a1).stp (N := N) H.orc h3.1
      rcases hq4 : b.addPair x a1 with ⟨ob, a2⟩
      rw [hq4] at hb' h4
      dsimp only at hb' h4
      subst hb'
      dsimp only
      exact (hM d dm start ns st'' a2 b' _ (v :: vs) L0 h4.1 hsuf'' (FitL.cons gk'.1 gks)
        (by
          simp only [szL]
          refine Nat.le_trans (Nat.add_le_add_right (Nat.add_le_add_right (Nat.add_le_add_right gk'.2 _) _) _) ?_
          omega)).after (((p.trans p2).trans h3.pay).trans h4.pay) (by omega)

theorem readNsMapA_bstep (f : Nat) (hV : BV x input N ℓ f) (hM : BM x input N ℓ f) : B4 readNsMapA x input N ℓ (f + 1) := by
  intro d dm start st a L0 ha hsuf hL0
  unfold readNsMapA
  dsimp only
  have h1 := hV d dm st a ha hsuf
  rcases hq : readValueA x f d dm st a with ⟨r, a'⟩
  rw [hq] at h1
  have herr : ∀ {e st''}, BndL N ℓ L0 st a (.err e st'', a') := h1.errL
  obtain ⟨ha', p⟩ := h1
  cases r with
  | closer st' => exact ⟨ha', Pay.le p (by omega)⟩
  | err e st' => exact herr
  | ok kwv st' =>
    dsimp only at p ⊢
    obtain ⟨⟨-, hsz⟩, hsuf'⟩ := VA_ok H ha hsuf hq
    have hws := skipWs_suffix st'.rest
    split
    · split
      · next c r hs =>
        rw [hs] at hws
        have hlen := hws.length_le
        simp only [List.length_cons] at hlen
        refine .ite (fun _ => ?_) (fun _ => herr)
        exact (hM d dm start _ ⟨r, st'.calls⟩ a' {} [] [] L0 ha' (((List.suffix_cons c r).trans hws).trans hsuf') FitL.nil
          (by simp only [szL]; omega)).after (p.trans (Pay.fwd (a := a') (st1 := ⟨r, st'.calls⟩) (by simp only; omega)))
          (Nat.zero_le _)
      · exact herr
    · exact herr

theorem readTaggedA_bstep (f : Nat) (hV : BV x input N ℓ f) : B4 readTaggedA x input N ℓ (f + 1) := by
  intro d dm start st a L0 ha hsuf _
  unfold readTaggedA
  simp only [H.reg]
  have here : ∀ {e st'}, BndL N ℓ L0 st a (.err e st', a) := ⟨ha, Pay.err Pay.refl (by omega)⟩
  split
  · exact here
  · split
    · exact here
    · have h1 := readIdentifierA_bnd (N := N) (ℓ := ℓ) H st a ha
      rcases hq : readIdentifierA x st a with ⟨r, a'⟩
      rw [hq] at h1
      have herr : ∀ {e st''}, BndL N ℓ L0 st a (.err e st'', a') := h1.errL
      obtain ⟨ha', p⟩ := h1
      cases r with
      | closer st' => exact ⟨ha', Pay.le p (by omega)⟩
      | err e st' => exact herr
      | ok tagv st' =>
        dsimp only at p ⊢
        split
        · have h2 := (hV (d + 1) dm st' a' ha' ((readIdentifierA_ok_suffix H ha hq).trans hsuf)).after p (by omega)
          generalize readValueA x f (d + 1) dm st' a' = q2 at h2 ⊢
          obtain ⟨r2, a''⟩ := q2
          have herr2 : ∀ {e st3}, BndL N ℓ L0 st a (.err e st3, a'') := h2.errL
          obtain ⟨ha'', p2⟩ := h2
          cases r2 with
          | closer st'' => exact herr2
          | err e st'' => exact herr2
          | ok v st'' => exact valueA_pay H st _ _ a a'' _ L0 _ _ ha'' p2 (by omega)
        · exact herr

theorem readMetaA_bstep (f : Nat) (hV : BV x input N ℓ f) : B4 readMetaA x input N ℓ (f + 1) := by
  intro d dm start st a L0 ha hsuf hL0
  unfold readMetaA
  dsimp only
  have h1 := hV (d + 1) dm st a ha hsuf
  rcases hq : readValueA x f (d + 1) dm st a with ⟨r, a'⟩
  rw [hq] at h1
  have herr : ∀ {e st''}, BndL N ℓ L0 st a (.err e st'', a') := h1.errL
  obtain ⟨ha', p⟩ := h1
  cases r with
  | closer st' => exact herr
  | err e st' => exact herr
  | ok m st' =>
    dsimp only at p ⊢
    obtain ⟨⟨gm, hszm⟩, hsuf'⟩ := VA_ok H ha hsuf hq
    split
    · exact herr
    · next nks nvs hme =>
      have hN : ℓ = 0 → 0 < N := fun h0 => Nat.lt_of_le_of_lt (Nat.zero_le _) (H.name h0)
      have hmsz := metaEntries_sz m nks nvs hme
      have h2 := hV (d + 1) dm st' a' ha' hsuf'
      rcases hq2 : readValueA x f (d + 1) dm st' a' with ⟨r2, a''⟩
      rw [hq2] at h2
      have herr2 : ∀ {e st3}, BndL N ℓ L0 st a (.err e st3, a'') := (h2.after p (Nat.zero_le _)).errL
      obtain ⟨ha'', p2⟩ := h2
      cases r2 with
      | closer st'' => exact herr2
      | err e st'' => exact herr2
      | ok form st'' =>
        dsimp only at p2 ⊢
        obtain ⟨⟨gf, hszf⟩, -⟩ := VA_ok H ha' hsuf' hq2
        refine .ite (fun _ => herr2) (fun _ => ?_)
        have h3 := attachMetaA_stp (N := N) H.orc m form nks nvs a'' gf
          (fun y hy h0 => (good_metaEntries m nks nvs (gm h0) (hN h0) hme).1 y hy) ha''
        have hpay := Rsv_pays2 (ℓ := ℓ) (A := sz form) (B := szL nks) (L0 := L0) (by omega) (by omega)
        have p3 := (p.trans p2).trans (h3.pay (ℓ := ℓ) (st := st''))
        generalize attachMetaA x m form nks nvs a'' = q at h3 p3 ⊢
        obtain ⟨o, a1⟩ := q
        cases o with
        | none => exact ⟨h3.1, p3.err (by omega)⟩
        | some form' => exact ⟨h3.1, p3.le (by omega)⟩

theorem readers_bound : ∀ f, BV x input N ℓ f ∧ BS x input N ℓ f ∧ BM x input N ℓ f ∧ B4 readNsMapA x input N ℓ f ∧
    B4 readTaggedA x input N ℓ f ∧ B4 readMetaA x input N ℓ f := by
  intro f
  induction f with
  | zero =>
    have out : ∀ {L0 : Nat} (st : St) (a : ASt), a.arena = .alive → BndL N ℓ L0 st a (fuelOut st, a) :=
      fun st a ha => ⟨ha, Pay.err Pay.refl (by omega)⟩
    refine ⟨?_, ?_, ?_, ?_, ?_, ?_⟩
    · intro d dm st a ha _; unfold readValueA; exact ⟨ha, Pay.err Pay.refl (by omega)⟩
    · intro d dm kind start st a b acc L0 ha _ _ _; unfold readSeqA; exact out st a ha
    · intro d dm start ns st a b ks vs L0 ha _ _ _; unfold readMapA; exact out st a ha
    · intro d dm start st a L0 ha _ _; unfold readNsMapA; exact out st a ha
    · intro d dm start st a L0 ha _ _; unfold readTaggedA; exact out st a ha
    · intro d dm start st a L0 ha _ _; unfold readMetaA; exact out st a ha
  | succ f ih =>
    obtain ⟨hV, hS, hM, hN, hT, hMe⟩ := ih
    exact ⟨readValueA_bstep H f hV hS hM hN hT hMe, readSeqA_bstep H f hV hS, readMapA_bstep H f hV hM,
      readNsMapA_bstep H f hV hM, readTaggedA_bstep H f hV, readMetaA_bstep H f hV⟩

end

end Edn.Proofs.AllocBound
