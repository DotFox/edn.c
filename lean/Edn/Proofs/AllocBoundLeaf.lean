/-
  The accounting of the request bound (C02) and, in it, the price of each leaf reader.

  `Pot ℓ L = 4 * L + ℓ * 16 * (1² + … + L²)`: a byte read when `L + 1` bytes are left pays four
  requests and reserves `ℓ * 16 * (L + 1)²` (`Rsv`) for the looks of the duplicate check / metadata
  merge of the form it opens (which has at most `2 * L` nodes).  `Hyp` collects the hypotheses of the
  bounds; `Phi` is the potential of a reading position with its allocation state, `Pay` / `PayE` say
  what a stretch of the run spent and released against it (chained by `Pay.trans`, closed by `Pay.le`),
  and `BndV` is what the induction over the readers (Edn.Proofs.AllocBoundReaders) maintains for a
  result.  A leaf is one node, costs at most two requests (a text block two per line and three more)
  and consumes at least one byte (`oneRequest_bnd` … `readStringA_bnd`, each concluding `BndV`).
-/
import Edn.Proofs.AllocBoundPure
import Edn.Proofs.AllocNumber
import Edn.Proofs.TextBlockScan

namespace Edn.Proofs.AllocBound
open Edn.Model Edn.Proofs Edn.Proofs.AllocBasic Edn.Proofs.AllocNumber

/-- `16 * (1² + … + L²)` -/
def Q : Nat → Nat
  | 0 => 0
  | L + 1 => Q L + 16 * ((L + 1) * (L + 1))

def Pot (ℓ L : Nat) : Nat := 4 * L + ℓ * Q L

def Rsv (ℓ L0 : Nat) : Nat := ℓ * (16 * ((L0 + 1) * (L0 + 1)))

theorem Pot_succ (ℓ L : Nat) : Pot ℓ (L + 1) = Pot ℓ L + 4 + Rsv ℓ L := by
  simp only [Pot, Q, Rsv, Nat.mul_add]; omega

theorem Pot_step {ℓ L' L : Nat} (h : L' ≤ L) : Pot ℓ L' + 4 * (L - L') ≤ Pot ℓ L := by
  induction L with
  | zero => have : L' = 0 := by omega
            subst this; simp
  | succ L ih =>
    rcases Nat.lt_or_ge L' (L + 1) with hlt | hge
    · have := ih (by omega)
      rw [Pot_succ]; omega
    · have : L' = L + 1 := by omega
      subst this; simp

theorem Q_le (L : Nat) : Q L ≤ 16 * (L * (L * L)) := by
  induction L with
  | zero => simp [Q]
  | succ L ih =>
    simp only [Q]
    have h1 : L * (L * L) ≤ L * ((L + 1) * (L + 1)) :=
      Nat.mul_le_mul_left _ (Nat.mul_le_mul (Nat.le_succ _) (Nat.le_succ _))
    have h2 : (L + 1) * ((L + 1) * (L + 1)) = L * ((L + 1) * (L + 1)) + (L + 1) * (L + 1) := by
      rw [Nat.add_mul, Nat.one_mul]
    omega

/-- hypotheses of the bounds: a fault-free oracle, no registry;
    if looks are to be free, every position of the input is a name counted by `Psi` and every string
    literal of the input decodes; if they are not, `qsort` hands each element to the comparator for
    the first time at most once -/
structure Hyp (x : ACtx) (input : Bytes) (N ℓ : Nat) : Prop where
  orc : ∀ n, x.orc n = false
  reg : x.ctx.opts.registry = none
  name : ℓ = 0 → input.length < N
  str : ℓ = 0 → StrOK x.ctx.cfg input
  sort : ∀ n, ℓ * (x.sortTouch n).length ≤ ℓ * n

/-- the potential of a configuration (reading position, allocation state): requests made, payloads
    still to be materialised, bytes still to be read -/
def Phi (N ℓ : Nat) (st : St) (a : ASt) : Nat := a.reqs + Psi N a.bufs + Pot ℓ st.rest.length

/-- from `(st, a)` to `(st', a')` the run spent at most `k` and released at least `g` -/
def Pay (N ℓ k g : Nat) (st : St) (a : ASt) (st' : St) (a' : ASt) : Prop :=
  Phi N ℓ st' a' + g ≤ Phi N ℓ st a + k

/-- an error ends the read: only what was spent counts -/
def PayE (N ℓ k : Nat) (st : St) (a a' : ASt) : Prop := a'.reqs + Psi N a'.bufs ≤ Phi N ℓ st a + k

section
variable {N ℓ k g k1 g1 k2 g2 c : Nat} {st st1 st2 : St} {a a1 a2 : ASt}

theorem Pay.refl : Pay N ℓ 0 0 st a st a := Nat.le_refl _

theorem Pay.trans (h1 : Pay N ℓ k1 g1 st a st1 a1) (h2 : Pay N ℓ k2 g2 st1 a1 st2 a2) :
    Pay N ℓ (k1 + k2) (g1 + g2) st a st2 a2 := by
  unfold Pay at *; omega

/-- the closing check of a chain: what was spent beyond what was released is within the allowance -/
theorem Pay.le (h : Pay N ℓ k g st a st1 a1) (hc : k + g2 ≤ g + k2) : Pay N ℓ k2 g2 st a st1 a1 := by
  unfold Pay at *; omega

theorem Pay.err (h : Pay N ℓ k g st a st1 a1) (hc : k ≤ g + k2) : PayE N ℓ k2 st a a1 := by
  unfold Pay at h; unfold PayE; unfold Phi at h ⊢; omega

theorem PayE.after (h : PayE N ℓ k2 st1 a1 a2) (h1 : Pay N ℓ k1 g1 st a st1 a1) (hc : k1 + k2 ≤ g1 + k) :
    PayE N ℓ k st a a2 := by
  unfold Pay at h1; unfold PayE at *; omega

theorem Stp.pay (h : Stp N c a a1) : Pay N ℓ c 0 st a st a1 := by
  have := h.2; unfold Pay Phi; omega

/-- a byte read releases four requests and the reserve of the form it may open -/
theorem Pay.byte {r : Bytes} {b : UInt8} (hr : st.rest = b :: r) :
    Pay N ℓ 0 (4 + Rsv ℓ r.length) st a { st with rest := r } a := by
  unfold Pay Phi; dsimp only; rw [hr, List.length_cons, Pot_succ]; omega

theorem Pay.read {b : Nat} (h : st1.rest.length + b ≤ st.rest.length) : Pay N ℓ 0 (4 * b) st a st1 a := by
  have := Pot_step (ℓ := ℓ) (L' := st1.rest.length) (L := st.rest.length) (by omega)
  have : 4 * b ≤ 4 * (st.rest.length - st1.rest.length) := by omega
  unfold Pay Phi; omega

theorem Pay.fwd (h : st1.rest.length ≤ st.rest.length) : Pay N ℓ 0 0 st a st1 a :=
  (Pay.read (b := 0) h).le (Nat.le_refl _)

end

/-- what the induction maintains for a reader result: the parser's arena stays alive; a value cost at
    most the potential released minus two, a closing delimiter at most the potential released; an
    error ends the read, whatever was spent stays within the potential plus two.  What the bound needs
    to know of the values themselves comes from the reader (`readValue_fit`). -/
def BndV (N ℓ : Nat) (st : St) (a : ASt) (r : Res × ASt) : Prop :=
  r.2.arena = .alive ∧
  match r.1 with
  | .ok _ st' => Pay N ℓ 0 2 st a st' r.2
  | .closer st' => Pay N ℓ 0 0 st a st' r.2
  | .err _ _ => PayE N ℓ 2 st a r.2

section
variable {N ℓ k g c : Nat} {st1 st : St} {a1 a : ASt} {r : Res × ASt}

theorem BndV.payE (h : BndV N ℓ st a r) : PayE N ℓ 2 st a r.2 := by
  obtain ⟨_, h2⟩ := h
  rcases r with ⟨r, a'⟩
  cases r with
  | ok v st' => exact Pay.err h2 (by omega)
  | closer st' => exact Pay.err h2 (by omega)
  | err e st' => exact h2

theorem BndV.reqs_le (h : BndV N ℓ st a r) :
    r.2.reqs + Psi N r.2.bufs ≤ a.reqs + Psi N a.bufs + Pot ℓ st.rest.length + 2 := h.payE

theorem BndV.err {st' : St} {a' : ASt} {rr : Res} {e : ErrInfo} (h : BndV N ℓ st a (rr, a')) :
    BndV N ℓ st a (.err e st', a') :=
  ⟨h.1, h.payE⟩

theorem BndV.after (h : BndV N ℓ st1 a1 r) (hp : Pay N ℓ k g st a st1 a1) (hc : k ≤ g) : BndV N ℓ st a r := by
  obtain ⟨ha, h2⟩ := h
  refine ⟨ha, ?_⟩
  rcases r with ⟨r, a'⟩
  cases r with
  | ok v st' => exact (hp.trans h2).le (by omega)
  | closer st' => exact (hp.trans h2).le (by omega)
  | err e st' => exact PayE.after h2 hp (by omega)

/-- a reader that scans for itself and spends at most two requests: a value has read a byte -/
theorem BndV.of_stp (h : Stp N c a r.2) (hp : Progress st r.1) (hc : c ≤ 2) (hcl : r.1.isCloser = false) :
    BndV N ℓ st a r := by
  refine ⟨h.1, ?_⟩
  rcases r with ⟨r, a'⟩
  cases r with
  | ok v st' => exact ((Pay.read (b := 1) (Nat.succ_le_of_lt hp)).trans h.pay).le (by omega)
  | closer st' => cases hcl
  | err e st' => exact h.pay.err (by omega)

end

theorem startsWith4_length (s : Bytes) (a b c d : UInt8) (h : startsWith s [a, b, c, d] = true) : 4 ≤ s.length := by
  unfold startsWith at h
  have := (List.isPrefixOf_iff_prefix.mp h).length_le
  simpa using this

/-- the outcome of the line loop as a reader result at the position reached (the lines read count as
    a `closer`): `BndV` then says that the loop never raises the potential — two requests per line at
    most, and every line has a byte, which pays four -/
def tbRes (st : St) : TbOutA × ASt → Res × ASt
  | (.lines _ rest _, a) => (.closer { st with rest := rest }, a)
  | (.fail e rest, a) => (.err e { st with rest := rest }, a)

theorem tbFail {N ℓ c : Nat} {st : St} {a a' : ASt} {e : ErrInfo} {rest s : Bytes} (h : Stp N c a a') (hc : c ≤ 2) :
    BndV N ℓ { st with rest := s } a (tbRes st (.fail e rest, a')) :=
  ⟨h.1, h.pay.err hc⟩

section
variable {x : ACtx} {input : Bytes} {N ℓ : Nat} (H : Hyp x input N ℓ)
include H

/-- a leaf reader: a value costs its one request and has read a byte -/
theorem oneRequest_bnd (st : St) (a : ASt) (ha : a.arena = .alive) (r : Res) (hp : Progress st r) (stE : St → St) :
    BndV N ℓ st a (oneRequest x stE r a) := by
  unfold oneRequest
  cases r with
  | ok v st' =>
    have hst := (request_ff (N := N) H.orc .arena a 0 ha).2
    dsimp only
    rw [request_ff_eq H.orc .arena a 0 ha]
    exact ⟨hst.1, ((Pay.read (b := 1) (Nat.succ_le_of_lt hp)).trans hst.pay).le (by omega)⟩
  | closer st' => exact ⟨ha, Pay.fwd hp⟩
  | err e st' => exact ⟨ha, Pay.err Pay.refl (by omega)⟩

theorem readCharacterA_bnd (st : St) (a : ASt) (ha : a.arena = .alive) : BndV N ℓ st a (readCharacterA x st a) :=
  readCharacterA_eq x st a ▸ oneRequest_bnd H st a ha _ (readCharacter_progress x.ctx st) _

theorem readIdentifierA_bnd (st : St) (a : ASt) (ha : a.arena = .alive) : BndV N ℓ st a (readIdentifierA x st a) :=
  readIdentifierA_eq x st a ▸ oneRequest_bnd H st a ha _ (readIdentifier_progress x.ctx st) _

theorem readSymbolicA_bnd (st : St) (a : ASt) (ha : a.arena = .alive) : BndV N ℓ st a (readSymbolicA x st a) :=
  readSymbolicA_eq x st a ▸ oneRequest_bnd H st a ha _ (readSymbolic_progress x.ctx st) _

theorem floatHeapA_stp (heap : Bool) (a : ASt) (ha : a.arena = .alive) : Stp N 1 a (floatHeapA x heap a).2 := by
  unfold floatHeapA
  have h := (rawAlloc_ff (N := N) H.orc .malloc a ha).2
  split
  · split
    · next i a' e => rw [e] at h; exact h.trans (free_stp i a' h.1)
    · next a' e => rw [e] at h; exact h
  · exact Stp.zero ha

theorem numCreateA_stp (st : St) (a : ASt) (ha : a.arena = .alive) (v : NumVal) (p : Bytes) (validate : Bool) :
    Stp N 2 a (numCreateA x st a v p validate).2 := by
  unfold numCreateA
  have h1 := (request_ff (N := N) H.orc .arena a 0 ha).2
  rcases hq : a.request x.orc .arena with ⟨ok, a1⟩
  rw [hq] at h1
  dsimp only at h1 ⊢
  refine .ite (fun _ => h1.mono (by omega)) (fun _ => ?_)
  have h2 := h1.trans (floatHeapA_stp H (numNeedsHeap x.ctx.cfg v (slice st.rest p)) a1 h1.1)
  rcases hq2 : floatHeapA x (numNeedsHeap x.ctx.cfg v (slice st.rest p)) a1 with ⟨okH, a2⟩
  rw [hq2] at h2
  exact .ite (fun _ => h2) (fun _ => .ite (fun _ => h2) (fun _ => h2))

theorem readNumberResA_bnd (st : St) (a : ASt) (ha : a.arena = .alive)
    (hp : Progress st (readNumberRes x.ctx st)) : BndV N ℓ st a (readNumberResA x st a) := by
  have hstp : Stp N 2 a (readNumberResA x st a).2 := by
    unfold readNumberResA
    apply readNumberK_pred (fun r : Res × ASt => Stp N 2 a r.2)
    · intro v p validate; exact numCreateA_stp H st a ha v p validate
    · intro cur; exact Stp.zero ha
  have hres := readNumberResA_granted x st a (request_ff (N := N) H.orc .arena a 0 ha).1 (H.orc _)
  exact .of_stp hstp (hres ▸ hp) (Nat.le_refl _) (hres ▸ (readNumberRes_leafRes x.ctx st).closer)

theorem tbGrow_stp (buf : TbBuf) (n : Nat) (a : ASt) (ha : a.arena = .alive) : Stp N 1 a (buf.grow x n a).2 := by
  unfold TbBuf.grow
  split
  · have h := (realloc_ff (N := N) H.orc buf.arr a ha).2
    rcases hq : a.realloc x.orc buf.arr with ⟨o, a1⟩
    rw [hq] at h
    cases o <;> exact h
  · exact Stp.zero ha

theorem tbLinesA_bnd (st : St) (start : Nat) (f : Nat) (s : Bytes) (acc : List TbLine) (buf : TbBuf) (a : ASt)
    (ha : a.arena = .alive) : BndV N ℓ { st with rest := s } a (tbRes st (tbLinesA x start f s acc buf a)) := by
  induction f generalizing s acc buf a with
  | zero => unfold tbLinesA; exact tbFail (release_stp buf a ha) (Nat.zero_le _)
  | succ f ih =>
    unfold tbLinesA
    split
    · exact tbFail (release_stp buf a ha) (Nat.zero_le _)
    · have hg := tbGrow_stp H buf acc.length a ha
      rcases hgq : buf.grow x acc.length a with ⟨ob, a1⟩
      rw [hgq] at hg
      cases ob with
      | none => exact tbFail (hg.trans (release_stp buf a1 hg.1)) (by omega)
      | some buf1 =>
        dsimp only
        split
        · exact tbFail (hg.trans (release_stp buf1 a1 hg.1)) (by omega)
        · next ln rest hln =>
          have hlt := (tbLine_rest s ln rest hln).2
          have h2 := (rawAlloc_ff (N := N) H.orc .malloc a1 hg.1).2
          rcases hq : a1.rawAlloc x.orc .malloc with ⟨o, a2⟩
          rw [hq] at h2
          dsimp only at h2
          have h12 := hg.trans h2
          cases o with
          | none => exact tbFail (h12.trans (release_stp buf1 a2 h2.1)) (by omega)
          | some i =>
            dsimp only
            -- the line: two requests, at least one byte
            have p : Pay N ℓ 2 4 { st with rest := s } a { st with rest := rest } a2 :=
              h12.pay.trans (Pay.read (st := { st with rest := s }) (st1 := { st with rest := rest }) (b := 1) hlt)
            split
            · exact ⟨h12.1, p.le (by omega)⟩
            · exact (ih rest _ _ a2 h2.1).after p (by omega)

theorem readTextBlockA_bnd (st : St) (a : ASt) (ha : a.arena = .alive)
    (h4 : 4 ≤ st.rest.length) : BndV N ℓ st a (readTextBlockA x st a) := by
  unfold readTextBlockA
  dsimp only
  have h0 := (rawAlloc_ff (N := N) H.orc .malloc a ha).2
  rcases hq0 : a.rawAlloc x.orc .malloc with ⟨o, a1⟩
  rw [hq0] at h0
  dsimp only at h0
  cases o with
  | none => exact ⟨h0.1, h0.pay.err (by omega)⟩
  | some arr =>
    dsimp only
    -- the scratch array; the four opening bytes pay sixteen
    have p0 : Pay N ℓ 1 16 st a { st with rest := st.rest.drop 4 } a1 :=
      h0.pay.trans (Pay.read (st := st) (st1 := { st with rest := st.rest.drop 4 }) (b := 4) (by simp only [List.length_drop]; omega))
    have h1 := tbLinesA_bnd H st (x.ctx.pos st.rest) ((st.rest.drop 4).length + 2) (st.rest.drop 4) [] { arr := arr } a1 h0.1
    rcases hq1 : tbLinesA x (x.ctx.pos st.rest) ((st.rest.drop 4).length + 2) (st.rest.drop 4) [] { arr := arr } a1 with ⟨out, a2⟩
    rw [hq1] at h1
    cases out with
    | fail e rest => exact ⟨h1.1, PayE.after h1.2 p0 (by omega)⟩
    | lines ls rest buf =>
      obtain ⟨ha2, p1⟩ := h1
      dsimp only at p1 ⊢
      have hst2 := (request_ff (N := N) H.orc .arena a2 0 ha2).2
      rw [request_ff_eq H.orc .arena a2 0 ha2]
      generalize (a2.request x.orc .arena).2 = a3 at hst2 ⊢
      have h3 := release_stp (N := N) buf a3 hst2.1
      have hst4 := (request_ff (N := N) H.orc .arena (buf.release a3) 0 h3.1).2
      rw [request_ff_eq H.orc .arena (buf.release a3) 0 h3.1]
      generalize ((buf.release a3).request x.orc .arena).2 = a5 at hst4 ⊢
      simp only [Bool.not_true, Bool.false_eq_true, ↓reduceIte]
      have h5 : Stp N 0 a5 { a5 with bufs := x.ctx.pos st.rest :: a5.bufs } := ⟨hst4.1, Nat.add_le_add_left (Psi_cons_le N _ a5.bufs) _⟩
      exact ⟨hst4.1, ((((p0.trans p1).trans hst2.pay).trans h3.pay).trans (hst4.trans h5).pay).le (by omega)⟩

theorem readStringA_bnd (st : St) (a : ASt) (ha : a.arena = .alive) : BndV N ℓ st a (readStringA x st a) := by
  rw [readStringA_eq]
  refine ite_ind (fun hc => ?_) fun _ => oneRequest_bnd H st a ha _ (readString_progress x.ctx st) _
  exact readTextBlockA_bnd H st a ha (startsWith4_length _ _ _ _ _ (Bool.and_eq_true_iff.mp hc).2)

end

end Edn.Proofs.AllocBound
