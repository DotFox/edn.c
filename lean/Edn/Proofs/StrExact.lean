/-
  **String tokens are exact** (`Edn.Spec.StrExact`): `readString` returns a string value and stops at
  `rest` iff the consumed bytes are a token of the string judgement of the configuration: a raw
  literal (`rawStrJ`), or with the experimental flag a raw literal that does not open a text block,
  or a text block (`expStrJ`).  Leaf level: SoundX (an induction on the fuel) and CompleteX (a recursion
  over the derivation) take exactness as a hypothesis, and the continuation independence of `readString`
  (ReReadLeaf) is its corollary.
-/
import Edn.Spec.GrammarX
import Edn.Proofs.TextBlock
import Edn.Proofs.LeafSpec

namespace Edn.Proofs.SndX
open Edn.Model Edn.Spec Edn.Generated Edn.Proofs

theorem readString_shape (ctx : Ctx) (st st' : St) (v : Val) (h : readString ctx st = .ok v st') :
    ∃ hd data esc, v = .str hd data esc ∧ st' = { rest := st'.rest, calls := st.calls } := by
  have hc := (readString_leafRes ctx st).calls
  rw [h] at hc
  cases v <;> first | exact ⟨_, _, _, rfl, congrArg (St.mk st'.rest) hc⟩ | cases (readString_spec ctx st).kind _ _ h

end Edn.Proofs.SndX

namespace Edn.Proofs
open Edn.Model Edn.Spec

theorem readString_raw_iff (ctx : Ctx) (cs rest : Bytes) (cl : List Call) (data : Bytes) (esc : Bool)
    (hno : (ctx.cfg.exp && startsWith (0x22 :: cs) [0x22, 0x22, 0x22, 0x0A]) = false) :
    (∃ h, readString ctx { rest := 0x22 :: cs, calls := cl } = .ok (.str h data esc) { rest := rest, calls := cl }) ↔
      ∃ tok, 0x22 :: cs = tok ++ rest ∧ rawStrJ tok data esc rest := by
  constructor
  · rintro ⟨hh, hr⟩
    obtain ⟨sp, rest', hraw, h1, hv, hst⟩ := (readString_literal_iff ctx _ _ cl _ _ hno).mp hr
    simp only [Val.str.injEq] at hv
    obtain ⟨-, rfl, rfl⟩ := hv
    cases hst
    exact ⟨0x22 :: (data ++ [0x22]), by rw [h1]; simp, hraw, rfl, rfl⟩
  · rintro ⟨tok, htok, hraw, rfl, rfl⟩
    exact ⟨_, (readString_literal_iff ctx _ _ cl _ _ hno).mpr ⟨data, rest, hraw, by simpa using htok, rfl, rfl⟩⟩

theorem strExact_raw (cfg : Cfg) (he : cfg.exp = false) : StrExact cfg rawStrJ := by
  intro ctx hc s rest cl data esc hq
  cases s with
  | nil => cases hq
  | cons c cs =>
    simp only [List.head?_cons, Option.some.injEq] at hq
    subst hq
    exact readString_raw_iff ctx cs rest cl data esc (by rw [hc, he]; rfl)

def tbOpener : Bytes := [0x22, 0x22, 0x22, 0x0A]

/-- an ordinary literal that, with what follows it, does not start with `"""⏎` (only the empty
    literal `""` followed by `"⏎` can), or a text block: `"""⏎`, the encoding of well-formed source
    lines and a well-formed closing delimiter (`SrcLine.WF`, `Closer.WFx`), denoting `blockText` -/
def expStrJ : StrJ := fun tok data esc rest =>
  (rawStrJ tok data esc rest ∧ ¬ tbOpener <+: tok ++ rest) ∨
  (∃ (lines : List SrcLine) (c : Closer), (∀ l ∈ lines, l.WF) ∧ c.WFx lines ∧
    tok = tbOpener ++ encodeBlock lines c ∧ data = blockText lines c ∧ esc = false)

theorem strExact_exp (cfg : Cfg) (he : cfg.exp = true) : StrExact cfg expStrJ := by
  intro ctx hc s rest cl data esc hq
  have hexp : ctx.cfg.exp = true := by rw [hc]; exact he
  cases s with
  | nil => cases hq
  | cons c cs =>
    simp only [List.head?_cons, Option.some.injEq] at hq
    subst hq
    by_cases hp : tbOpener <+: 0x22 :: cs
    · obtain ⟨s', hs'⟩ := hp
      have hs'' : 0x22 :: cs = 0x22 :: 0x22 :: 0x22 :: 0x0A :: s' := hs'.symm
      rw [hs'']
      constructor
      · rintro ⟨hh, hr⟩
        obtain ⟨lines, c, rest', h1, h2, h3, h4, h5⟩ := readString_textblock_sound ctx hexp s' cl _ _ hr
        simp only [St.mk.injEq, and_true] at h5
        subst h5
        simp only [Val.str.injEq] at h4
        obtain ⟨-, rfl, rfl⟩ := h4
        refine ⟨tbOpener ++ encodeBlock lines c, ?_, .inr ⟨lines, c, h1, h2, rfl, rfl, rfl⟩⟩
        rw [h3]; simp [tbOpener]
      · rintro ⟨tok, htok, hS | ⟨lines, c, h1, h2, rfl, rfl, rfl⟩⟩
        · exact absurd ⟨s', by rw [← htok]; rfl⟩ hS.2
        · have hs3 : s' = encodeBlock lines c ++ rest := by
            simpa [tbOpener] using htok
          subst hs3
          exact ⟨_, (readString_textblock_iff ctx hexp (encodeBlock lines c) rest (blockText lines c) cl).mpr
            ⟨lines, c, h1, h2, rfl, rfl⟩⟩
    · have hno : (ctx.cfg.exp && startsWith (0x22 :: cs) [0x22, 0x22, 0x22, 0x0A]) = false := by
        cases hsw : startsWith (0x22 :: cs) [0x22, 0x22, 0x22, 0x0A] with
        | false => simp
        | true => exact absurd (List.isPrefixOf_iff_prefix.mp hsw) hp
      rw [readString_raw_iff ctx cs rest cl data esc hno]
      constructor
      · rintro ⟨tok, htok, hS⟩
        exact ⟨tok, htok, .inl ⟨hS, by rw [← htok]; exact hp⟩⟩
      · rintro ⟨tok, htok, hS | ⟨lines, c, h1, h2, rfl, rfl, rfl⟩⟩
        · exact ⟨tok, htok, hS.1⟩
        · exfalso
          apply hp
          rw [htok]
          exact ⟨encodeBlock lines c ++ rest, by simp⟩

end Edn.Proofs

namespace Edn.Proofs.RejectDocX
open Edn.Model Edn.Spec Edn.Proofs

def strJOf (cfg : Cfg) : StrJ :=
  match cfg.exp with
  | true => expStrJ
  | false => rawStrJ

theorem strJOf_core : strJOf Cfg.core = rawStrJ := rfl
theorem strJOf_clj : strJOf ⟨true, false⟩ = rawStrJ := rfl
theorem strJOf_exp : strJOf ⟨false, true⟩ = expStrJ := rfl
theorem strJOf_clj_exp : strJOf ⟨true, true⟩ = expStrJ := rfl

theorem strExact_of (cfg : Cfg) : StrExact cfg (strJOf cfg) := by
  obtain ⟨c, e⟩ := cfg
  cases e with
  | true => exact strExact_exp ⟨c, true⟩ rfl
  | false => exact strExact_raw ⟨c, false⟩ rfl

end Edn.Proofs.RejectDocX
