/-
  Exactness of the number reader with the experimental flag only
  (`expCfg = ⟨clj := false, exp := true⟩`): started where the dispatcher sends a number,
  `edn_read_number` returns a payload and a continuation point **iff** the bytes consumed are a
  token of `Edn.Spec.ExpNum` denoting that payload and the continuation is the end of the input or
  a terminator (`TermStart`, as in the core configuration: without the Clojure flag there is no
  ratio branch, hence none of its early returns).
-/
import Edn.Spec.ExpNumLit
import Edn.Proofs.NumberReader
import Edn.Proofs.CljNumberSound
import Edn.Proofs.ExpNumberUnsep

namespace Edn.Proofs.ExpN
open Edn.Model Edn.Spec Edn.Proofs Edn.Proofs.CNum Edn.Proofs.CljN

theorem expInt_cljInt {ip : Bytes} (h : ExpInt ip) : CljInt true ip := by
  rcases h with rfl | h
  · exact Or.inl ⟨by simp, by simp⟩
  · exact Or.inr h

theorem expMantissa_clj {ip fr ex : Bytes} (h : ExpMantissa ip fr ex) : CljMantissa true ip fr ex :=
  ⟨expInt_cljInt h.hip, h.hfr, h.hex, h.hsep⟩

theorem expInt_uRun {ip : Bytes} (h : ExpInt ip) : URun true is09 ip := by
  rcases h with rfl | h
  · exact uRun_of_all (fun c hc => by rw [List.mem_singleton.mp hc]; decide)
  · exact nzRun_uRun h

theorem expInt_digRun {ip : Bytes} (h : ExpInt ip) : DigRun true (isRadixDigit 10) ip := by
  rcases h with rfl | h
  · exact ⟨0x30, [], rfl, by decide, uRun_nil _ _⟩
  · exact nzRun_digRun h

theorem decimal_sound (sg : Bytes) (neg : Bool) (ip X : Bytes) (v : NumVal) (rest : Bytes)
    (hs : SignTok sg neg) (hip : ExpInt ip)
    (h : afterIp expCfg (sg ++ (ip ++ X)) neg (ip ++ X) X = .ok v rest) :
    ∃ tok, sg ++ (ip ++ X) = tok ++ rest ∧ ExpNum tok v ∧ TermStart rest := by
  obtain ⟨fr, ex, hfr, hex, hsep, -, hshape⟩ := afterIp_shapes expCfg sg neg ip X v rest h
  have hm : ExpMantissa ip fr ex := ⟨hip, hfr, hex, fun hne => noTrailU_of_append (hsep hne rfl)⟩
  -- without the Clojure flag there is no ratio branch
  rcases hshape with ⟨rfl, rfl, rfl, rfl, ht, -⟩ | ⟨rfl, rfl, ht, hu⟩ | ⟨hc, -⟩ | ⟨hne, rfl, rfl, ht⟩ |
    ⟨rfl, rfl, rfl, rfl, ht⟩
  · exact ⟨sg ++ ip ++ [0x4E], by simp, ExpNum.decN sg ip neg hs hip, ht⟩
  · exact ⟨sg ++ ip ++ fr ++ ex ++ [0x4D], by simp, ExpNum.decM sg ip fr ex neg hs hm (hu rfl), ht⟩
  · exact Bool.noConfusion hc
  · exact ⟨sg ++ ip ++ fr ++ ex, by simp, ExpNum.float sg ip fr ex neg hs hm hne, ht⟩
  · rw [intOrBig_run expCfg 10 (by omega) ip neg (expInt_digRun hip)]
    exact ⟨sg ++ ip, by simp, ExpNum.dec sg ip neg hs hip, ht⟩

theorem mantissa_of_core {ip fr ex : Bytes} (hip : DecDigits ip) (hfr : FracPart fr) (hex : ExpPart ex) :
    ExpMantissa ip fr ex ∧ NoTrailU (ip ++ fr ++ ex) := by
  obtain ⟨hm, hu⟩ := CNum.mantissa_of_core true hip hfr hex
  exact ⟨⟨decDigits_int true hip, hm.hfr, hm.hex, hm.hsep⟩, hu⟩

theorem expInt_zeroNorm {ip : Bytes} (h : ExpInt ip) : zeroNorm ip = ip := by
  rcases h with rfl | h
  · rfl
  · exact nz_zeroNorm h

theorem expNum_okB {tok : Bytes} {v : NumVal} (h : ExpNum tok v) : ∀ c ∈ tok, OkB c := by
  cases h with
  | dec sg ip neg hs hip => exact okB_append (sign_okB hs) (cljInt_okB (expInt_cljInt hip))
  | decN sg ip neg hs hip =>
    exact okB_append (okB_append (sign_okB hs) (cljInt_okB (expInt_cljInt hip))) (by decide)
  | float sg ip fr ex neg hs hm hne =>
    exact okB_append (okB_append (okB_append (sign_okB hs) (cljInt_okB (expInt_cljInt hm.hip)))
      (cljFrac_okB hm.hfr)) (cljExp_okB hm.hex)
  | decM sg ip fr ex neg hs hm hu =>
    exact okB_append (okB_append (okB_append (okB_append (sign_okB hs) (cljInt_okB (expInt_cljInt hm.hip)))
      (cljFrac_okB hm.hfr)) (cljExp_okB hm.hex)) (by decide)

theorem expNum_noSlash {tok : Bytes} {v : NumVal} (h : ExpNum tok v) : (0x2F : UInt8) ∉ tok :=
  noSlash_of_okB (expNum_okB h)

theorem mem_unsep {c : UInt8} {l : Bytes} : c ∈ unsep l ↔ c ∈ l ∧ c ≠ 0x5F := by
  simp [unsep]

theorem unsep_uRun {l : Bytes} (h : URun true is09 l) : ∀ c ∈ unsep l, is09 c = true := by
  intro c hc
  obtain ⟨hm, hne⟩ := mem_unsep.mp hc
  rcases h c hm with h | ⟨-, h⟩
  · exact h
  · exact absurd h hne

theorem unsep_sign {sg : Bytes} {neg : Bool} (h : SignTok sg neg) : unsep sg = sg :=
  unsep_of_not_mem (CNum.signTok_no_underscore h)

theorem unsep_expInt {ip : Bytes} (h : ExpInt ip) :
    DecDigits (unsep ip) ∧ natOfDigits (unsep ip) = radixNat 10 ip := by
  have hall : ∀ c ∈ unsep ip, is09 c = true := unsep_uRun (expInt_uRun h)
  have hval : natOfDigits (unsep ip) = radixNat 10 ip := by
    have e : radixNat 10 ip = digitsValR 10 (unsep ip) := rfl
    rw [e, digitsValR_ten _ hall]
  refine ⟨?_, hval⟩
  rcases h with rfl | h
  · exact ⟨by simp [unsep], fun c hc => (is09_iff c).mp (hall c hc), by simp [unsep]⟩
  · obtain ⟨d, t, rfl, hd, hd0, -⟩ := nzRun_cons h
    -- the first byte is a digit other than `0` and stays the first byte
    rw [unsep_cons_ne (is09_not_underscore hd)] at hall ⊢
    exact ⟨by simp, fun c hc => (is09_iff c).mp (hall c hc), fun _ => by simp [hd0]⟩

theorem unsep_frac {fr : Bytes} (h : CljFrac true fr) : FracPart (unsep fr) ∧ (fr = [] ↔ unsep fr = []) := by
  rcases h with rfl | ⟨fd, rfl, hfd, -⟩
  · exact ⟨Or.inl rfl, by simp [unsep]⟩
  · have e : unsep (0x2E :: fd) = 0x2E :: unsep fd := unsep_cons_ne (by decide) fd
    rw [e]
    exact ⟨Or.inr ⟨unsep fd, rfl, unsep_uRun hfd⟩, by simp⟩

theorem unsep_exp {ex : Bytes} (h : CljExp true ex) : ExpPart (unsep ex) ∧ (ex = [] ↔ unsep ex = []) := by
  rcases h with rfl | ⟨e, es, ed, rfl, he, hes, d, t, rfl, hd, ht⟩
  · exact ⟨Or.inl rfl, by simp [unsep]⟩
  · have hne : e ≠ 0x5F := by rcases he with rfl | rfl <;> decide
    have hes' : unsep es = es := by
      rcases hes with rfl | rfl | rfl <;> rfl
    have e1 : unsep (e :: (es ++ d :: t)) = e :: (es ++ d :: unsep t) := by
      rw [unsep_cons_ne hne, unsep_append, hes', unsep_cons_ne (is09_not_underscore hd)]
    rw [e1]
    refine ⟨Or.inr ⟨e, es, d :: unsep t, rfl, he, hes, by simp, ?_⟩, by simp⟩
    intro c hc
    rcases List.mem_cons.mp hc with rfl | hc
    · exact hd
    · exact unsep_uRun ht c hc

theorem isE_digit {c : UInt8} (h : is09 c = true) : isE c = false := by
  cases he : isE c
  · rfl
  · simp only [isE, Bool.or_eq_true, beq_iff_eq] at he
    rcases he with rfl | rfl <;> exact absurd h (by decide)

theorem isE_uRun {l : Bytes} (h : URun true is09 l) : ∀ c ∈ l, isE c = false := by
  intro c hc
  rcases h c hc with h | ⟨-, rfl⟩
  · exact isE_digit h
  · decide

theorem isE_sign {sg : Bytes} {neg : Bool} (h : SignTok sg neg) : ∀ c ∈ sg, isE c = false := by
  rcases h with ⟨rfl, -⟩ | ⟨rfl, -⟩ | ⟨rfl, -⟩
  · intro c hc; simp at hc
  · intro c hc; simp only [List.mem_singleton] at hc; subst hc; decide
  · intro c hc; simp only [List.mem_singleton] at hc; subst hc; decide

theorem isE_expInt {ip : Bytes} (h : ExpInt ip) : ∀ c ∈ ip, isE c = false :=
  isE_uRun (expInt_uRun h)

theorem isE_frac {fr : Bytes} (h : CljFrac true fr) : ∀ c ∈ fr, isE c = false := by
  rcases h with rfl | ⟨fd, rfl, hfd, -⟩
  · intro c hc; simp at hc
  · intro c hc
    rcases List.mem_cons.mp hc with rfl | hc
    · decide
    · exact isE_uRun hfd c hc

theorem noESep_exp {ex : Bytes} (h : CljExp true ex) : noESep ex = true := by
  rcases h with rfl | ⟨e, es, ed, rfl, -, hes, d, t, rfl, hd, ht⟩
  · rfl
  · have hrest : ∀ c ∈ es ++ d :: t, isE c = false := by
      intro c hc
      rcases List.mem_append.mp hc with hc | hc
      · rcases hes with rfl | rfl | rfl
        · simp at hc
        · simp only [List.mem_singleton] at hc; subst hc; decide
        · simp only [List.mem_singleton] at hc; subst hc; decide
      · exact isE_uRun (uRun_cons (Or.inl hd) ht) c hc
    have hhead : ((es ++ d :: t).head? == some 0x5F) = false := by
      rcases hes with rfl | rfl | rfl
      · simpa using is09_not_underscore hd
      · rfl
      · rfl
    rw [noESep_cons, hhead, noESep_of_noE _ hrest]
    simp

theorem mantissa_text {sg ip fr ex : Bytes} {neg : Bool} (hs : SignTok sg neg) (hm : ExpMantissa ip fr ex) :
    (sg ++ ip ++ fr ++ ex).head? ≠ some 0x5F ∧ noESep (sg ++ ip ++ fr ++ ex) = true := by
  constructor
  · have hip : ip.head? ≠ some 0x5F := by
      rcases hm.hip with rfl | h
      · decide
      · obtain ⟨d, t, rfl, hd, -, -⟩ := nzRun_cons h
        intro e
        exact is09_not_underscore hd (by simpa using e)
    have hne : ip ≠ [] := cljInt_ne (expInt_cljInt hm.hip)
    rcases hs with ⟨rfl, -⟩ | ⟨rfl, -⟩ | ⟨rfl, -⟩
    · cases ip with
      | nil => exact absurd rfl hne
      | cons d t => exact hip
    · simp
    · simp
  · have hpre : ∀ c ∈ sg ++ ip ++ fr, isE c = false := by
      intro c hc
      simp only [List.mem_append] at hc
      rcases hc with (hc | hc) | hc
      · exact isE_sign hs c hc
      · exact isE_expInt hm.hip c hc
      · exact isE_frac hm.hfr c hc
    rw [noESep_append_of_noE _ _ hpre]
    exact noESep_exp hm.hex

theorem unsep_mantissa {ip fr ex : Bytes} (hm : ExpMantissa ip fr ex) :
    DecDigits (unsep ip) ∧ FracPart (unsep fr) ∧ ExpPart (unsep ex) ∧
      ((fr ≠ [] ∨ ex ≠ []) → (unsep fr ≠ [] ∨ unsep ex ≠ [])) := by
  obtain ⟨h1, -⟩ := unsep_expInt hm.hip
  obtain ⟨h2, h2'⟩ := unsep_frac hm.hfr
  obtain ⟨h3, h3'⟩ := unsep_exp hm.hex
  refine ⟨h1, h2, h3, ?_⟩
  rintro (h | h)
  · exact Or.inl (fun e => h (h2'.mpr e))
  · exact Or.inr (fun e => h (h3'.mpr e))

end Edn.Proofs.ExpN

namespace Edn.Proofs
open Edn.Model Edn.Spec

/-- `hstart`: `s` starts where the dispatcher sends a number (a digit, or a sign followed by a digit) -/
theorem readNumber_exp_sound (s rest : Bytes) (v : NumVal)
    (hstart : ∃ c t, s = c :: t ∧ (is09 c = true ∨ ((c = 0x2B ∨ c = 0x2D) ∧ ∃ nx t', t = nx :: t' ∧ is09 nx = true)))
    (h : readNumber expCfg s = .ok v rest) :
    ∃ tok, s = tok ++ rest ∧ ExpNum tok v ∧ TermStart rest := by
  obtain ⟨sg, body, neg, rfl, hs, hb⟩ := CNum.start_split hstart
  rw [CNum.readNumber_sign expCfg sg body neg hs hb] at h
  obtain ⟨ip, X, rfl, hip, h⟩ := CNum.numBody_noclj_inv expCfg rfl _ neg body v rest hb h
  exact ExpN.decimal_sound sg neg ip X v rest hs hip h

theorem readNumber_exp_complete (tok rest : Bytes) (v : NumVal) (h : ExpNum tok v) (ht : TermStart rest) :
    readNumber expCfg (tok ++ rest) = .ok v rest := by
  cases h with
  | dec sg ip neg hs hip => exact CNum.read_dec expCfg sg ip rest neg hs (ExpN.expInt_cljInt hip) (Or.inr hip) ht
  | decN sg ip neg hs hip =>
    rw [CNum.read_decN expCfg sg ip rest neg hs (ExpN.expInt_cljInt hip) (Or.inr hip) ht, ExpN.expInt_zeroNorm hip]
  | float sg ip fr ex neg hs hm hne =>
    exact CNum.read_float expCfg sg ip fr ex rest neg hs (ExpN.expMantissa_clj hm) (Or.inr hm.hip) hne ht
  | decM sg ip fr ex neg hs hm hu =>
    rw [CNum.read_decM expCfg sg ip fr ex rest neg hs (ExpN.expMantissa_clj hm) (Or.inr hm.hip) hu ht,
      CNum.zeroNorm_mantissa hm.hip hm.hfr hm.hex]

theorem readNumber_exp_iff (s rest : Bytes) (v : NumVal)
    (hstart : ∃ c t, s = c :: t ∧ (is09 c = true ∨ ((c = 0x2B ∨ c = 0x2D) ∧ ∃ nx t', t = nx :: t' ∧ is09 nx = true))) :
    readNumber expCfg s = .ok v rest ↔ ∃ tok, s = tok ++ rest ∧ ExpNum tok v ∧ TermStart rest := by
  constructor
  · exact readNumber_exp_sound s rest v hstart
  · rintro ⟨tok, rfl, hn, ht⟩
    exact readNumber_exp_complete tok rest v hn ht

open ExpN CljN CNum in
/-- `cfg` matters only for the float payload, and on a core token that is the same double for every
    configuration -/
theorem expNum_of_coreNum (cfg : Cfg) (tok : Bytes) (v : NumVal) (h : CoreNum cfg tok v) : ExpNum tok v := by
  cases h with
  | int sg ds neg hs hd hr =>
    have := ExpNum.dec sg ds neg hs (decDigits_int true hd)
    unfold intPayload at this
    rwa [radixNat_digits ds (decDigits_cases hd).1, if_pos hr] at this
  | big sg ds neg hs hd hr =>
    have := ExpNum.dec sg ds neg hs (decDigits_int true hd)
    unfold intPayload at this
    rwa [radixNat_digits ds (decDigits_cases hd).1, if_neg hr] at this
  | bigN sg ds neg hs hd => exact ExpNum.decN sg ds neg hs (decDigits_int true hd)
  | float tok h =>
    rw [parseDouble_flag cfg expCfg tok (CNum.floatTok_no_underscore h)]
    obtain ⟨sg, ip, fr, ex, neg, rfl, hs, hip, hfr, hex, hne⟩ := h
    exact ExpNum.float sg ip fr ex neg hs (ExpN.mantissa_of_core hip hfr hex).1 hne
  | bigdec sg body neg hs hb hnosign =>
    obtain ⟨ip, fr, ex, rfl, hip, hfr, hex⟩ := bigdec_shape hb hnosign
    obtain ⟨hm, hu⟩ := ExpN.mantissa_of_core hip hfr hex
    have := ExpNum.decM sg ip fr ex neg hs hm hu
    simpa only [List.append_assoc] using this

open ExpN CljN CNum in
theorem cljNum_of_expNum (tok : Bytes) (v : NumVal) (h : ExpNum tok v) : CljNum ⟨true, true⟩ tok v := by
  cases h with
  | dec sg ip neg hs hip => exact CljNum.dec sg ip neg hs (expInt_cljInt hip)
  | decN sg ip neg hs hip =>
    have := CljNum.decN (cfg := ⟨true, true⟩) sg ip neg hs (expInt_cljInt hip)
    rwa [expInt_zeroNorm hip] at this
  | float sg ip fr ex neg hs hm hne =>
    -- the double does not depend on the Clojure flag
    exact CljNum.float (cfg := ⟨true, true⟩) sg ip fr ex neg hs (expMantissa_clj hm) hne
  | decM sg ip fr ex neg hs hm hu =>
    have := CljNum.decM (cfg := ⟨true, true⟩) sg ip fr ex neg hs (expMantissa_clj hm) hu
    rwa [zeroNorm_mantissa hm.hip hm.hfr hm.hex] at this

/-- every token of the grammar starts where the dispatcher sends a number: the hypothesis `hstart`
    of `readNumber_exp_sound` and `readNumber_exp_iff` holds on `tok ++ rest` for every token -/
theorem expNum_start {tok : Bytes} {v : NumVal} (h : ExpNum tok v) (rest : Bytes) :
    ∃ c t, tok ++ rest = c :: t ∧
      (is09 c = true ∨ ((c = 0x2B ∨ c = 0x2D) ∧ ∃ nx t', t = nx :: t' ∧ is09 nx = true)) :=
  cljNum_start (cljNum_of_expNum tok v h) rest

theorem readNumber_exp_then_both (s rest : Bytes) (v : NumVal)
    (hstart : ∃ c t, s = c :: t ∧ (is09 c = true ∨ ((c = 0x2B ∨ c = 0x2D) ∧ ∃ nx t', t = nx :: t' ∧ is09 nx = true)))
    (h : readNumber expCfg s = .ok v rest) : readNumber ⟨true, true⟩ s = .ok v rest := by
  obtain ⟨tok, rfl, hn, ht⟩ := readNumber_exp_sound s rest v hstart h
  exact readNumber_clj_complete ⟨true, true⟩ rfl tok rest v (cljNum_of_expNum tok v hn) ht

theorem expNum_float_value (text : Bytes) :
    parseDouble expCfg text = (let p := decimalParts text; withSign p.1 (ofDec p.2.1 p.2.2)) :=
  DoubleSpecAux.parseDouble_of_noUnderscore expCfg text (fun he => Bool.noConfusion he)

theorem expNum_parseDouble_unsep (sg ip fr ex : Bytes) (neg : Bool) (hs : SignTok sg neg)
    (hm : ExpMantissa ip fr ex) :
    parseDouble expCfg (sg ++ ip ++ fr ++ ex) = parseDouble Cfg.core (unsep (sg ++ ip ++ fr ++ ex)) :=
  ExpN.parseDouble_unsep (ExpN.mantissa_text hs hm).1 (ExpN.mantissa_text hs hm).2

open ExpN CljN CNum in
/-- Removing the separators from an `ExpNum` token gives a token of core EDN, and the payload of
    the token is the payload of that core token up to the separators in the texts it keeps
    (`unsepVal`):
      * an integer in the 64-bit range denotes the same `int` (`Edn.Properties.C04.separators_exact_int`);
      * a float denotes the same double (`Edn.Properties.C04.separators_exact_float`);
      * a big integer / big decimal payload has the same sign (and radix 10) and its text is the
        text of the core payload with the separators left in: `unsep text` is the core text. -/
theorem expNum_unsep (tok : Bytes) (v : NumVal) (h : ExpNum tok v) :
    CoreNum Cfg.core (unsep tok) (unsepVal v) := by
  cases h with
  | dec sg ip neg hs hip =>
    obtain ⟨hd, hval⟩ := unsep_expInt hip
    rw [unsep_append, unsep_sign hs]
    unfold intPayload
    rw [← hval]
    by_cases hr : (if neg = true then natOfDigits (unsep ip) ≤ 9223372036854775808
        else natOfDigits (unsep ip) ≤ 9223372036854775807)
    · rw [if_pos hr]
      exact CoreNum.int sg (unsep ip) neg hs hd hr
    · rw [if_neg hr]
      exact CoreNum.big sg (unsep ip) neg hs hd hr
  | decN sg ip neg hs hip =>
    obtain ⟨hd, -⟩ := unsep_expInt hip
    rw [unsep_append, unsep_append, unsep_sign hs]
    exact CoreNum.bigN sg (unsep ip) neg hs hd
  | float sg ip fr ex neg hs hm hne =>
    obtain ⟨h1, h2, h3, h4⟩ := unsep_mantissa hm
    rw [expNum_parseDouble_unsep sg ip fr ex neg hs hm]
    refine CoreNum.float _ ⟨sg, unsep ip, unsep fr, unsep ex, neg, ?_, hs, h1, h2, h3, h4 hne⟩
    rw [unsep_append, unsep_append, unsep_append, unsep_sign hs]
  | decM sg ip fr ex neg hs hm hu =>
    obtain ⟨h1, h2, h3, -⟩ := unsep_mantissa hm
    have e : unsep (sg ++ ip ++ fr ++ ex ++ [0x4D]) = sg ++ unsep (ip ++ fr ++ ex) ++ [0x4D] := by
      have e0 : sg ++ ip ++ fr ++ ex ++ [0x4D] = sg ++ (ip ++ fr ++ ex) ++ [0x4D] := by simp
      rw [e0, unsep_append, unsep_append, unsep_sign hs]
      rfl
    show CoreNum Cfg.core _ (.bigdec neg (unsep (ip ++ fr ++ ex)))
    rw [e, unsep_append, unsep_append]
    exact bigdec_of_parts Cfg.core hs h1 h2 h3

theorem expNum_bigint_unsep (tok : Bytes) (neg : Bool) (radix : Nat) (ds : Bytes)
    (h : ExpNum tok (.bigint neg radix ds)) : CoreNum Cfg.core (unsep tok) (.bigint neg radix (unsep ds)) :=
  expNum_unsep tok _ h

theorem expNum_bigdec_unsep (tok : Bytes) (neg : Bool) (text : Bytes)
    (h : ExpNum tok (.bigdec neg text)) : CoreNum Cfg.core (unsep tok) (.bigdec neg (unsep text)) :=
  expNum_unsep tok _ h

/-- a token denotes one payload: the reader returns both -/
theorem expNum_unique {tok : Bytes} {v v' : NumVal} (h : ExpNum tok v) (h' : ExpNum tok v') : v = v' := by
  have e := readNumber_exp_complete tok [] v h (Or.inl rfl)
  rw [readNumber_exp_complete tok [] v' h' (Or.inl rfl)] at e
  injection e with e
  exact e.symm

theorem expNum_iff_coreNum_of_noSep (tok : Bytes) (v : NumVal) (hn : (0x5F : UInt8) ∉ tok) :
    ExpNum tok v ↔ CoreNum Cfg.core tok v := by
  constructor
  · intro h
    -- `tok` is its own text without separators, so it denotes `unsepVal v` as well as `v`
    have hc := expNum_unsep tok v h
    rw [ExpN.unsep_of_not_mem hn] at hc
    rwa [expNum_unique h (expNum_of_coreNum Cfg.core tok _ hc)]
  · exact expNum_of_coreNum Cfg.core tok v

theorem readNumber_exp_eq_core_of_noSep (s rest : Bytes) (v : NumVal)
    (hstart : ∃ c t, s = c :: t ∧ (is09 c = true ∨ ((c = 0x2B ∨ c = 0x2D) ∧ ∃ nx t', t = nx :: t' ∧ is09 nx = true)))
    (hn : (0x5F : UInt8) ∉ slice s rest)
    (h : readNumber expCfg s = .ok v rest) : readNumber Cfg.core s = .ok v rest := by
  obtain ⟨tok, rfl, hc, ht⟩ := readNumber_exp_sound s rest v hstart h
  rw [slice_append] at hn
  exact readNumber_coreNum Cfg.core tok rest v ((expNum_iff_coreNum_of_noSep tok v hn).mp hc) ht

theorem readNumber_core_then_exp (s rest : Bytes) (v : NumVal)
    (hstart : ∃ c t, s = c :: t ∧ (is09 c = true ∨ ((c = 0x2B ∨ c = 0x2D) ∧ ∃ nx t', t = nx :: t' ∧ is09 nx = true)))
    (h : readNumber Cfg.core s = .ok v rest) : readNumber expCfg s = .ok v rest := by
  obtain ⟨tok, rfl, hc, ht⟩ := readNumber_core_sound s rest v hstart h
  exact readNumber_exp_complete tok rest v (expNum_of_coreNum Cfg.core tok v hc) ht

section examples
private def b (s : String) : Bytes := s.toUTF8.toList
private abbrev X : Cfg := expCfg

example : ∃ c t, b "1_000 " = c :: t ∧
    (is09 c = true ∨ ((c = 0x2B ∨ c = 0x2D) ∧ ∃ nx t', t = nx :: t' ∧ is09 nx = true)) :=
  ⟨0x31, b "_000 ", by decide +kernel, Or.inl (by decide)⟩

example : ExpNum (b "-1_000") (.int (-1000)) := by
  have hip : ExpInt (b "1_000") :=
    Or.inr ⟨⟨0x31, b "_000", by decide +kernel, by decide, by unfold URun; decide +kernel⟩, by decide +kernel,
      by unfold NoTrailU; decide +kernel⟩
  have h := ExpNum.dec (b "-") (b "1_000") true (Or.inr (Or.inr ⟨by decide +kernel, rfl⟩)) hip
  have e : intPayload true 10 (b "1_000") = .int (-1000) := by decide +kernel
  have e2 : b "-" ++ b "1_000" = b "-1_000" := by decide +kernel
  rw [e, e2] at h
  exact h

example : readNumber X (b "1_000 ") = .ok (.int 1000) (b " ") := by decide +kernel
example : readNumber X (b "1__0") = .ok (.int 10) [] := by decide +kernel
example : readNumber X (b "+1_0") = .ok (.int 10) [] := by decide +kernel
example : readNumber X (b "1_") = .err [] := by decide +kernel
example : readNumber X (b "0_1") = .err (b "_1") := by decide +kernel
example : readNumber X (b "00") = .err (b "0") := by decide +kernel
example : readNumber X (b "9_223_372_036_854_775_807") = .ok (.int 9223372036854775807) [] := by decide +kernel
example : readNumber X (b "9_223_372_036_854_775_808") =
    .ok (.bigint false 10 (b "9_223_372_036_854_775_808")) [] := by decide +kernel
example : readNumber X (b "-9_223_372_036_854_775_808") = .ok (.int (-9223372036854775808)) [] := by
  decide +kernel
example : readNumber X (b "1_0N") = .ok (.bigint false 10 (b "1_0")) [] := by decide +kernel
example : readNumber X (b "1_N") = .err (b "N") := by decide +kernel
example : readNumber X (b "1_0M") = .ok (.bigdec false (b "1_0")) [] := by decide +kernel
example : readNumber X (b "1.5_5M") = .ok (.bigdec false (b "1.5_5")) [] := by decide +kernel
example : readNumber X (b "1.5_M") = .err (b "M") := by decide +kernel
example : readNumber X (b "1e5_M") = .err (b "M") := by decide +kernel
example : readNumber X (b "1_.5") = .err (b ".5") := by decide +kernel
example : readNumber X (b "1._5") = .err (b "_5") := by decide +kernel
example : readNumber X (b "1.5_") = .ok (.float 4609434218613702656) [] := by decide +kernel
example : readNumber X (b "1.5_e3") = .err (b "e3") := by decide +kernel
example : readNumber X (b "1e_5") = .err (b "_5") := by decide +kernel
example : readNumber X (b "1e5_") = .ok (.float 4681608360884174848) [] := by decide +kernel
example : readNumber X (b "1_0.2_5e1_0") = readNumber Cfg.core (b "10.25e10") := by decide +kernel
-- no Clojure forms
example : readNumber X (b "1/2") = .err (b "/2") := by decide +kernel
example : readNumber X (b "0x1F") = .err (b "x1F") := by decide +kernel
example : readNumber X (b "2r1") = .err (b "r1") := by decide +kernel

end examples

end Edn.Proofs
