/-
  C14 (registry half): after any sequence of register, re-register
  and unregister calls the reader registry (16 chained buckets) and the external-type
  table (one chain) map each name to the most recently registered entry or to none,
  i.e. they refine the obvious abstract map.

  One step of a chain refines one step of the abstract map (`chainStep_spec`); a bucketed
  table does to one of its chains what the operation does to a chain (`registry_step_eq`), so
  its step refines the abstract step as well (`registry_step_spec`); a table whose steps refine the
  abstract steps refines the abstract map over every sequence (`refines_foldl`).  The external-type
  table: `ext_refines`; the reader registry is put together from `registry_step_spec`, `create_ok` and
  `create_lookup` in `Edn.Properties.C14`.
-/
import Edn.Model.Registry

namespace Edn.Proofs
open Edn.Model Edn.Generated

variable {κ : Type} [BEq κ] [LawfulBEq κ]

def ChainOK (c : Chain κ) : Prop := (c.map Prod.fst).Nodup

omit [LawfulBEq κ] in
theorem lookup_cons (e : κ × Nat) (es : Chain κ) (q : κ) :
    Chain.lookup (e :: es) q = if e.1 == q then some e.2 else Chain.lookup es q := by
  unfold Chain.lookup
  rw [List.find?_cons]
  cases e.1 == q <;> rfl

theorem lookup_eq_none (c : Chain κ) (q : κ) (h : q ∉ c.map Prod.fst) : c.lookup q = none := by
  unfold Chain.lookup
  rw [List.find?_eq_none.mpr fun e he hq => h (List.mem_map.mpr ⟨e, he, eq_of_beq hq⟩)]
  rfl

theorem beq_congr_left {a b : κ} (h : (a == b) = true) (c : κ) : (a == c) = (b == c) := by
  rw [eq_of_beq h]

theorem upd_lookup (k : κ) (h : Nat) : ∀ (c : Chain κ) (q : κ), c.any (fun e => e.1 == k) = true →
    Chain.lookup (Chain.register.upd k h c) q = if q == k then some h else Chain.lookup c q := by
  intro c
  induction c with
  | nil => intro q hany; cases hany
  | cons e es ih =>
    intro q hany
    rw [Chain.register.upd, lookup_cons]
    cases hek : e.1 == k with
    | true =>
      rw [if_pos rfl, lookup_cons, beq_congr_left hek, BEq.comm (a := k)]
      cases q == k <;> rfl
    | false =>
      rw [List.any_cons, hek, Bool.false_or] at hany
      rw [if_neg Bool.false_ne_true, lookup_cons, ih q hany]
      cases hq : q == k with
      | false => rfl
      | true => rw [eq_of_beq hq, hek]; rfl

theorem upd_keys (k : κ) (h : Nat) : ∀ (c : Chain κ),
    (Chain.register.upd k h c).map Prod.fst = c.map Prod.fst := by
  intro c
  induction c with
  | nil => rfl
  | cons e es ih =>
    rw [Chain.register.upd]
    cases hek : e.1 == k with
    | true => rw [if_pos rfl, List.map_cons, List.map_cons, eq_of_beq hek]
    | false => rw [if_neg Bool.false_ne_true, List.map_cons, List.map_cons, ih]

theorem register_lookup (c : Chain κ) (k : κ) (h : Nat) (q : κ) :
    (c.register k h).lookup q = if q == k then some h else c.lookup q := by
  unfold Chain.register
  cases hany : c.any (fun e => e.1 == k) with
  | true => exact upd_lookup k h c q hany
  | false => rw [if_neg Bool.false_ne_true, lookup_cons, BEq.comm]

theorem register_ok (c : Chain κ) (k : κ) (h : Nat) (hc : ChainOK c) : ChainOK (c.register k h) := by
  unfold Chain.register ChainOK at *
  cases hany : c.any (fun e => e.1 == k) with
  | true => rw [if_pos rfl, upd_keys]; exact hc
  | false =>
    rw [if_neg Bool.false_ne_true, List.map_cons, List.nodup_cons]
    refine ⟨fun hmem => ?_, hc⟩
    obtain ⟨e, he, hek⟩ := List.mem_map.mp hmem
    have : c.any (fun e => e.1 == k) = true := List.any_eq_true.mpr ⟨e, he, beq_iff_eq.mpr hek⟩
    rw [hany] at this
    cases this

omit [LawfulBEq κ] in
theorem unregister_sublist : ∀ (c : Chain κ) (k : κ), (c.unregister k).Sublist c
  | [], _ => .slnil
  | e :: es, k => by
    rw [Chain.unregister]
    cases e.1 == k with
    | true => exact .cons e (List.Sublist.refl es)
    | false => exact .cons_cons e (unregister_sublist es k)

omit [LawfulBEq κ] in
theorem unregister_ok (c : Chain κ) (k : κ) (hc : ChainOK c) : ChainOK (c.unregister k) :=
  hc.sublist ((unregister_sublist c k).map Prod.fst)

/-- `unregister` unlinks the first entry with the key; in a chain without repeated keys that is
    the only one -/
theorem unregister_lookup : ∀ (c : Chain κ) (k q : κ), ChainOK c →
    (c.unregister k).lookup q = if q == k then none else c.lookup q := by
  intro c
  induction c with
  | nil => intro k q _; cases q == k <;> rfl
  | cons e es ih =>
    intro k q h
    unfold ChainOK at h
    rw [List.map_cons, List.nodup_cons] at h
    rw [Chain.unregister, lookup_cons]
    cases hek : e.1 == k with
    | true =>
      rw [if_pos rfl, beq_congr_left hek, BEq.comm (a := k)]
      cases hq : q == k with
      | false => rfl
      | true => rw [eq_of_beq hq, ← eq_of_beq hek]; exact lookup_eq_none es _ h.1
    | false =>
      rw [if_neg Bool.false_ne_true, lookup_cons, ih k q h.2]
      cases hq : q == k with
      | false => rfl
      | true => rw [eq_of_beq hq, hek]; rfl

def chainStep (c : Chain κ) : RegOp κ → Chain κ
  | .reg k h => c.register k h
  | .unreg k => c.unregister k

theorem chainStep_spec (c : Chain κ) (hc : ChainOK c) (op : RegOp κ) :
    ChainOK (chainStep c op) ∧ ∀ q, (chainStep c op).lookup q = specStep c.lookup op q := by
  cases op with
  | reg k h => exact ⟨register_ok c k h hc, register_lookup c k h⟩
  | unreg k => exact ⟨unregister_ok c k hc, fun q => unregister_lookup c k q hc⟩

omit [LawfulBEq κ] in
theorem refines_foldl {σ : Type} (step : σ → RegOp κ → σ) (lookup : σ → κ → Option Nat) (OK : σ → Prop)
    (hstep : ∀ s, OK s → ∀ op, OK (step s op) ∧ ∀ q, lookup (step s op) q = specStep (lookup s) op q)
    (ops : List (RegOp κ)) : ∀ (s : σ) (m : κ → Option Nat), OK s → (∀ q, lookup s q = m q) →
      OK (ops.foldl step s) ∧ ∀ q, lookup (ops.foldl step s) q = (ops.foldl specStep m) q := by
  induction ops with
  | nil => intro s m hs hm; exact ⟨hs, hm⟩
  | cons op ops ih =>
    intro s m hs hm
    obtain ⟨hok, hl⟩ := hstep s hs op
    refine ih _ _ hok (fun q => ?_)
    rw [hl, funext hm]

theorem ext_refines (ops : List (RegOp Nat)) :
    ChainOK (ops.foldl extStep []) ∧
    ∀ q, (ops.foldl extStep []).lookup q = (ops.foldl specStep (fun _ => none)) q :=
  refines_foldl extStep Chain.lookup ChainOK
    (fun c hc op => by rw [show extStep c op = chainStep c op by cases op <;> rfl]; exact chainStep_spec c hc op)
    ops [] _ List.nodup_nil (fun _ => rfl)

def RegOK (r : Registry) : Prop := 0 < r.buckets.length ∧ ∀ c ∈ r.buckets, ChainOK c

theorem create_ok : RegOK Registry.create := by
  refine ⟨by simp [Registry.create]; decide, ?_⟩
  intro c hc
  rw [(List.mem_replicate.mp hc).2]
  exact List.nodup_nil

theorem getD_mem_ok (r : Registry) (h : RegOK r) (i : Nat) : ChainOK (r.buckets.getD i []) := by
  rw [List.getD_eq_getElem?_getD]
  cases hi : r.buckets[i]? with
  | none => exact List.nodup_nil
  | some c => exact h.2 c (List.mem_of_getElem? hi)

theorem set_ok (r : Registry) (h : RegOK r) (i : Nat) (c : Chain Bytes) (hc : ChainOK c) :
    RegOK { buckets := r.buckets.set i c } := by
  refine ⟨by rw [List.length_set]; exact h.1, ?_⟩
  intro x hx
  rcases List.mem_or_eq_of_mem_set hx with hx | hx
  · exact h.2 x hx
  · rw [hx]; exact hc

def opKey : RegOp κ → κ
  | .reg k _ => k
  | .unreg k => k

theorem specStep_of_ne (m : κ → Option Nat) (op : RegOp κ) (q : κ) (h : q ≠ opKey op) : specStep m op q = m q := by
  cases op <;> exact if_neg (fun hq => h (eq_of_beq hq))

/-- `edn_reader_register` / `edn_reader_unregister`: the operation on the chain of the key's bucket -/
theorem registry_step_eq (r : Registry) (op : RegOp Bytes) :
    r.step op =
      ⟨r.buckets.set (r.bucketOf (opKey op)) (chainStep (r.buckets.getD (r.bucketOf (opKey op)) []) op)⟩ := by
  cases op <;> rfl

theorem lookup_set (r : Registry) (h : RegOK r) (t q : Bytes) (c : Chain Bytes) :
    Registry.lookup { buckets := r.buckets.set (r.bucketOf t) c } q =
      if r.bucketOf q = r.bucketOf t then c.lookup q else r.lookup q := by
  have hlt : r.bucketOf t < r.buckets.length := Nat.mod_lt _ h.1
  unfold Registry.lookup
  rw [show Registry.bucketOf { buckets := r.buckets.set (r.bucketOf t) c } q = r.bucketOf q by
    unfold Registry.bucketOf; rw [List.length_set]]
  rw [List.getD_eq_getElem?_getD, List.getD_eq_getElem?_getD, List.getElem?_set]
  by_cases hb : r.bucketOf q = r.bucketOf t
  · rw [if_pos hb, if_pos hb.symm, if_pos hlt]; rfl
  · rw [if_neg hb, if_neg (Ne.symm hb)]

/-- the chain of the key's bucket makes the abstract step, and a name in another bucket is another name -/
theorem registry_step_spec (r : Registry) (h : RegOK r) (op : RegOp Bytes) :
    RegOK (r.step op) ∧ ∀ q, (r.step op).lookup q = specStep r.lookup op q := by
  obtain ⟨hok, hl⟩ := chainStep_spec _ (getD_mem_ok r h (r.bucketOf (opKey op))) op
  rw [registry_step_eq]
  refine ⟨set_ok r h _ _ hok, fun q => ?_⟩
  rw [lookup_set r h]
  by_cases hb : r.bucketOf q = r.bucketOf (opKey op)
  · rw [if_pos hb, hl q, ← hb]
    cases op <;> rfl
  · rw [if_neg hb, specStep_of_ne _ _ _ (fun hq => hb (by rw [hq]))]

theorem create_lookup (q : Bytes) : Registry.create.lookup q = none := by
  unfold Registry.lookup Registry.create
  simp only [List.getD, List.getElem?_replicate]
  split <;> rfl

end Edn.Proofs
