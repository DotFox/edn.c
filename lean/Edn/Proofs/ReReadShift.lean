/-
  Algebra of the position shift `shiftV`, and the vocabulary of the continuation-independence
  ("cut") proofs: the cut relation `OkCut` for the answers of the leaf readers.
-/
import Edn.Spec.ReRead
import Edn.Spec.Renders
import Edn.Proofs.MetaMerge
import Edn.Proofs.RangesValue

namespace Edn.Proofs
open Edn.Model Edn.Spec

theorem shiftL_eq_map (k : Nat) : ∀ xs : List Val, shiftL k xs = xs.map (shiftV k)
  | [] => by simp [shiftL]
  | x :: xs => by simp [shiftL, shiftL_eq_map k xs]

theorem shiftO_eq_map (k : Nat) (o : Option Val) : shiftO k o = o.map (shiftV k) := by
  cases o <;> simp [shiftO]

theorem shiftL_cons (k : Nat) (x : Val) (xs : List Val) : shiftL k (x :: xs) = shiftV k x :: shiftL k xs := by
  simp [shiftL]
theorem shiftL_append (k : Nat) (xs ys : List Val) : shiftL k (xs ++ ys) = shiftL k xs ++ shiftL k ys := by
  simp [shiftL_eq_map]
theorem shiftL_reverse (k : Nat) (xs : List Val) : shiftL k xs.reverse = (shiftL k xs).reverse := by
  simp [shiftL_eq_map]
theorem shiftL_length (k : Nat) (xs : List Val) : (shiftL k xs).length = xs.length := by
  simp [shiftL_eq_map]

theorem shiftHdr_hc (k : Nat) (h : Hdr) : (shiftHdr k h).hc = h.hc := by
  unfold shiftHdr; split <;> rfl
theorem shiftHdr_synth (k : Nat) (h : Hdr) : (shiftHdr k h).synth = h.synth := by
  unfold shiftHdr; split <;> rfl
theorem shiftHdr_mk (k a b : Nat) : shiftHdr k (mkHdr a b) = mkHdr (a + k) (b + k) := rfl
theorem shiftHdr_synthHdr (k : Nat) : shiftHdr k synthHdr = synthHdr := rfl
theorem shiftHdr_of_synth {k : Nat} {h : Hdr} (hs : h.synth = true) : shiftHdr k h = h := by
  unfold shiftHdr; simp [hs]
theorem shiftHdr_of_nsynth {k : Nat} {h : Hdr} (hs : h.synth = false) :
    shiftHdr k h = { h with s := h.s + k, e := h.e + k } := by
  unfold shiftHdr; simp [hs]
theorem shiftHdr_with_hc (k : Nat) (h : Hdr) (c : UInt64) :
    shiftHdr k { h with hc := c } = { shiftHdr k h with hc := c } := by
  unfold shiftHdr; split <;> rfl
theorem shiftHdr_with_s {k : Nat} {h : Hdr} (hs : h.synth = false) (a : Nat) :
    shiftHdr k { h with s := a } = { shiftHdr k h with s := a + k } := by
  unfold shiftHdr; simp [hs]

theorem hdr_shiftV (k : Nat) (v : Val) : (shiftV k v).hdr = shiftHdr k v.hdr := by
  cases v <;> rfl

theorem shiftV_setHdr (k : Nat) (v : Val) (h : Hdr) :
    shiftV k (v.setHdr h) = (shiftV k v).setHdr (shiftHdr k h) := by
  cases v <;> rfl

theorem md_shiftV (k : Nat) (v : Val) : (shiftV k v).md = shiftO k v.md := by
  cases v <;> rfl

theorem shiftV_setMd (k : Nat) (v : Val) (m : Option Val) :
    shiftV k (v.setMd m) = (shiftV k v).setMd (shiftO k m) := by
  cases v <;> rfl

theorem metaTarget_shiftV (k : Nat) (v : Val) : (shiftV k v).metaTarget = v.metaTarget := by
  cases v <;> rfl

theorem shiftV_eq_kw {k : Nat} {v : Val} {h : Hdr} {ns : Option Bytes} {nm : Bytes}
    (hv : shiftV k v = .kw h ns nm) : ∃ h', v = .kw h' ns nm := by
  cases v <;> cases hv
  exact ⟨_, rfl⟩

theorem shiftV_eq_sym {k : Nat} {v : Val} {h : Hdr} {md : Option Val} {ns : Option Bytes} {nm : Bytes}
    (hv : shiftV k v = .sym h md ns nm) : ∃ h' md', v = .sym h' md' ns nm := by
  cases v <;> cases hv
  exact ⟨_, _, rfl⟩

theorem shiftHdr_zero (h : Hdr) : shiftHdr 0 h = h := by
  unfold shiftHdr; split <;> rfl

theorem setHdr_shiftHdr_zero (v : Val) : v.setHdr (shiftHdr 0 v.hdr) = v := by
  rw [shiftHdr_zero]; cases v <;> rfl

mutual
theorem shiftV_zero : ∀ v : Val, shiftV 0 v = v
  | .nil _ | .bool _ _ | .int _ _ | .bigint _ _ _ _ | .float _ _ | .bigdec _ _ _ | .ratio _ _ _
  | .bigratio _ _ _ _ | .char _ _ | .str _ _ _ | .kw _ _ _ | .ext _ _ _ => setHdr_shiftHdr_zero _
  | .sym h md ns nm => by
    show Val.sym (shiftHdr 0 h) (shiftO 0 md) ns nm = _; rw [shiftHdr_zero, shiftO_zero md]
  | .list h md xs => by
    show Val.list (shiftHdr 0 h) (shiftO 0 md) (shiftL 0 xs) = _; rw [shiftHdr_zero, shiftO_zero md, shiftL_zero xs]
  | .vec h md xs => by
    show Val.vec (shiftHdr 0 h) (shiftO 0 md) (shiftL 0 xs) = _; rw [shiftHdr_zero, shiftO_zero md, shiftL_zero xs]
  | .set h md xs => by
    show Val.set (shiftHdr 0 h) (shiftO 0 md) (shiftL 0 xs) = _; rw [shiftHdr_zero, shiftO_zero md, shiftL_zero xs]
  | .map h md ks vs => by
    show Val.map (shiftHdr 0 h) (shiftO 0 md) (shiftL 0 ks) (shiftL 0 vs) = _
    rw [shiftHdr_zero, shiftO_zero md, shiftL_zero ks, shiftL_zero vs]
  | .tagged h md t v => by
    show Val.tagged (shiftHdr 0 h) (shiftO 0 md) t (shiftV 0 v) = _; rw [shiftHdr_zero, shiftO_zero md, shiftV_zero v]
theorem shiftL_zero : ∀ xs : List Val, shiftL 0 xs = xs
  | [] => rfl
  | x :: xs => by show shiftV 0 x :: shiftL 0 xs = _; rw [shiftV_zero x, shiftL_zero xs]
theorem shiftO_zero : ∀ o : Option Val, shiftO 0 o = o
  | none => rfl
  | some m => by show some (shiftV 0 m) = _; rw [shiftV_zero m]
end

theorem shiftV_nil (k a b : Nat) : shiftV k (.nil (mkHdr a b)) = .nil (mkHdr (a + k) (b + k)) := rfl
theorem shiftV_bool (k a b : Nat) (x : Bool) : shiftV k (.bool (mkHdr a b) x) = .bool (mkHdr (a + k) (b + k)) x := rfl
theorem shiftV_char (k a b cp : Nat) : shiftV k (.char (mkHdr a b) cp) = .char (mkHdr (a + k) (b + k)) cp := rfl
theorem shiftV_float (k a b : Nat) (bits : UInt64) :
    shiftV k (.float (mkHdr a b) bits) = .float (mkHdr (a + k) (b + k)) bits := rfl
theorem shiftV_str (k a b : Nat) (d : Bytes) (e : Bool) :
    shiftV k (.str (mkHdr a b) d e) = .str (mkHdr (a + k) (b + k)) d e := rfl
theorem shiftV_kw (k a b : Nat) (ns : Option Bytes) (nm : Bytes) :
    shiftV k (.kw (mkHdr a b) ns nm) = .kw (mkHdr (a + k) (b + k)) ns nm := rfl
theorem shiftV_sym (k a b : Nat) (ns : Option Bytes) (nm : Bytes) :
    shiftV k (.sym (mkHdr a b) none ns nm) = .sym (mkHdr (a + k) (b + k)) none ns nm := rfl
theorem shiftV_numToVal (k a b : Nat) (x : NumVal) :
    shiftV k (numToVal (mkHdr a b) x) = numToVal (mkHdr (a + k) (b + k)) x := by
  cases x <;> rfl
theorem shiftV_list (k start stop : Nat) (xs : List Val) :
    shiftV k (.list (mkHdr start stop) none xs) = .list (mkHdr (start + k) (stop + k)) none (shiftL k xs) := rfl
theorem shiftV_vec (k start stop : Nat) (xs : List Val) :
    shiftV k (.vec (mkHdr start stop) none xs) = .vec (mkHdr (start + k) (stop + k)) none (shiftL k xs) := rfl
theorem shiftV_set (k start stop : Nat) (xs : List Val) :
    shiftV k (.set (mkHdr start stop) none xs) = .set (mkHdr (start + k) (stop + k)) none (shiftL k xs) := rfl
theorem shiftV_map (k start stop : Nat) (ks vs : List Val) :
    shiftV k (.map (mkHdr start stop) none ks vs) =
      .map (mkHdr (start + k) (stop + k)) none (shiftL k ks) (shiftL k vs) := rfl
theorem shiftV_tagged (k start stop : Nat) (tag : Bytes) (v : Val) :
    shiftV k (.tagged (mkHdr start stop) none tag v) =
      .tagged (mkHdr (start + k) (stop + k)) none tag (shiftV k v) := rfl

theorem tySeed_shiftV (cfg : Cfg) (k : Nat) (v : Val) : tySeed cfg (shiftV k v) = tySeed cfg v := by
  cases v <;> rfl

theorem transp_shiftV (k : Nat) : Transp (shiftV k) := by
  intro v
  cases v <;> try rfl
  all_goals simp only [shiftV, view, shiftL_eq_map, List.map_id]

theorem hashV_shiftV (cfg : Cfg) (k : Nat) (v : Val) : hashV cfg (shiftV k v) = hashV cfg v :=
  (transp_shiftV k).hashV cfg v

theorem hashList_shiftL (cfg : Cfg) (k : Nat) : ∀ xs : List Val, hashList cfg (shiftL k xs) = hashList cfg xs :=
  fun xs => by rw [shiftL_eq_map]; exact hashList_map cfg xs fun x _ => hashV_shiftV cfg k x

theorem hashOp_shiftV (cfg : Cfg) (k : Nat) (v : Val) :
    hashOp cfg (shiftV k v) = ((hashOp cfg v).1, shiftV k (hashOp cfg v).2) := by
  unfold hashOp
  simp only [hdr_shiftV, shiftHdr_hc, hashV_shiftV]
  split
  · rfl
  · simp only [shiftV_setHdr, shiftHdr_with_hc]

theorem body_shiftV (cfg : Cfg) (k : Nat) (p : Val → Val → Bool) (a b : Val) :
    body cfg p (shiftV k a) (shiftV k b) = body cfg (fun x y => p (shiftV k x) (shiftV k y)) a b :=
  body_map cfg p (transp_shiftV k) a b

theorem equalF_shiftV (cfg : Cfg) (k : Nat) : ∀ (f : Nat) (a b : Val),
    equalF cfg f (shiftV k a) (shiftV k b) = equalF cfg f a b
  | 0, _, _ => rfl
  | f + 1, a, b => by
    rw [equalF_level, equalF_level, hdr_shiftV, hdr_shiftV, shiftHdr_hc, shiftHdr_hc,
      body_shiftV]
    have : (fun x y => equalF cfg f (shiftV k x) (shiftV k y)) = equalF cfg f := by
      funext x y; exact equalF_shiftV cfg k f x y
    rw [this]

theorem equal_shiftV (cfg : Cfg) (k : Nat) (a b : Val) : equal cfg (shiftV k a) (shiftV k b) = equal cfg a b :=
  equalF_shiftV cfg k _ a b

theorem hasDupLinear_shiftL (cfg : Cfg) (k : Nat) : ∀ xs : List Val,
    hasDupLinear cfg (shiftL k xs) = hasDupLinear cfg xs
  | [] => by simp [shiftL, hasDupLinear]
  | x :: xs => by
    simp only [shiftL_cons, hasDupLinear, hasDupLinear_shiftL cfg k xs]
    simp only [shiftL_eq_map, List.any_map, Function.comp_def, equal_shiftV]

theorem hasDupHashed_shiftL (cfg : Cfg) (k : Nat) : ∀ xs : List Val,
    hasDupHashed cfg (shiftL k xs) = hasDupHashed cfg xs
  | [] => by simp [shiftL, hasDupHashed]
  | x :: xs => by
    simp only [shiftL_cons, hasDupHashed, hasDupHashed_shiftL cfg k xs]
    simp only [shiftL_eq_map, List.any_map, Function.comp_def, equal_shiftV, hdr_shiftV, shiftHdr_hc]

theorem hasDuplicates_shiftL (cfg : Cfg) (k : Nat) (xs : List Val) :
    hasDuplicates cfg (shiftL k xs) = ((hasDuplicates cfg xs).1, shiftL k (hasDuplicates cfg xs).2) := by
  unfold hasDuplicates
  simp only [shiftL_length]
  split
  · rfl
  · split
    · simp only [hasDupLinear_shiftL]
    · have hm : List.map (fun x => (hashOp cfg x).2) (shiftL k xs) =
          shiftL k (List.map (fun x => (hashOp cfg x).2) xs) := by
        simp only [shiftL_eq_map, List.map_map]
        apply List.map_congr_left
        intro x _
        simp only [Function.comp_def, hashOp_shiftV]
      simp only [hm, hasDupHashed_shiftL]

theorem qualifyKey_shiftV (n : Bytes) (k : Nat) (x : Val) :
    qualifyKey n (shiftV k x) = shiftV k (qualifyKey n x) := by
  cases x <;> try rfl
  case sym h md ns nm =>
    cases ns with
    | none => rfl
    | some m => exact (apply_ite (shiftV k) (m == [0x5F]) (.sym synthHdr none none nm) (.sym h md (some m) nm)).symm
  case kw h ns nm =>
    cases ns with
    | none => rfl
    | some m => exact (apply_ite (shiftV k) (m == [0x5F]) (.kw synthHdr none nm) (.kw h (some m) nm)).symm

theorem metaEntries_shiftV (k : Nat) (m : Val) :
    metaEntries (shiftV k m) = (metaEntries m).map (fun p => (shiftL k p.1, shiftL k p.2)) := by
  cases m <;> rfl

theorem keepOld_shiftL (cfg : Cfg) (k : Nat) (nk ks vs : List Val) :
    keepOld cfg (shiftL k nk) (shiftL k ks) (shiftL k vs) =
      (shiftL k (keepOld cfg nk ks vs).1, shiftL k (keepOld cfg nk ks vs).2) := by
  rw [keepOld_eq_keepBy, keepOld_eq_keepBy]
  simp only [shiftL_eq_map]
  exact keepBy_map (shiftV k) ks vs fun a _ => by
    simp only [List.any_map, Function.comp_def, equal_shiftV]

theorem newMd_shiftV (cfg : Cfg) (k : Nat) (form : Val) (nks nvs : List Val) :
    newMd cfg (shiftV k form) (shiftL k nks) (shiftL k nvs) = shiftV k (newMd cfg form nks nvs) := by
  unfold newMd
  rw [md_shiftV]
  cases form.md with
  | none => rfl
  | some x =>
    cases x <;> try rfl
    case map h md ks vs =>
      show Val.map _ _ (_ ++ (keepOld cfg (shiftL k nks) (shiftL k ks) (shiftL k vs)).1)
        (_ ++ (keepOld cfg (shiftL k nks) (shiftL k ks) (shiftL k vs)).2) =
        Val.map _ _ (shiftL k (nks ++ _)) (shiftL k (nvs ++ _))
      rw [keepOld_shiftL, shiftL_append, shiftL_append]

theorem attachMeta_shiftV (cfg : Cfg) (k : Nat) (m form : Val) (nks nvs : List Val) :
    attachMeta cfg (shiftV k m) (shiftV k form) (shiftL k nks) (shiftL k nvs) =
      shiftV k (attachMeta cfg m form nks nvs) := by
  rw [attachMeta_eq, attachMeta_eq, newMd_shiftV, shiftV_setMd]
  rfl

def ExCut (r : Bytes) (big small : Except Bytes Bytes) : Prop :=
  ∀ rest, big = .ok rest → r.length ≤ rest.length → ∃ u', rest = u' ++ r ∧ small = .ok u'

/-- `big` is the answer on an input that is followed by `r`, `small` the answer on the input alone:
    whenever `big` is a value found without touching `r`, `small` is that value with every position
    smaller by `r.length`, and the corresponding rest -/
def OkCut (r : Bytes) (cl : List Call) (big small : Res) : Prop :=
  ∀ v st', big = .ok v st' → r.length ≤ st'.rest.length →
    ∃ t' v', st' = { rest := t' ++ r, calls := cl } ∧ small = .ok v' { rest := t', calls := cl } ∧
      shiftV r.length v' = v

theorem slice_append_right (a b r : Bytes) : slice (a ++ r) (b ++ r) = slice a b := by
  unfold slice
  simp only [List.length_append]
  rw [show a.length + r.length - (b.length + r.length) = a.length - b.length by omega]
  rw [List.take_append_of_le_length (by omega)]

theorem adv_nil : adv [] = [] := rfl
theorem peek_app {w : Bytes} (r : Bytes) (h : w ≠ []) : peek (w ++ r) = peek w := by
  cases w with
  | nil => exact absurd rfl h
  | cons a w => rfl

theorem adv_app {w : Bytes} (r : Bytes) (h : w ≠ []) : adv (w ++ r) = adv w ++ r := by
  cases w with
  | nil => exact absurd rfl h
  | cons a w => rfl

theorem peek_append_cons (a : UInt8) (u r : Bytes) : peek (a :: u ++ r) = a := rfl
theorem adv_append_cons (a : UInt8) (u r : Bytes) : adv (a :: u ++ r) = u ++ r := rfl

theorem append_right_cancel_len {a b r : Bytes} (h : a ++ r = b ++ r) : a = b :=
  List.append_cancel_right h

theorem suffix_split {s t r : Bytes} (hs : s <:+ t ++ r) (hl : r.length ≤ s.length) :
    ∃ t', s = t' ++ r ∧ t' <:+ t := by
  obtain ⟨p, hp⟩ := hs
  have hlen : (p ++ s).length = (t ++ r).length := by rw [hp]
  simp only [List.length_append] at hlen
  have h1 : p = t.take p.length := by
    have := congrArg (List.take p.length) hp
    rw [List.take_left' rfl, List.take_append_of_le_length (by omega)] at this
    exact this
  have h2 : s = t.drop p.length ++ r := by
    have := congrArg (List.drop p.length) hp
    rw [List.drop_left' rfl, List.drop_append_of_le_length (by omega)] at this
    exact this
  exact ⟨t.drop p.length, h2, List.drop_suffix _ _⟩

theorem shiftV_leaf (k : Nat) {v : Val} (h : isLeaf v = true) :
    shiftV k v = (strip v).setHdr (shiftHdr k v.hdr) := by
  cases v with
  | sym _ md _ _ => cases md with
    | none => rfl
    | some _ => cases h
  | _ => first | rfl | cases h

theorem shiftV_of_strip {k : Nat} {v v' : Val} (hl : isLeaf v = true) (hl' : isLeaf v' = true)
    (hs : strip v' = strip v) (hh : shiftHdr k v'.hdr = v.hdr) : shiftV k v' = v := by
  rw [shiftV_leaf k hl', hs, hh]; exact (leaf_eq hl).symm

end Edn.Proofs
