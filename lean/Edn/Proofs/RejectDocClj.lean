/-
  C10 / C19 for whole documents with the Clojure flag (either setting of the experimental flag,
  no reader registry): the defect *sites* (what `readValue` makes of the defect where it stands)
  of a metadata marker that lacks its annotation or its target, of an annotation or a target of
  the wrong kind, of a malformed namespaced-map prefix.  The document theorems (`*_document` in
  `Edn.Properties.C19`) say which error `edn_read` reports for them inside any well-formed open
  context (`DescClj`), and in particular inside a discarded form: each is `docClj_err` or
  `docClj_range` applied to a site.  Positions are `posOf input offset` (offset, line and column
  as `edn_read` computes them); `pre` is the open context and the defect starts at offset
  `pre.length`.
-/
import Edn.Proofs.RejectDocCtx

namespace Edn.Proofs.RejectDocClj
open Edn.Model Edn.Spec Edn.Generated Edn.Proofs Edn.Proofs.Cmpl Edn.Proofs.CmplX Edn.Proofs.RejectDoc Edn.Proofs.RejectDocX

theorem trailRX_of_trailX (cfg : Cfg) (opts : Opts) (hreg : opts.registry = none) {k : Nat} {tr : Bytes} {c : UInt8} {rest : Bytes}
    (ht : TrailX cfg (numJOf cfg) (strJOf cfg) k tr (c :: rest)) (hc : IsCloser c) (d : Nat)
    (hd : d + 1 + k ≤ Tables.maxNestingDepth) : CmplX.TrailRX cfg opts d tr (c :: rest) :=
  trailX_reads opts hreg (numExact_of cfg) (strExact_of cfg) ht c rest rfl hc d hd

section sites
variable {cfg : Cfg} {opts : Opts} {d : Nat} {dm : Bool}

theorem site_meta_closer (hclj : cfg.clj = true) {tr : Bytes} {c : UInt8} {rest : Bytes}
    (hd : d < Tables.maxNestingDepth) (h : CmplX.TrailRX cfg opts d tr (c :: rest)) :
    SiteErrX cfg opts d dm (0x5E :: (tr ++ c :: rest))
      (mkErr .invalidSyntax (some ((tr ++ c :: rest).length + 1)) (some (rest.length + 1))) (c :: rest) := .of_evals fun cl =>
  evals_meta hclj hd ((h dm cl).rule fun _ hv => .meCloser hv)

theorem site_metaTgt_closer (hclj : cfg.clj = true) (hreg : opts.registry = none)
    {k : Nat} {am : Val} {nks nvs : List Val} {tokm tr : Bytes} {c : UInt8} {rest : Bytes}
    (hd : d + 1 + k ≤ Tables.maxNestingDepth) (hm : FX cfg k am tokm (tr ++ c :: rest))
    (he : metaEntriesC am = some (nks, nvs)) (h : CmplX.TrailRX cfg opts d tr (c :: rest)) :
    SiteErrX cfg opts d dm (0x5E :: (tokm ++ (tr ++ c :: rest)))
      (mkErr .invalidSyntax (some ((tokm ++ (tr ++ c :: rest)).length + 1)) (some (rest.length + 1))) (c :: rest) :=
  .of_evals fun cl =>
    let ⟨_, _, hme, hmr⟩ := evals_annotation hreg hd hm he dm cl
    evals_meta hclj (by omega) (hmr.rule₂ (h dm cl) fun _ h1 h2 => .meCloser₂ h1 hme h2)

theorem site_meta_badTarget (hclj : cfg.clj = true) (hreg : opts.registry = none)
    {k : Nat} {am af : Val} {nks nvs : List Val} {tokm tokf rest : Bytes}
    (hd : d + 1 + k ≤ Tables.maxNestingDepth) (hm : FX cfg k am tokm (tokf ++ rest))
    (he : metaEntriesC am = some (nks, nvs)) (hfm : FX cfg k af tokf rest) (ht : af.metaTarget = false) :
    SiteErrX cfg opts d dm (0x5E :: (tokm ++ (tokf ++ rest)))
      (mkErr .invalidSyntax (some ((tokm ++ (tokf ++ rest)).length + 1)) (some rest.length)) rest := .of_evals fun cl =>
  let ⟨_, _, hme, hmr⟩ := evals_annotation hreg hd hm he dm cl
  let ⟨form, hfs, hfr⟩ := fx_reads cfg opts hreg hfm (d + 1) (by omega) dm cl
  evals_meta hclj (by omega) (hmr.rule₂ hfr fun _ h1 h2 =>
    .meNoTarget h1 hme h2 ((SndX.metaTarget_stripM form).symm.trans (hfs ▸ ht)))

theorem site_meta_badAnn (hclj : cfg.clj = true) (hreg : opts.registry = none) {k : Nat} {ax : Val} {tokx rest : Bytes}
    (hd : d + 1 + k ≤ Tables.maxNestingDepth) (hx : FX cfg k ax tokx rest) (he : metaEntriesC ax = none) :
    SiteErrX cfg opts d dm (0x5E :: (tokx ++ rest))
      (mkErr .invalidSyntax (some ((tokx ++ rest).length + 1)) (some rest.length)) rest := .of_evals fun cl => by
  obtain ⟨m, rfl, hmr⟩ := fx_reads cfg opts hreg hx (d + 1) (by omega) dm cl
  have hme : metaEntries m = none := by
    have h1 := SndX.metaEntriesC_stripM m
    rw [he] at h1
    cases h : metaEntries m with
    | none => rfl
    | some p => rw [h] at h1; cases h1
  exact evals_meta hclj (by omega) (hmr.rule fun _ h1 => .meNoEntries h1 hme)

theorem site_ns_qualified (hclj : cfg.clj = true) {q ns nm rest : Bytes}
    (hd : d < Tables.maxNestingDepth) (hl : IdentLex (0x3A :: q)) (hden : IdentDenotes (0x3A :: q) (.kw hdr0 (some ns) nm))
    (hsep : DelimStart rest) :
    SiteErrX cfg opts d dm (0x23 :: 0x3A :: (q ++ rest))
      (mkErr .invalidSyntax (some ((q ++ rest).length + 2)) (some rest.length)) rest := .of_evals fun cl =>
  let ⟨_, hk⟩ := evals_kwPrefix (xctx cfg opts) d dm cl hl hden hsep
  evals_ns hclj hd (hk.rule fun _ h1 => .nBad h1 fun _ _ e => nomatch e)

theorem site_ns_noBrace (hclj : cfg.clj = true) {name x : Bytes}
    (hd : d < Tables.maxNestingDepth) (hl : IdentLex (0x3A :: name)) (hden : IdentDenotes (0x3A :: name) (.kw hdr0 none name))
    (hsep : DelimStart x) (hx : ∀ r, skipWs x ≠ 0x7B :: r) :
    SiteErrX cfg opts d dm (0x23 :: 0x3A :: (name ++ x))
      (mkErr .invalidSyntax (some ((name ++ x).length + 2)) (some (skipWs x).length)) (skipWs x) := .of_evals fun cl =>
  let ⟨_, hk⟩ := evals_kwPrefix (xctx cfg opts) d dm cl hl hden hsep
  evals_ns hclj hd (hk.rule fun _ h1 => .nNoBrace h1 hx)

theorem site_ns_other (hclj : cfg.clj = true) {name tr : Bytes} {c : UInt8} {rest : Bytes}
    (hd : d < Tables.maxNestingDepth) (hl : IdentLex (0x3A :: name)) (hden : IdentDenotes (0x3A :: name) (.kw hdr0 none name))
    (ht : Blank tr) (hsep : DelimStart (tr ++ c :: rest)) (hw : isPreWs c = false) (hc : c ≠ 0x7B) :
    SiteErrX cfg opts d dm (0x23 :: 0x3A :: (name ++ (tr ++ c :: rest)))
      (mkErr .invalidSyntax (some ((name ++ (tr ++ c :: rest)).length + 2)) (some (rest.length + 1))) (c :: rest) := by
  have hs : skipWs (tr ++ c :: rest) = c :: rest := by
    rw [skipWs_blank ht _]
    exact skipWs_nonws c rest hw
  have := site_ns_noBrace (opts := opts) (dm := dm) hclj hd hl hden hsep
    (by intro r hr; rw [hs] at hr; exact hc (List.cons.inj hr).1)
  rw [hs] at this
  exact this

theorem site_ns_end (hclj : cfg.clj = true) {name tr : Bytes}
    (hd : d < Tables.maxNestingDepth) (hl : IdentLex (0x3A :: name)) (hden : IdentDenotes (0x3A :: name) (.kw hdr0 none name))
    (ht : Blank tr) :
    SiteErrX cfg opts d dm (0x23 :: 0x3A :: (name ++ tr))
      (mkErr .invalidSyntax (some ((name ++ tr).length + 2)) (some 0)) [] := by
  have hs : skipWs tr = [] := by
    have := skipWs_blank ht []
    rw [List.append_nil] at this
    rw [this]
    rfl
  have hsep : DelimStart tr := by
    cases tr with
    | nil => exact .inl rfl
    | cons c0 t => exact .inr ⟨c0, t, rfl, (blank_head_term ht).2⟩
  have := site_ns_noBrace (opts := opts) (dm := dm) hclj hd hl hden hsep (by intro r hr; rw [hs] at hr; cases hr)
  rw [hs] at this
  exact this

end sites

/-- the range of the error is given in bytes remaining (`es`, `ee`) and reported as the offsets `so`, `eo` -/
theorem docClj_range (cfg : Cfg) (hclj : cfg.clj = true) (opts : Opts) (hreg : opts.registry = none)
    {s : Bytes} {c : Bool} {pre : Bytes} {d : Nat} {dm : Bool} (h : DescClj cfg s c 0 false pre d dm)
    (code : Err) (es ee so eo : Nat) (r : Bytes) (hs : SiteErrX cfg opts d dm s (mkErr code (some es) (some ee)) r)
    (hcode : code ≠ .unexpectedEof) (h1 : so + es = (pre ++ s).length) (h2 : eo + ee = (pre ++ s).length) :
    (read cfg opts (pre ++ s)).out = .error code (posOf (pre ++ s) so) (posOf (pre ++ s) eo) :=
  readX_range cfg opts _ code es ee so eo r (descClj_err cfg hclj opts hreg h _ r hs (Or.inr hcode)) hcode h1 h2

theorem fx_of_read (cfg : Cfg) (f d : Nat) (dm : Bool) (tok rest : Bytes) (hd : d ≤ Tables.maxNestingDepth) (P : Val → Bool)
    (h : (match readValue (xctx cfg {}) f d dm { rest := tok ++ rest } with
          | .ok v st' => st'.rest == rest && P (stripM v)
          | _ => false) = true) :
    ∃ k a, d + k ≤ Tables.maxNestingDepth ∧ FX cfg k a tok rest ∧ P a = true := by
  cases hr : readValue (xctx cfg {}) f d dm { rest := tok ++ rest } with
  | ok v st' =>
    rw [hr] at h
    simp only [Bool.and_eq_true, beq_iff_eq] at h
    obtain ⟨k, tok', hk, h1, -, h2⟩ := readValue_sound_X cfg {} rfl _ _ (numExact_of cfg) (strExact_of cfg) f d dm _ st' v hr hd
    rw [h.1] at h1 h2
    have : tok = tok' := List.append_cancel_right h1
    subst this
    exact ⟨k, _, hk, h2, h.2⟩
  | closer st' => rw [hr] at h; cases h
  | err e st' => rw [hr] at h; cases h

/-
  Cases of the defects (a), (b), (e) of `Edn.Properties.C19` that no theorem covers; the answers given are
  what the model computes on the inputs named.

  * (a)/(b) the end of the input *inside opened collections* (`c = true`): UNTERMINATED_COLLECTION from the
    innermost opener to the end (`[^`: 0..2, `[[^`: 1..3).  `descClj_err` excludes UNEXPECTED_EOF through
    `coll` / `nsBody`; the end-of-input variant of the transport theorem exists for `Desc` only
    (`Edn.Properties.C10.input_ends_in_collection_document`).  Flat contexts are covered:
    `marker_without_annotation_at_end_document`, `marker_without_target_at_end_document` (`Edn.Properties.C19`).
  * (e) `#:` followed by a token that is no identifier at all (`#:{`, `#: a{}`: the identifier reader's
    INVALID_SYNTAX 1..2): the error of `readIdentifier` passes through `readNsMap` unchanged; the site would
    be `identifier_outside_grammar_rejected` lifted.
  * (e) `#:name` followed by an unclosed comment at the end of the input (`#:a ;c`: INVALID_SYNTAX 0..6):
    `site_ns_noBrace` covers the site (hypothesis `skipWs x ≠ 0x7B :: r`); no document theorem states it.
-/

end Edn.Proofs.RejectDocClj
