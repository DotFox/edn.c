/-
  Identifier tokens, exactly (C03, token level).  The scanner on a maximal run of non-delimiter bytes
  (`scanIdent_tok`, `scanIdent_cc`); its split of the run is the specification's (`identSplit_eq`); so
  `readIdentifier` on a token is a function of `splitIdent` (`readIdentifier_tok`), and both directions are
  case analyses on the split: a token that `IdentDenotes` classifies is read as what it denotes
  (`readIdentifier_complete`), every other run is turned down (`readIdentifier_rejected`), and soundness
  from any cursor is the two together (`readIdentifier_sound`).
-/
import Edn.Spec.IdentLit
import Edn.Proofs.Ite
import Edn.Proofs.Scan
import Edn.Proofs.LeafSpec

namespace Edn.Proofs
open Edn.Model Edn.Spec

theorem IdentLex.ofTok {tok : Bytes} (h : IdentTok tok) : IdentLex tok := ⟨h.nonempty, h.nodelim, h.nocolons⟩

/-- no `::` in the token, given whether the previous byte was a colon -/
def noCC : Bool → Bytes → Bool
  | _, [] => true
  | prev, c :: cs => !(c == 0x3A && prev) && noCC (c == 0x3A) cs

theorem noCC_of_not_infix (prev : Bool) (tok : Bytes) (h : ¬ [0x3A, 0x3A] <:+: tok)
    (hp : prev = true → tok.head? ≠ some 0x3A) : noCC prev tok = true := by
  induction tok generalizing prev with
  | nil => rfl
  | cons c cs ih =>
    rw [noCC, Bool.and_eq_true]
    constructor
    · cases prev with
      | false => simp
      | true =>
        have := hp rfl
        simp only [List.head?_cons, ne_eq, Option.some.injEq] at this
        simp [this]
    · apply ih
      · intro hh
        exact h (List.IsInfix.trans hh (List.suffix_cons c cs).isInfix)
      · intro hc hcs
        apply h
        simp only [beq_iff_eq] at hc
        cases cs with
        | nil => simp at hcs
        | cons e es =>
          simp only [List.head?_cons, Option.some.injEq] at hcs
          subst hc; subst hcs
          exact ⟨[], es, by simp⟩

theorem noCC_infix (prev : Bool) (tok : Bytes) (h : [0x3A, 0x3A] <:+: tok) : noCC prev tok = false := by
  induction tok generalizing prev with
  | nil =>
    obtain ⟨a, b, hab⟩ := h
    simp at hab
  | cons c cs ih =>
    rw [noCC]
    rcases List.infix_cons_iff.mp h with hp | hi
    · obtain ⟨t, ht⟩ := hp
      simp only [List.cons_append, List.nil_append, List.cons.injEq] at ht
      obtain ⟨rfl, rfl⟩ := ht
      simp [noCC]
    · rw [ih _ hi]; simp

/-- the scanner on a run of non-delimiter bytes before a delimiter or the end: its length, its first
    slash, and whether it contains `::` -/
theorem scanIdentRawAux_run (tok rest : Bytes) (hr : DelimStart rest) :
    ∀ (i : Nat) (sl : Option Nat) (prev col : Bool), (∀ c ∈ tok, isDelim c = false) →
      scanIdentRawAux i sl prev col (tok ++ rest) =
        ⟨i + tok.length,
         match sl with
         | some k => some k
         | none => (tok.idxOf? 0x2F).map (· + i),
         col || !noCC prev tok⟩ := by
  induction tok with
  | nil =>
    intro i sl prev col _
    rcases hr with hr | ⟨c, t, hr, hc⟩
    · subst hr
      cases sl <;> simp [scanIdentRawAux, noCC]
    · subst hr
      cases sl <;> simp [scanIdentRawAux, noCC, hc]
  | cons c cs ih =>
    intro i sl prev col hnd
    have hdc : isDelim c = false := hnd c (by simp)
    rw [List.cons_append, scanIdentRawAux]
    simp only [hdc, Bool.false_eq_true, ↓reduceIte]
    rw [ih _ _ _ _ (fun x hx => hnd x (by simp [hx])), noCC]
    congr 1
    · simp only [List.length_cons]; omega
    · cases sl with
      | some k => simp
      | none =>
        simp only [Option.isNone_none, Bool.and_true, List.idxOf?_cons]
        by_cases h2f : c = 0x2F
        · subst h2f; simp
        · have : (c == 0x2F) = false := by simpa using h2f
          simp only [this, Bool.false_eq_true, ↓reduceIte]
          cases List.idxOf? 0x2F cs with
          | none => simp
          | some k => simp; omega
    · cases col <;> cases (c == 0x3A && prev) <;> cases noCC (c == 0x3A) cs <;> rfl

theorem scanIdent_tok (tok rest : Bytes) (hr : DelimStart rest) (hnd : ∀ c ∈ tok, isDelim c = false)
    (hcc : ¬ [0x3A, 0x3A] <:+: tok) :
    scanIdent (tok ++ rest) = identSplit tok.length (tok.idxOf? 0x2F) := by
  rw [scanIdent_eq_spec]
  unfold scanIdentSpec scanIdentRaw
  rw [scanIdentRawAux_run tok rest hr 0 none false false hnd, noCC_of_not_infix false tok hcc (by simp)]
  simp

theorem scanIdent_cc (tok rest : Bytes) (hr : DelimStart rest) (hnd : ∀ c ∈ tok, isDelim c = false)
    (hcc : [0x3A, 0x3A] <:+: tok) : (scanIdent (tok ++ rest)).valid = false := by
  rw [scanIdent_eq_spec]
  unfold scanIdentSpec scanIdentRaw
  rw [scanIdentRawAux_run tok rest hr 0 none false false hnd, noCC_infix false tok hcc]
  rfl

theorem idxOf?_lt {tok : Bytes} {a : UInt8} {k : Nat} (h : tok.idxOf? a = some k) : k < tok.length := by
  unfold List.idxOf? at h
  rw [List.findIdx?_eq_some_iff_getElem] at h
  exact h.1

theorem len_ne_one_of_slash {tok : Bytes} {k : Nat} (h1 : tok ≠ [0x2F]) (hidx : tok.idxOf? 0x2F = some k) :
    tok.length ≠ 1 := by
  intro hl
  match tok, hl with
  | [c], _ =>
    rw [List.idxOf?_cons] at hidx
    by_cases hc : c = 0x2F
    · subst hc; exact h1 rfl
    · have : (c == 0x2F) = false := by simpa using hc
      simp [this] at hidx

/-- the scanner's split of a token is the specification's: `identSplit` works on the length and the
    index of the first slash, `splitIdent` on the bytes -/
theorem identSplit_eq {tok : Bytes} (hne : tok ≠ []) :
    identSplit tok.length (tok.idxOf? 0x2F) =
      match splitIdent tok with
      | none => { valid := false }
      | some (none, _) => { valid := true, len := tok.length, ns := none, nameOff := 0, nameLen := tok.length }
      | some (some ns, nm) =>
        { valid := true, len := tok.length, ns := some ns.length, nameOff := ns.length + 1, nameLen := nm.length } := by
  have hlen : (tok.length == 0) = false := beq_false_of_ne fun h => hne (List.eq_nil_of_length_eq_zero h)
  by_cases h1 : tok = [0x2F]
  · subst h1; rfl
  have hb : (tok == [0x2F]) = false := beq_false_of_ne h1
  unfold identSplit splitIdent
  cases hidx : tok.idxOf? 0x2F with
  | none => simp only [hlen, hb, Bool.false_eq_true, if_false]
  | some k =>
    have hk := idxOf?_lt hidx
    have hl1 : (tok.length == 1) = false := beq_false_of_ne (len_ne_one_of_slash h1 hidx)
    simp only [hlen, hb, hl1, Bool.false_eq_true, if_false]
    by_cases hk0 : k = 0
    · simp [hk0]
    by_cases hkl : k = tok.length - 1
    · simp [← hkl, hk0]
    · simp [hk0, hkl, List.length_take, Nat.min_eq_left (Nat.le_of_lt hk)]

theorem splitIdent_plain {tok nm : Bytes} (h : splitIdent tok = some (none, nm)) : nm = tok := by
  rcases ite_eq_elim h with ⟨_, h⟩ | ⟨_, h⟩
  · cases h; rfl
  · cases hidx : tok.idxOf? 0x2F with
    | none => rw [hidx] at h; cases h; rfl
    | some k => rw [hidx] at h; rcases ite_eq_elim h with ⟨_, h⟩ | ⟨_, h⟩ <;> cases h

theorem splitIdent_qualified {tok ns nm : Bytes} (h : splitIdent tok = some (some ns, nm)) :
    tok = ns ++ 0x2F :: nm ∧ ns ≠ [] := by
  rcases ite_eq_elim h with ⟨_, h⟩ | ⟨_, h⟩
  · cases h
  · cases hidx : tok.idxOf? 0x2F with
    | none => rw [hidx] at h; cases h
    | some k =>
      rw [hidx] at h
      rcases ite_eq_elim h with ⟨_, h⟩ | ⟨hk, h⟩
      · cases h
      · cases h
        unfold List.idxOf? at hidx
        obtain ⟨hlt, hx, -⟩ := List.findIdx?_eq_some_iff_getElem.mp hidx
        simp only [Bool.or_eq_true, beq_iff_eq, not_or] at hk
        refine ⟨?_, fun e => hk.1 ?_⟩
        · rw [← eq_of_beq hx, List.getElem_cons_drop, List.take_append_drop]
        · have := congrArg List.length e
          rw [List.length_take, Nat.min_eq_left (Nat.le_of_lt hlt)] at this
          exact this

theorem idxOf?_slash_colon_cons (tok : Bytes) :
    List.idxOf? 0x2F (0x3A :: tok) = (tok.idxOf? 0x2F).map (· + 1) := by
  rw [List.idxOf?_cons]
  have : ((0x3A : UInt8) == 0x2F) = false := by decide
  simp only [this, Bool.false_eq_true, ↓reduceIte]

theorem strBytes_eq (t : String) : strBytes t = t.toUTF8.toList := rfl

theorem nil_bytes : "nil".toUTF8.toList = [0x6E, 0x69, 0x6C] := by decide +kernel
theorem true_bytes : "true".toUTF8.toList = [0x74, 0x72, 0x75, 0x65] := by decide +kernel
theorem false_bytes : "false".toUTF8.toList = [0x66, 0x61, 0x6C, 0x73, 0x65] := by decide +kernel

theorem peek_ne_colon {tok : Bytes} (hne : tok ≠ []) (hc : tok.head? ≠ some 0x3A) : (peek tok == 0x3A) = false := by
  cases tok with
  | nil => exact absurd rfl hne
  | cons c t =>
    simp only [List.head?_cons, ne_eq, Option.some.injEq] at hc
    simpa [peek_cons] using hc

/-- a colon in front shifts the split.  The one exception: with the slash right behind the colon the
    token still splits (namespace `:`); it is `readIdentifier` that turns the empty keyword namespace down. -/
theorem splitIdent_colon {body : Bytes} (hsl : body ≠ [0x2F]) :
    splitIdent (0x3A :: body) =
      match splitIdent body with
      | some (none, _) => some (none, 0x3A :: body)
      | some (some ns, nm) => some (some (0x3A :: ns), nm)
      | none => if body.idxOf? 0x2F = some 0 then some (some [0x3A], body.tail) else none := by
  have hb : (body == [0x2F]) = false := beq_false_of_ne hsl
  have hb' : ((0x3A :: body) == [0x2F]) = false := beq_false_of_ne fun h => absurd (List.cons.inj h).1 (by decide)
  unfold splitIdent
  rw [idxOf?_slash_colon_cons]
  cases hidx : body.idxOf? 0x2F with
  | none => simp only [hb, hb', Bool.false_eq_true, if_false, Option.map_none]
  | some k =>
    have hk := idxOf?_lt hidx
    have hl1 := len_ne_one_of_slash hsl hidx
    simp only [hb, hb', Bool.false_eq_true, if_false, Option.map_some, List.length_cons]
    by_cases hk0 : k = 0
    · subst hk0
      have : ¬ (1 = body.length) := fun h => hl1 h.symm
      simp [this, List.drop_one]
    by_cases hkl : k = body.length - 1
    · have : k + 1 = body.length := by omega
      simp [← hkl, hk0, this]
    · have : ¬ (k + 1 = body.length) := by omega
      simp [hk0, hkl, this]

theorem readIdentifier_tok (ctx : Ctx) (tok rest : Bytes) (cl : List Call) (hr : DelimStart rest) (hl : IdentLex tok) :
    readIdentifier ctx { rest := tok ++ rest, calls := cl } =
      (let n := (tok ++ rest).length
       let h := mkHdr n rest.length
       let st' : St := { rest := rest, calls := cl }
       let serr : Res := .err (mkErr .invalidSyntax (some n) (some rest.length)) st'
       match splitIdent tok with
       | none => .err (mkErr .invalidSyntax (some n) (some n)) { rest := tok ++ rest, calls := cl }
       | some (none, _) =>
         if peek tok == 0x3A then
           if tok.tail.isEmpty then serr else if peek tok.tail == 0x3A then serr else .ok (.kw h none tok.tail) st'
         else if tok == strBytes "nil" then .ok (.nil h) st'
         else if tok == strBytes "true" then .ok (.bool h true) st'
         else if tok == strBytes "false" then .ok (.bool h false) st'
         else .ok (.sym h none none tok) st'
       | some (some ns, nm) =>
         if peek ns == 0x3A then
           if ns.tail.isEmpty then serr else if peek ns.tail == 0x3A then serr else .ok (.kw h (some ns.tail) nm) st'
         else .ok (.sym h none (some ns) nm) st') := by
  obtain ⟨hne, hnd, hcc⟩ := hl
  have hsc := (scanIdent_tok tok rest hr hnd hcc).trans (identSplit_eq hne)
  unfold readIdentifier
  cases hsp : splitIdent tok with
  | none =>
    rw [hsp] at hsc
    simp only [Ctx.pos, hsc, Bool.not_false, if_true]
  | some p =>
    obtain ⟨ns, nm⟩ := p
    rw [hsp] at hsc
    cases ns with
    | none => simp only [Ctx.pos, hsc, Bool.not_true, Bool.false_eq_true, if_false, List.take_left', List.drop_left']
    | some ns =>
      obtain ⟨rfl, -⟩ := splitIdent_qualified hsp
      have hnm : ((ns ++ 0x2F :: nm).drop (ns.length + 1)).take nm.length = nm := by simp
      simp only [Ctx.pos, hsc, Bool.not_true, Bool.false_eq_true, if_false, List.take_left', List.drop_left', hnm]

theorem peek_prefix_ne_colon {ns t : Bytes} (hns : ns ≠ []) (hc : (ns ++ t).head? ≠ some 0x3A) :
    (peek ns == 0x3A) = false :=
  peek_ne_colon hns (by
    cases ns with
    | nil => exact absurd rfl hns
    | cons _ _ => exact hc)

theorem readIdentifier_complete (ctx : Ctx) (tok rest : Bytes) (cl : List Call) (a : Val)
    (hl : IdentLex tok) (hr : rest = [] ∨ ∃ c t, rest = c :: t ∧ isDelim c = true) (hd : IdentDenotes tok a) :
    ∃ v, readIdentifier ctx { rest := tok ++ rest, calls := cl } = .ok v { rest := rest, calls := cl } ∧ strip v = a := by
  rw [readIdentifier_tok ctx tok rest cl hr hl]
  rcases hd with ⟨rfl, rfl⟩ | ⟨rfl, rfl⟩ | ⟨rfl, rfl⟩ | ⟨body, ns, nm, rfl, hne, hc, hsl, hsp, rfl⟩ |
    ⟨hc, h1, h2, h3, ns, nm, hsp, rfl⟩
  · simp only [strBytes_eq, nil_bytes]
    exact ⟨_, rfl, rfl⟩
  · simp only [strBytes_eq, nil_bytes, true_bytes]
    exact ⟨_, rfl, rfl⟩
  · simp only [strBytes_eq, nil_bytes, true_bytes, false_bytes]
    exact ⟨_, rfl, rfl⟩
  · have hpk := peek_ne_colon hne hc
    rw [splitIdent_colon hsl, hsp]
    cases ns with
    | none =>
      have hemp : body.isEmpty = false := by simpa using hne
      obtain rfl := splitIdent_plain hsp
      simp only [peek_cons, List.tail_cons, hemp, hpk, BEq.rfl, Bool.false_eq_true, if_true, if_false]
      exact ⟨_, rfl, rfl⟩
    | some ns =>
      obtain ⟨rfl, hns⟩ := splitIdent_qualified hsp
      have hemp : ns.isEmpty = false := by simpa using hns
      simp only [peek_cons, List.tail_cons, hemp, peek_prefix_ne_colon hns hc, BEq.rfl, Bool.false_eq_true, if_true,
        if_false]
      exact ⟨_, rfl, rfl⟩
  · rw [hsp]
    cases ns with
    | none =>
      obtain rfl := splitIdent_plain hsp
      simp only [peek_ne_colon hl.1 hc, strBytes_eq, beq_false_of_ne h1, beq_false_of_ne h2, beq_false_of_ne h3,
        Bool.false_eq_true, if_false]
      exact ⟨_, rfl, rfl⟩
    | some ns =>
      obtain ⟨rfl, hns⟩ := splitIdent_qualified hsp
      simp only [peek_prefix_ne_colon hns hc, Bool.false_eq_true, if_false]
      exact ⟨_, rfl, rfl⟩

theorem identTok_of_checks (c : UInt8) (t : Bytes)
    (h1 : (c :: t).all (fun x => !isDelim x) = true)
    (h2 : ¬ [0x3A, 0x3A] <:+: (c :: t))
    (h3 : (c != 0x5E && !is09 c && c != 0x2B && c != 0x2D) = true) : IdentTok (c :: t) := by
  refine ⟨by simp, ?_, h2, ?_⟩
  · intro x hx
    have := List.all_eq_true.mp h1 x hx
    simpa using this
  · intro c' t' h
    simp only [List.cons.injEq] at h
    obtain ⟨rfl, rfl⟩ := h
    simp only [Bool.and_eq_true, bne_iff_ne, ne_eq, Bool.not_eq_true'] at h3
    obtain ⟨⟨⟨h5e, h09⟩, hp⟩, hm⟩ := h3
    refine ⟨h5e, ?_, ?_⟩
    · rw [← is09_iff]; simp [h09]
    · rintro (h | h)
      · exact absurd h hp
      · exact absurd h hm

theorem scanIdent_empty (rest : Bytes) (hr : DelimStart rest) : (scanIdent rest).valid = false := by
  have := scanIdent_tok [] rest hr (by simp) (by
    rintro ⟨a, b, hab⟩
    simp at hab)
  simp only [List.nil_append] at this
  rw [this]
  simp [identSplit]

theorem readIdentifier_invalid (ctx : Ctx) (s : Bytes) (cl : List Call) (h : (scanIdent s).valid = false) :
    readIdentifier ctx { rest := s, calls := cl } =
      .err (mkErr .invalidSyntax (some s.length) (some s.length)) { rest := s, calls := cl } := by
  unfold readIdentifier
  simp only [h, Bool.not_false, ↓reduceIte, Ctx.pos]

theorem lex_tail {c : UInt8} {t : Bytes} (h : IdentLex (c :: t)) (hne : t ≠ []) : IdentLex t :=
  ⟨hne, fun x hx => h.2.1 x (by simp [hx]),
    fun hh => h.2.2 (List.IsInfix.trans hh (List.suffix_cons c t).isInfix)⟩

theorem lex_colon_head {t : Bytes} (h : IdentLex (0x3A :: t)) : t.head? ≠ some 0x3A := by
  intro hh
  cases t with
  | nil => simp at hh
  | cons d u =>
    simp only [List.head?_cons, Option.some.injEq] at hh
    subst hh
    exact h.2.2 ⟨[], u, by simp⟩

/-- a run of non-delimiter bytes that is no identifier token: `invalidSyntax`, the range starting at the
    run, whatever the call log -/
theorem readIdentifier_rejected (ctx : Ctx) (tok rest : Bytes)
    (hne : ∀ c ∈ tok, isDelim c = false) (hr : DelimStart rest)
    (hbad : ¬ (IdentLex tok ∧ ∃ a, IdentDenotes tok a)) :
    ∃ b r, ∀ cl, readIdentifier ctx { rest := tok ++ rest, calls := cl } =
      .err (mkErr .invalidSyntax (some (tok ++ rest).length) (some b)) { rest := r, calls := cl } := by
  by_cases hemp : tok = []
  · subst hemp
    exact ⟨_, _, fun cl => readIdentifier_invalid ctx _ cl (scanIdent_empty rest hr)⟩
  by_cases hcc : [0x3A, 0x3A] <:+: tok
  · exact ⟨_, _, fun cl => readIdentifier_invalid ctx _ cl (scanIdent_cc tok rest hr hne hcc)⟩
  have hl : IdentLex tok := ⟨hemp, hne, hcc⟩
  have hno : ∀ a, ¬ IdentDenotes tok a := fun a ha => hbad ⟨hl, a, ha⟩
  -- every split that `IdentDenotes` does not classify is an error branch of `readIdentifier_tok`
  have T := fun cl => readIdentifier_tok ctx tok rest cl hr hl
  by_cases hc : tok.head? = some 0x3A
  · obtain ⟨body, rfl⟩ : ∃ body, tok = 0x3A :: body := by
      cases tok with
      | nil => simp at hc
      | cons c t =>
        simp only [List.head?_cons, Option.some.injEq] at hc
        exact ⟨t, by rw [hc]⟩
    by_cases hb : body = []
    · subst hb; exact ⟨_, _, fun cl => (T cl).trans rfl⟩
    by_cases hs : body = [0x2F]
    · subst hs; exact ⟨_, _, fun cl => (T cl).trans rfl⟩
    rw [splitIdent_colon hs] at T
    cases hsp : splitIdent body with
    | none =>
      -- the slash right behind the colon, or at the end
      rw [hsp] at T
      by_cases h0 : body.idxOf? 0x2F = some 0
      · rw [if_pos h0] at T; exact ⟨_, _, fun cl => (T cl).trans rfl⟩
      · rw [if_neg h0] at T; exact ⟨_, _, fun cl => (T cl).trans rfl⟩
    | some p =>
      exact absurd (.inr (.inr (.inr (.inl ⟨body, p.1, p.2, rfl, hb, lex_colon_head hl, hs, hsp, rfl⟩))))
        (hno (.kw hdr0 p.1 p.2))
  · cases hsp : splitIdent tok with
    | none => rw [hsp] at T; exact ⟨_, _, fun cl => (T cl).trans rfl⟩
    | some p =>
      by_cases h1 : tok = "nil".toUTF8.toList
      · exact absurd (.inl ⟨h1, rfl⟩) (hno (.nil hdr0))
      by_cases h2 : tok = "true".toUTF8.toList
      · exact absurd (.inr (.inl ⟨h2, rfl⟩)) (hno (.bool hdr0 true))
      by_cases h3 : tok = "false".toUTF8.toList
      · exact absurd (.inr (.inr (.inl ⟨h3, rfl⟩))) (hno (.bool hdr0 false))
      exact absurd (.inr (.inr (.inr (.inr ⟨hc, h1, h2, h3, p.1, p.2, hsp, rfl⟩))))
        (hno (.sym hdr0 none p.1 p.2))

theorem readIdentifier_rejects (ctx : Ctx) (tok rest : Bytes) (cl : List Call)
    (hne : ∀ c ∈ tok, isDelim c = false) (hr : rest = [] ∨ ∃ c t, rest = c :: t ∧ isDelim c = true)
    (hbad : ¬ (IdentLex tok ∧ ∃ a, IdentDenotes tok a)) :
    ∃ e st', readIdentifier ctx { rest := tok ++ rest, calls := cl } = .err e st' ∧ e.code = .invalidSyntax :=
  (readIdentifier_rejected ctx tok rest hne hr hbad).elim fun _ h => h.elim fun _ h => ⟨_, _, h cl, rfl⟩

theorem split_at_delim (s : Bytes) :
    ∃ tok rest, s = tok ++ rest ∧ (∀ c ∈ tok, isDelim c = false) ∧
      (rest = [] ∨ ∃ c t, rest = c :: t ∧ isDelim c = true) := by
  induction s with
  | nil => exact ⟨[], [], rfl, by simp, .inl rfl⟩
  | cons c cs ih =>
    cases hd : isDelim c with
    | true => exact ⟨[], c :: cs, rfl, by simp, .inr ⟨c, cs, rfl, hd⟩⟩
    | false =>
      obtain ⟨tok, rest, h1, h2, h3⟩ := ih
      refine ⟨c :: tok, rest, by rw [h1]; rfl, ?_, h3⟩
      intro x hx
      rcases List.mem_cons.mp hx with rfl | hx
      · exact hd
      · exact h2 x hx

theorem readIdentifier_sound (ctx : Ctx) (st st' : St) (v : Val) (h : readIdentifier ctx st = .ok v st') :
    ∃ tok, st.rest = tok ++ st'.rest ∧ st'.calls = st.calls ∧ IdentLex tok ∧
      (st'.rest = [] ∨ ∃ c t, st'.rest = c :: t ∧ isDelim c = true) ∧ IdentDenotes tok (strip v) := by
  obtain ⟨s, cl⟩ := st
  obtain ⟨tok, rest, rfl, hnd, hr⟩ := split_at_delim s
  by_cases hgood : IdentLex tok ∧ ∃ a, IdentDenotes tok a
  · obtain ⟨hl, a, hd⟩ := hgood
    obtain ⟨v', hv', hsv⟩ := readIdentifier_complete ctx tok rest cl a hl hr hd
    rw [hv'] at h
    injection h with hv hst
    subst hv; subst hst
    exact ⟨tok, rfl, rfl, hl, hr, by rw [hsv]; exact hd⟩
  · obtain ⟨_, _, he⟩ := readIdentifier_rejected ctx tok rest hnd hr hgood
    rw [he cl] at h
    cases h

/-- the kinds of value an identifier token denotes, read off `IdentDenotes` -/
theorem readIdentifier_ok {ctx : Ctx} {st st' : St} {v : Val} (h : readIdentifier ctx st = .ok v st') :
    (∃ hd, v = .nil hd) ∨ (∃ hd b, v = .bool hd b) ∨ (∃ hd ns nm, v = .kw hd ns nm) ∨
      (∃ hd ns nm, v = .sym hd none ns nm ∧ (peek st.rest == 0x3A) = false) := by
  obtain ⟨tok, hs, -, hlex, -, hden⟩ := readIdentifier_sound ctx st st' v h
  rw [leaf_eq ((readIdentifier_leafRes ctx st).ok_leaf h).1]
  generalize v.hdr = hd
  rcases hden with ⟨-, e⟩ | ⟨-, e⟩ | ⟨-, e⟩ | ⟨_, _, _, -, -, -, -, -, e⟩ | ⟨hc, -, -, -, _, _, -, e⟩ <;> rw [e]
  · exact .inl ⟨_, rfl⟩
  · exact .inr (.inl ⟨_, _, rfl⟩)
  · exact .inr (.inl ⟨_, _, rfl⟩)
  · exact .inr (.inr (.inl ⟨_, _, _, rfl⟩))
  · refine .inr (.inr (.inr ⟨_, _, _, rfl, ?_⟩))
    have hp : peek (tok ++ st'.rest) = peek tok := by
      cases tok with
      | nil => exact absurd rfl hlex.1
      | cons _ _ => rfl
    rw [hs, hp]
    exact peek_ne_colon hlex.1 hc

end Edn.Proofs
