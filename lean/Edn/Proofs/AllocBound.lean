/-
  C02: how many allocation requests a fault-free read makes.  Under `Hyp x input N ℓ`
  (Edn.Proofs.AllocBoundLeaf: no request fails, no registry, a look costs at most `ℓ`)

      (readA cfg opts orc input …).ast.reqs ≤ N + Pot ℓ input.length + input.length / 64 + 8.

  With free looks (`ℓ = 0`, `N = input.length + 1`) this is `5 * input.length + input.length / 64 + 9`,
  provided every string literal of the input has escapes that decode (`stringsDecode`; `superDoc` below
  shows that the hypothesis is necessary).  Where the constants come from:

  * `edn_arena_create`: 2.
  * every byte consumed pays for 4 requests: a leaf value makes at most 2 (the value; the heap copy
    of a long float literal) and a text block at most 2 per line plus 3; an element of a sequence
    one more (growth of the builder), a map entry three more (rewritten key, two arrays of the map
    builder), `^` five more (metadata map, its entry of three, or entry and two merged arrays), `#tag`
    one more; the closing delimiter of a collection four (final array(s), scratch array of the
    duplicate check, the collection value).
  * lazily materialised payloads (decoded text of a string literal with escapes, digits of a big
    number without underscores) are requested by the duplicate check / metadata merge at most once
    per value thanks to `ASt.bufs`: `input.length + 1` names at most.
  * error path: temporary arena 2, line index 2, one doubling of the offsets array per 64 · 2^k line
    feeds: at most `input.length / 64` (in fact logarithmically many).
-/
import Edn.Proofs.AllocBoundReaders
import Edn.Proofs.Scan

namespace Edn.Proofs.AllocBound
open Edn.Model Edn.Proofs Edn.Proofs.AllocBasic

/-- at every `"` of the input: if the string scanner finds the closing quote and reports escapes,
    they decode -/
def stringsDecode (cfg : Cfg) : Bytes → Bool
  | [] => true
  | c :: r =>
    (if c == 0x22 then
      match findQuote r with
      | some (q, true) => (decodeString cfg ((slice r q).length + 1) (slice r q)).isSome
      | _ => true
    else true) && stringsDecode cfg r

theorem stringsDecode_ok (cfg : Cfg) (input : Bytes) (h : stringsDecode cfg input = true) : StrOK cfg input := by
  induction input with
  | nil =>
    intro r q hs _
    have := hs.length_le
    simp at this
  | cons c t ih =>
    unfold stringsDecode at h
    simp only [Bool.and_eq_true] at h
    intro r q hs hq
    rcases List.suffix_cons_iff.mp hs with heq | hs'
    · cases heq
      have h1 := h.1
      simp only [beq_self_eq_true, ↓reduceIte, hq] at h1
      exact h1
    · exact ih h.2 r q hs' hq

/-- without a backslash the string scanner reports no escapes -/
theorem strOK_of_noBackslash (cfg : Cfg) (input : Bytes) (h : ∀ c ∈ input, c ≠ 0x5C) : StrOK cfg input := by
  intro r q hs hq
  obtain ⟨sp, t, -, rfl, -, he⟩ := (findQuote_some_iff _ _ _).mp hq
  rw [eq_comm, List.contains_iff_mem] at he
  exact absurd rfl (h _ (hs.subset (List.mem_cons_of_mem _ (List.mem_append_left _ he))))

/-- the offsets array doubles: `R` requests need `R * cap` line feeds -/
theorem lineGrowA_reqs (orc : Nat → Bool) : ∀ (n count cap : Nat) (a : ASt), 0 < cap →
    ∃ R, (lineGrowA orc n count cap a).2.reqs = a.reqs + R ∧ R * cap ≤ n + count := by
  intro n
  induction n with
  | zero => intro count cap a _; exact ⟨0, rfl, by omega⟩
  | succ n ih =>
    intro count cap a hcap
    unfold lineGrowA
    split
    · next hge =>
      have hr := request_reqs orc .arenaTmp a 0
      rcases hq : a.request orc .arenaTmp with ⟨ok, a1⟩
      rw [hq] at hr
      dsimp only at hr ⊢
      cases ok
      · exact ⟨1, by simp only [Bool.not_false, ↓reduceIte]; exact hr, by omega⟩
      · simp only [Bool.not_true, Bool.false_eq_true, ↓reduceIte]
        obtain ⟨R', hR, hle⟩ := ih (count + 1) (cap * 2) a1 (by omega)
        refine ⟨1 + R', by rw [hR, hr]; omega, ?_⟩
        rw [Nat.add_mul, Nat.one_mul]
        rw [← Nat.mul_assoc] at hle
        rcases Nat.eq_zero_or_pos R' with h0 | hpos
        · subst h0; omega
        · have : cap ≤ R' * cap := Nat.le_mul_of_pos_left cap hpos
          omega
    · obtain ⟨R, hR, hle⟩ := ih (count + 1) cap a hcap
      exact ⟨R, hR, by omega⟩

theorem lfPositionsScalar_length (i : Nat) (s : Bytes) : (lfPositionsScalar i s).length ≤ s.length := by
  rw [lfPositionsScalar_eq, List.length_map]
  exact Nat.le_trans (List.length_filter_le _ _) (Nat.le_of_eq List.length_zipIdx)

theorem lineIndexA_reqs (orc : Nat → Bool) (input : Bytes) (a : ASt) :
    (lineIndexA orc input a).2.reqs ≤ a.reqs + 4 + input.length / 64 := by
  unfold lineIndexA
  have h0 := (arenaCreate_reqs orc true a).2
  rcases hq0 : a.arenaCreate orc true with ⟨okA, a1⟩
  rw [hq0] at h0
  dsimp only at h0 ⊢
  cases okA
  · simp only [Bool.not_false, ↓reduceIte]; omega
  · simp only [Bool.not_true, Bool.false_eq_true, ↓reduceIte]
    have h1 := request_reqs orc .arenaTmp a1 0
    rcases hq1 : a1.request orc .arenaTmp with ⟨okP, a2⟩
    rw [hq1] at h1
    dsimp only at h1 ⊢
    cases okP
    · simp only [Bool.not_false, ↓reduceIte, arenaDestroy_reqs]; omega
    · simp only [Bool.not_true, Bool.false_eq_true, ↓reduceIte]
      have h2 := request_reqs orc .arenaTmp a2 0
      rcases hq2 : a2.request orc .arenaTmp with ⟨okO, a3⟩
      rw [hq2] at h2
      dsimp only at h2 ⊢
      cases okO
      · simp only [Bool.not_false, ↓reduceIte, arenaDestroy_reqs]; omega
      · simp only [Bool.not_true, Bool.false_eq_true, ↓reduceIte, arenaDestroy_reqs]
        obtain ⟨R, hR, hle⟩ := lineGrowA_reqs orc (lfPositions input).length 0
          Edn.Generated.Tables.newlineInitialCapacity a3 (by decide)
        have hlf : (lfPositions input).length ≤ input.length := by
          rw [lfPositions_eq]; exact lfPositionsScalar_length 0 input
        -- only `64 ≤ capacity` is used: a larger initial capacity (a tuning constant) keeps the bound
        have hcap : 64 ≤ Edn.Generated.Tables.newlineInitialCapacity := by decide
        have hle64 : R * 64 ≤ (lfPositions input).length + 0 :=
          Nat.le_trans (Nat.mul_le_mul_left R hcap) hle
        rw [hR]
        omega

theorem readA_reqs_le (cfg : Cfg) (opts : Opts) (orc : Nat → Bool) (input : Bytes)
    (grow : Nat → Nat) (handlerReq : String → Bool) (sortTouch : Nat → List Nat) :
    (readA cfg opts orc input grow handlerReq sortTouch).ast.reqs ≤
      (readValueA ⟨⟨cfg, opts⟩, orc, grow, handlerReq, sortTouch⟩ (readFuel input) 0 false { rest := input }
        (({} : ASt).arenaCreate orc false).2).2.reqs + 4 + input.length / 64 := by
  rcases readA_cases cfg opts orc input grow handlerReq sortTouch with ⟨_, _, _, _, e⟩ | ⟨_, e⟩ | ⟨_, e⟩ <;> rw [e]
  · omega
  · omega
  · rw [errorExit_reqs]
    exact lineIndexA_reqs orc input _

/-- `N` is the number of value names whose lazily materialised payload is requested once only -/
theorem readA_reqs_bound (cfg : Cfg) (opts : Opts) (orc : Nat → Bool) (input : Bytes)
    (grow : Nat → Nat) (handlerReq : String → Bool) (sortTouch : Nat → List Nat) (N ℓ : Nat)
    (H : Hyp ⟨⟨cfg, opts⟩, orc, grow, handlerReq, sortTouch⟩ input N ℓ) :
    (readA cfg opts orc input grow handlerReq sortTouch).ast.reqs
      ≤ N + Pot ℓ input.length + input.length / 64 + 8 := by
  have hc0 := (arenaCreate_reqs orc false ({} : ASt)).2
  have ha0 := (Edn.Proofs.AllocSim.arenaCreate_nofault orc H.orc false ({} : ASt)).2 rfl
  have hv := ((readers_bound H (readFuel input)).1 0 false { rest := input } _ ha0 (List.suffix_refl _)).reqs_le
  have hpsi := Psi_le N (({} : ASt).arenaCreate orc false).2.bufs
  have := readA_reqs_le cfg opts orc input grow handlerReq sortTouch
  dsimp only at hc0 hv
  omega

/-- **C02, allocation requests**, for an input whose string literals all have decodable escapes: in
    every configuration, for every growth rule of the builders and every `qsort` contact order. -/
theorem readA_reqs_linear (cfg : Cfg) (opts : Opts) (orc : Nat → Bool) (input : Bytes)
    (grow : Nat → Nat) (handlerReq : String → Bool) (sortTouch : Nat → List Nat)
    (horc : ∀ n, orc n = false) (hreg : opts.registry = none) (hstr : StrOK cfg input) :
    (readA cfg opts orc input grow handlerReq sortTouch).ast.reqs ≤ 5 * input.length + input.length / 64 + 9 := by
  have h := readA_reqs_bound cfg opts orc input grow handlerReq sortTouch (input.length + 1) 0
    ⟨horc, hreg, fun _ => Nat.lt_succ_self _, fun _ => hstr,
     fun _ => by simp only [Nat.zero_mul, Nat.le_refl]⟩
  simp only [Pot, Nat.zero_mul] at h
  omega

/-! ## Free looks: the relations without sizes

With `ℓ = 0` the potential of the bytes is `4 * length` and the sizes play no role: `RelV` and `RelL`
say what `BndV` and `BndL` say then, and that the value is good (which `readValue_fit` proves).  The
bounds are proved through `BndV` / `BndL`; nothing is derived from `RelV` / `RelL`. -/

def RelV (cfg : Cfg) (N : Nat) (st : St) (a : ASt) (r : Res × ASt) : Prop :=
  r.2.arena = .alive ∧
  match r.1 with
  | .ok v st' => Good cfg N v ∧
      r.2.reqs + Psi N r.2.bufs + 4 * st'.rest.length + 2 ≤ a.reqs + Psi N a.bufs + 4 * st.rest.length
  | .closer st' => r.2.reqs + Psi N r.2.bufs + 4 * st'.rest.length ≤ a.reqs + Psi N a.bufs + 4 * st.rest.length
  | .err _ _ => r.2.reqs + Psi N r.2.bufs ≤ a.reqs + Psi N a.bufs + 4 * st.rest.length + 2

def RelL (cfg : Cfg) (N : Nat) (st : St) (a : ASt) (r : Res × ASt) : Prop :=
  r.2.arena = .alive ∧
  match r.1 with
  | .ok v st' => Good cfg N v ∧
      r.2.reqs + Psi N r.2.bufs + 4 * st'.rest.length ≤ a.reqs + Psi N a.bufs + 4 * st.rest.length + 2
  | .closer st' => r.2.reqs + Psi N r.2.bufs + 4 * st'.rest.length ≤ a.reqs + Psi N a.bufs + 4 * st.rest.length + 2
  | .err _ _ => r.2.reqs + Psi N r.2.bufs ≤ a.reqs + Psi N a.bufs + 4 * st.rest.length + 4

theorem RelV.toL_after {cfg : Cfg} {N : Nat} {st1 st : St} {a1 a : ASt} {r : Res × ASt} (h : RelV cfg N st1 a1 r)
    (hc : a1.reqs + Psi N a1.bufs + 4 * st1.rest.length ≤ a.reqs + Psi N a.bufs + 4 * st.rest.length + 2) :
    RelL cfg N st a r := by
  obtain ⟨h1, h2⟩ := h
  refine ⟨h1, ?_⟩
  rcases r with ⟨r, a'⟩
  cases r with
  | ok v st' => exact ⟨h2.1, by have := h2.2; simp only at this ⊢; omega⟩
  | closer st' => simp only at h2 ⊢; omega
  | err e st' => simp only at h2 ⊢; omega

theorem RelV.toL {cfg : Cfg} {N : Nat} {st1 st : St} {a : ASt} {r : Res × ASt} (h : RelV cfg N st1 a r)
    (hlen : st1.rest.length ≤ st.rest.length) : RelL cfg N st a r :=
  h.toL_after (by omega)

theorem RelV.err_after {cfg : Cfg} {N c : Nat} {st st' : St} {a a1 a' : ASt} {e : ErrInfo}
    (h : Stp N c a1 a')
    (hc : a1.reqs + Psi N a1.bufs + c ≤ a.reqs + Psi N a.bufs + 4 * st.rest.length + 2) :
    RelV cfg N st a (.err e st', a') :=
  ⟨h.1, by have := h.2; simp only; omega⟩

theorem RelL.err_after {cfg : Cfg} {N c : Nat} {st st' : St} {a a1 a' : ASt} {e : ErrInfo}
    (h : Stp N c a1 a')
    (hc : a1.reqs + Psi N a1.bufs + c ≤ a.reqs + Psi N a.bufs + 4 * st.rest.length + 4) :
    RelL cfg N st a (.err e st', a') :=
  ⟨h.1, by have := h.2; simp only; omega⟩

/-- `#{"a\n" "b\t" #{1 2} 30N}`: a set of strings with escapes, a nested set, a big number:
    25 bytes, hypotheses hold, 13 requests -/
def exampleDoc : Bytes := "#{\"a\\n\" \"b\\t\" #{1 2} 30N}".toUTF8.toList

example : stringsDecode ⟨false, false⟩ exampleDoc = true := by decide +kernel
example : ((readA ⟨false, false⟩ {} (fun _ => false) exampleDoc).ast.reqs == 13) = true := by decide +kernel
example : (readA ⟨false, false⟩ {} (fun _ => false) exampleDoc).ast.reqs
    ≤ 5 * exampleDoc.length + exampleDoc.length / 64 + 9 :=
  readA_reqs_linear _ _ _ _ _ _ _ (fun _ => rfl) rfl (stringsDecode_ok _ _ (by decide +kernel))

/-! ## Why the hypothesis: undecodable escapes are asked for again and again

`superDoc k` is a set of `k` sets, each made of the same `k - 1` string literals `"\qa" "\qb" …`
and one literal of its own `"\Qa" …`.  `\q` is no escape of the language, but `edn_read_string`
does not look at escapes (decoding is lazy), so the document is read — to a value.  Small sets are
checked for duplicates pairwise; comparing two of the inner sets compares their strings pairwise,
and each look at a string whose escapes do not decode requests a fresh buffer for the decoded text
(`strContentA`: the buffer is cached only when decoding succeeds).  Number of requests measured
with the model (`#eval`, fault-free oracle, every configuration):

    k                     3    4    5    6     7     8     9     16
    bytes                57   95  143  201   269   347   435   1331
    requests             73  196  439  862  1537  2548  3991  36789
    5·bytes + bytes/64+9 294  485  726 1017  1358  1749  2190   6684

so no bound `c₁ * length + c₀` with small constants holds without a hypothesis on the literals. -/

def badStr (tag : UInt8) (i : Nat) : Bytes := [0x22, 0x5C, tag, UInt8.ofNat (0x61 + i), 0x22]
def innerSet (k i : Nat) : Bytes :=
  [0x23, 0x7B] ++ ((List.range (k - 1)).map (badStr 0x71)).flatten ++ badStr 0x51 i ++ [0x7D]
/-- `#{#{"\qa""\qb"…"\Qa"}#{"\qa""\qb"…"\Qb"}…}` -/
def superDoc (k : Nat) : Bytes := [0x23, 0x7B] ++ ((List.range k).map (innerSet k)).flatten ++ [0x7D]

theorem superDoc7_reqs : ((readA ⟨false, false⟩ {} (fun _ => false) (superDoc 7)).ast.reqs == 1537) = true := by
  decide +kernel
theorem superDoc3_reqs : ((readA ⟨false, false⟩ {} (fun _ => false) (superDoc 3)).ast.reqs == 73) = true := by
  decide +kernel

example : ((superDoc 7).length == 269) = true := by decide +kernel
example : ((readA ⟨false, false⟩ {} (fun _ => false) (superDoc 7)).ast.reqs == 1537) = true := superDoc7_reqs
example : 5 * 269 + 269 / 64 + 9 < 1537 := by decide
example : stringsDecode ⟨false, false⟩ (superDoc 7) = false := by decide +kernel

end Edn.Proofs.AllocBound

/-! ## The bound without hypothesis on the string literals

  The instance of `Edn.Proofs.AllocBound.readA_reqs_bound` in which every look is paid for (`ℓ = 1`) and
  no name is counted (`N = 0`, so that `Psi` vanishes).

  Where `16 * n³` comes from: the byte that opens a form when `L + 1` bytes are left reserves
  `16 * (L + 1)²` requests; the form has at most `2 * L` nodes, the duplicate check of a collection
  of `S` nodes makes at most `1 + 4 * S²` requests (two per pair of leaves compared, one per leaf
  hashed, each look at a literal whose escapes do not decode being a fresh request), the metadata
  merge at most `5 + 2 * (nodes of the form) * (nodes of the new keys)`.  Summing the reserve over the
  bytes gives `16 * (1² + … + n²) ≤ 16 * n³`.  (The true growth is quadratic — every byte lies in at
  most `maxNestingDepth` collections — but the proof does not track the depth.)
-/

namespace Edn.Proofs.AllocBoundQ
open Edn.Model Edn.Proofs Edn.Proofs.AllocBasic Edn.Proofs.AllocBound

theorem Psi_zero (b : List Nat) : Psi 0 b = 0 := rfl

theorem Pot_le_cubic (n : Nat) : Pot 1 n ≤ 16 * n ^ 3 + 4 * n := by
  have := Q_le n
  have e : n ^ 3 = n * (n * n) := by grind
  unfold Pot
  omega

/-- **C02, allocation requests, no hypothesis on the input**: in every configuration, for every growth
    rule of the builders and every `qsort` that hands each element to the comparator for the first
    time at most once. -/
theorem readA_reqs_cubic (cfg : Cfg) (opts : Opts) (orc : Nat → Bool) (input : Bytes)
    (grow : Nat → Nat) (handlerReq : String → Bool) (sortTouch : Nat → List Nat)
    (horc : ∀ n, orc n = false) (hreg : opts.registry = none) (hst : ∀ n, (sortTouch n).length ≤ n) :
    (readA cfg opts orc input grow handlerReq sortTouch).ast.reqs
      ≤ 16 * input.length ^ 3 + 4 * input.length + input.length / 64 + 8 := by
  have h := readA_reqs_bound cfg opts orc input grow handlerReq sortTouch 0 1
    ⟨horc, hreg, fun h => absurd h (by decide), fun h => absurd h (by decide),
     fun n => Nat.mul_le_mul_left 1 (hst n)⟩
  have := Pot_le_cubic input.length
  omega

/-- the instance the correspondence stream `H` exercises: the default builders, glibc's merge sort -/
theorem readA_reqs_cubic' (cfg : Cfg) (opts : Opts) (input : Bytes) (hreg : opts.registry = none) :
    (readA cfg opts (fun _ => false) input).ast.reqs
      ≤ 16 * input.length ^ 3 + 4 * input.length + input.length / 64 + 8 :=
  readA_reqs_cubic cfg opts (fun _ => false) input _ _ _ (fun _ => rfl) hreg
    (fun n => (msortTouch_length n 0 n).1)

example : ((readA ⟨false, false⟩ {} (fun _ => false) (superDoc 3)).ast.reqs == 73) = true := superDoc3_reqs
example : ((superDoc 3).length == 57) = true := by decide +kernel
example : (readA ⟨false, false⟩ {} (fun _ => false) (superDoc 3)).ast.reqs
    ≤ 16 * (superDoc 3).length ^ 3 + 4 * (superDoc 3).length + (superDoc 3).length / 64 + 8 :=
  readA_reqs_cubic' _ _ _ rfl

end Edn.Proofs.AllocBoundQ
