/-
  What the three developments over Edn.Model.ReaderA (ledger, simulation, request bound) share.
  What a request, `rawAlloc`, `realloc`, the arena calls and the lazy payloads do to each field of
  the allocation state; the result shapes the reader functions have in common (`valueA`, `dupCloseA`,
  `oneRequest`) and the leaf readers as instances of `oneRequest`; `readNumberK` at `finishNumK` is
  `readNumber` (`readNumberK_eq`; two instances of `readNumberK` against each other are in
  Edn.Proofs.AllocNumber); the primitives that are a chain of arena requests, specified once (`Prim`);
  the ways `readA` ends (`readA_cases`, `errorExit`).
-/
import Edn.Model.ReaderA
import Edn.Proofs.Ite

namespace Edn.Proofs.AllocBasic
open Edn.Model Edn.Proofs

theorem request_reqs (orc : Nat → Bool) (k : ReqKind) (a : ASt) (old : Nat) :
    (a.request orc k old).2.reqs = a.reqs + 1 := rfl

theorem request_trace (orc : Nat → Bool) (k : ReqKind) (a : ASt) (old : Nat) :
    (a.request orc k old).2.trace =
      .req k (a.reqs + 1) (orc (a.reqs + 1) || (k == .arena && a.arena != .alive)) old :: a.trace := rfl

theorem request_live (orc : Nat → Bool) (k : ReqKind) (a : ASt) (old : Nat) :
    (a.request orc k old).2.live = a.live := rfl

theorem request_arena (orc : Nat → Bool) (k : ReqKind) (a : ASt) (old : Nat) :
    (a.request orc k old).2.arena = a.arena := rfl

theorem request_tmp (orc : Nat → Bool) (k : ReqKind) (a : ASt) (old : Nat) :
    (a.request orc k old).2.tmp = a.tmp := rfl

theorem request_bufs (orc : Nat → Bool) (k : ReqKind) (a : ASt) (old : Nat) :
    (a.request orc k old).2.bufs = a.bufs := rfl

theorem request_ok (orc : Nat → Bool) (k : ReqKind) (a : ASt) (old : Nat) :
    (a.request orc k old).1 = (!(orc (a.reqs + 1) || (k == .arena && a.arena != .alive))) := rfl

theorem request_arena_alive (orc : Nat → Bool) (a : ASt) (old : Nat)
    (h : (a.request orc .arena old).1 = true) : a.arena = .alive := by
  have key : ∀ (o : Bool) (s : ArenaSt), (!(o || (ReqKind.arena == .arena && s != .alive))) = true → s = .alive := by
    intro o s h
    cases s <;> cases o <;> first | rfl | exact absurd h (by decide)
  exact key _ _ h

theorem request_failedArena (orc : Nat → Bool) (k : ReqKind) (a : ASt) (old : Nat) :
    (a.request orc k old).2.failedArena =
      if k == .arena && a.arena == .alive && orc (a.reqs + 1) then a.failedArena + 1 else a.failedArena := rfl

theorem request_failedArena_other (orc : Nat → Bool) (k : ReqKind) (a : ASt) (old : Nat) (hk : k ≠ .arena) :
    (a.request orc k old).2.failedArena = a.failedArena := by
  rw [request_failedArena]
  cases k <;> first | exact absurd rfl hk | rfl

theorem request_failedArena_granted (orc : Nat → Bool) (k : ReqKind) (a : ASt) (old : Nat)
    (h : (a.request orc k old).1 = true) : (a.request orc k old).2.failedArena = a.failedArena := by
  rw [request_failedArena]
  rw [request_ok] at h
  cases ho : orc (a.reqs + 1)
  · simp
  · rw [ho] at h; simp at h

theorem request_fails_of_orc (orc : Nat → Bool) (k : ReqKind) (a : ASt) (old : Nat)
    (h : orc (a.reqs + 1) = true) : (a.request orc k old).1 = false := by
  simp [request_ok, h]

theorem request_fails_without_arena (orc : Nat → Bool) (a : ASt) (old : Nat)
    (h : a.arena ≠ .alive) : (a.request orc .arena old).1 = false := by
  have hb : (a.arena != ArenaSt.alive) = true := by
    cases ha : a.arena
    · rfl
    · exact absurd ha h
    · rfl
  rw [request_ok, hb]
  cases orc (a.reqs + 1) <;> rfl

theorem request_succeeds (orc : Nat → Bool) (k : ReqKind) (a : ASt) (old : Nat)
    (h : orc (a.reqs + 1) = false) (hk : k = .arena → a.arena = .alive) :
    (a.request orc k old).1 = true := by
  rw [request_ok, h]
  cases k
  · rw [hk rfl]; rfl
  all_goals rfl

theorem rawAlloc_succeeds (orc : Nat → Bool) (k : ReqKind) (a : ASt)
    (h : orc (a.reqs + 1) = false) (hk : k = .arena → a.arena = .alive) : ∃ i, (a.rawAlloc orc k).1 = some i := by
  unfold ASt.rawAlloc
  simp only [request_succeeds orc k a 0 h hk, ↓reduceIte]
  exact ⟨_, rfl⟩

theorem realloc_succeeds (orc : Nat → Bool) (old : Nat) (a : ASt) (h : orc (a.reqs + 1) = false) :
    ∃ i, (a.realloc orc old).1 = some i := by
  unfold ASt.realloc
  simp only [request_succeeds orc .realloc a old h nofun, ↓reduceIte]
  exact ⟨_, rfl⟩

/-- requests and events are only added (`Edn.Proofs.AllocLedger.Cont.le`); traces are stored newest first,
    so the trace of the earlier state is a suffix -/
def ASt.Le (a b : ASt) : Prop := a.reqs ≤ b.reqs ∧ a.trace <:+ b.trace

/-- With transitivity of `R` this is how a proof about the allocation state walks through a definition: `if` by
    `snd_ite`, `let (r, a1) := f a` through `f a` (`rcases f a` where what follows looks at `r`). -/
theorem snd_ite {α : Type} {R : ASt → ASt → Prop} {a : ASt} {c : Prop} [Decidable c] {p q : α × ASt}
    (hp : R a p.2) (hq : R a q.2) : R a (if c then p else q).2 :=
  ite_ind (P := fun r : α × ASt => R a r.2) (fun _ => hp) (fun _ => hq)

theorem free_reqs (id : Nat) (a : ASt) : (a.free id).reqs = a.reqs := rfl

theorem freeAll_reqs (ids : List Nat) (a : ASt) : (a.freeAll ids).reqs = a.reqs := by
  induction ids generalizing a with
  | nil => rfl
  | cons i is ih =>
    show ((a.free i).freeAll is).reqs = a.reqs
    rw [ih (a.free i)]; rfl

/-- the kinds `ASt.rawAlloc` is called with outside `edn_arena_create`.  `AllocLedger.plainKind` adds
    `realloc` (every raw block that is not part of an arena), `AllocLedger.rawKind` adds `arenaNew` as
    well (every raw block). -/
def plainRaw (k : ReqKind) : Prop := k = .malloc ∨ k = .calloc

theorem rawAlloc_reqs (orc : Nat → Bool) (k : ReqKind) (a : ASt) :
    (a.rawAlloc orc k).2.reqs = a.reqs + 1 := by
  unfold ASt.rawAlloc
  cases h : (a.request orc k).1 <;> simp [h, request_reqs]

theorem rawAlloc_some (orc : Nat → Bool) (k : ReqKind) (a : ASt) (i : Nat)
    (h : (a.rawAlloc orc k).1 = some i) :
    i = a.reqs + 1 ∧ (a.rawAlloc orc k).2.live = i :: a.live := by
  unfold ASt.rawAlloc at h ⊢
  cases hr : (a.request orc k).1
  · simp [hr] at h
  · simp only [hr, ↓reduceIte] at h ⊢
    have e : i = a.reqs + 1 := (Option.some.inj h).symm
    subst e
    exact ⟨rfl, rfl⟩

theorem rawAlloc_none (orc : Nat → Bool) (k : ReqKind) (a : ASt)
    (h : (a.rawAlloc orc k).1 = none) : (a.rawAlloc orc k).2.live = a.live := by
  unfold ASt.rawAlloc at h ⊢
  cases hr : (a.request orc k).1
  · simp only [hr, Bool.false_eq_true, ↓reduceIte]; rfl
  · simp [hr] at h

theorem realloc_reqs (orc : Nat → Bool) (old : Nat) (a : ASt) :
    (a.realloc orc old).2.reqs = a.reqs + 1 := by
  unfold ASt.realloc
  cases h : (a.request orc .realloc old).1 <;> simp [h, request_reqs]

theorem arenaDestroy_reqs (tmp : Bool) (a : ASt) : (a.arenaDestroy tmp).reqs = a.reqs := by
  unfold ASt.arenaDestroy
  cases tmp <;> rfl

theorem arenaCreate_reqs (orc : Nat → Bool) (tmp : Bool) (a : ASt) :
    a.reqs + 1 ≤ (a.arenaCreate orc tmp).2.reqs ∧ (a.arenaCreate orc tmp).2.reqs ≤ a.reqs + 2 := by
  unfold ASt.arenaCreate
  have h1 := rawAlloc_reqs orc .arenaNew a
  split
  · next a1 e1 => rw [e1] at h1; simp only at h1 ⊢; omega
  · next i a1 e1 =>
    rw [e1] at h1
    have h2 := rawAlloc_reqs orc .arenaNew a1
    split
    · next a2 e2 => rw [e2] at h2; simp only [free_reqs] at h1 h2 ⊢; omega
    · next j a2 e2 =>
      rw [e2] at h2
      cases tmp <;> simp only [Bool.false_eq_true, ↓reduceIte] at h1 h2 ⊢ <;> omega

theorem rawAlloc_arena (orc : Nat → Bool) (k : ReqKind) (a : ASt) : (a.rawAlloc orc k).2.arena = a.arena := by
  unfold ASt.rawAlloc
  cases hq : (a.request orc k).1 <;> simp [hq, request_arena]

theorem arenaCreate_failed_parser (orc : Nat → Bool) (a : ASt) (h : (a.arenaCreate orc false).1 = false) :
    (a.arenaCreate orc false).2.arena = a.arena := by
  unfold ASt.arenaCreate at h ⊢
  have h1 := rawAlloc_arena orc .arenaNew a
  split
  · next a1 e1 => rw [e1] at h1; exact h1
  · next i a1 e1 =>
    rw [e1] at h1 h
    have h2 := rawAlloc_arena orc .arenaNew a1
    split
    · next a2 e2 => rw [e2] at h2; show (a2.free i).arena = a.arena; rw [← h1, ← h2]; rfl
    · next j a2 e2 => dsimp only at h; rw [e2] at h; simp at h

theorem strContentA_plain (x : ACtx) (h : Hdr) (data : Bytes) (a : ASt) :
    strContentA x h data false a = ((true, data), a) := by
  simp [strContentA]

theorem strContentA_cached (x : ACtx) (h : Hdr) (data : Bytes) (a : ASt) (hc : a.bufs.contains h.s = true) :
    strContentA x h data true a = (stringContent x.ctx.cfg data true, a) := by
  unfold strContentA
  rw [hc]
  rfl

theorem strContentA_granted (x : ACtx) (h : Hdr) (data : Bytes) (esc : Bool) (a : ASt)
    (hok : (a.request x.orc .arena).1 = true) :
    (strContentA x h data esc a).1 = stringContent x.ctx.cfg data esc := by
  unfold strContentA stringContent
  cases esc with
  | false => simp
  | true =>
    simp only [Bool.not_true, Bool.false_eq_true, ↓reduceIte]
    split
    · rfl
    · simp only [hok, Bool.not_true, Bool.false_eq_true, ↓reduceIte]
      cases decodeString x.ctx.cfg (data.length + 1) data <;> rfl

theorem cleanA_plain (x : ACtx) (h : Hdr) (d : Bytes) (a : ASt)
    (hp : (x.ctx.cfg.exp && d.contains 0x5F) = false) : cleanA x h d a = (some d, a) := by
  unfold cleanA
  rw [hp]
  rfl

/-- the way the reader functions make a collection, a tagged element, a number: one request on the
    parser's arena, and OUT_OF_MEMORY at `stE` when it is refused -/
def valueA (x : ACtx) (a : ASt) (v : Val) (st stE : St) : Res × ASt :=
  if (!(a.request x.orc .arena).1) = true then (.err oomErr stE, (a.request x.orc .arena).2)
  else (.ok v st, (a.request x.orc .arena).2)

/-- the close of a set or a map in `readSeqA` / `readMapA`: duplicate check, test of the count of
    refused requests, value request; `mk` builds the value from the elements handed back -/
def dupCloseA (x : ACtx) (xs : List Val) (a : ASt) (e : ErrInfo) (st : St) (mk : List Val → Val) : Res × ASt :=
  if ((hasDuplicatesA x xs a).2.failedArena != a.failedArena) = true then
    (.err oomErr st, (hasDuplicatesA x xs a).2)
  else if (hasDuplicatesA x xs a).1.1 = true then (.err e st, (hasDuplicatesA x xs a).2)
  else valueA x (hasDuplicatesA x xs a).2 (mk (hasDuplicatesA x xs a).1.2) st st

/-- a leaf reader of Edn.Model.ReaderA is the reader of Edn.Model.Reader followed, for a value, by one
    request on the parser's arena; when it is refused `parser->current` is left at `stE st'` -/
def oneRequest (x : ACtx) (stE : St → St) (r0 : Res) (a : ASt) : Res × ASt :=
  match r0 with
  | .ok v st' =>
    let (ok, a1) := a.request x.orc .arena
    if ok then (.ok v st', a1) else (.err oomErr (stE st'), a1)
  | r => (r, a)

theorem readCharacterA_eq (x : ACtx) (st : St) (a : ASt) :
    readCharacterA x st a = oneRequest x (fun _ => st) (readCharacter x.ctx st) a := rfl

theorem readIdentifierA_eq (x : ACtx) (st : St) (a : ASt) :
    readIdentifierA x st a = oneRequest x id (readIdentifier x.ctx st) a := rfl

theorem readSymbolicA_eq (x : ACtx) (st : St) (a : ASt) :
    readSymbolicA x st a = oneRequest x (fun _ => st) (readSymbolic x.ctx st) a := rfl

theorem readStringA_eq (x : ACtx) (st : St) (a : ASt) :
    readStringA x st a =
      if (x.ctx.cfg.exp && startsWith st.rest [0x22, 0x22, 0x22, 0x0A]) = true then readTextBlockA x st a
      else oneRequest x (fun _ => st) (readString x.ctx st) a := rfl

theorem oneRequest_granted (x : ACtx) (stE : St → St) (r0 : Res) (a : ASt)
    (hok : (a.request x.orc .arena).1 = true) : (oneRequest x stE r0 a).1 = r0 := by
  cases r0 <;> simp [oneRequest, hok]

theorem readIdentifierA_granted (x : ACtx) (st : St) (a : ASt)
    (hok : (a.request x.orc .arena).1 = true) : (readIdentifierA x st a).1 = readIdentifier x.ctx st :=
  oneRequest_granted x _ _ a hok

theorem readCharacterA_granted (x : ACtx) (st : St) (a : ASt)
    (hok : (a.request x.orc .arena).1 = true) : (readCharacterA x st a).1 = readCharacter x.ctx st :=
  oneRequest_granted x _ _ a hok

theorem readSymbolicA_granted (x : ACtx) (st : St) (a : ASt)
    (hok : (a.request x.orc .arena).1 = true) : (readSymbolicA x st a).1 = readSymbolic x.ctx st :=
  oneRequest_granted x _ _ a hok

theorem readIdentifierA_err (x : ACtx) (st : St) (a : ASt) (e : ErrInfo) (st' : St)
    (h : readIdentifier x.ctx st = .err e st') : readIdentifierA x st a = (.err e st', a) := by
  simp [readIdentifierA, h]

theorem readIdentifierA_refused (x : ACtx) (st : St) (a : ASt) (v : Val) (st' : St)
    (h : readIdentifier x.ctx st = .ok v st') (hno : (a.request x.orc .arena).1 = false) :
    (readIdentifierA x st a).1 = .err oomErr st' := by
  simp [readIdentifierA, h, hno]

theorem readCharacterA_refused (x : ACtx) (st : St) (a : ASt) (v : Val) (st' : St)
    (h : readCharacter x.ctx st = .ok v st') (hno : (a.request x.orc .arena).1 = false) :
    (readCharacterA x st a).1 = .err oomErr st := by
  simp [readCharacterA, h, hno]

theorem BSt.add_room (x : ACtx) (b : BSt) (a : ASt) (h : b.count < b.cap) :
    b.add x a = (some { b with count := b.count + 1 }, a) := by
  unfold BSt.add
  simp [Nat.not_le.mpr h]

theorem BSt.finish_free (x : ACtx) (b : BSt) (a : ASt) (h : b.heap = true ∨ b.count = 0) :
    b.finish x a = (true, a) := by
  unfold BSt.finish
  cases h with
  | inl h => simp [h]
  | inr h => simp [h]

theorem radixTailK_eq (cfg : Cfg) (neg : Bool) (radix : Nat) (allowN : Bool) (digitsStart s : Bytes) :
    radixTailK cfg finishNumK NumOut.err neg radix allowN digitsStart s = radixTail cfg neg radix allowN digitsStart s := by
  unfold radixTailK radixTail finishNumK
  simp only [↓reduceIte]

theorem decimalTailK_eq (cfg : Cfg) (start : Bytes) (neg hasDec hasExp : Bool) (digitsStart s : Bytes) :
    decimalTailK cfg finishNumK NumOut.err start neg hasDec hasExp digitsStart s =
      decimalTail cfg start neg hasDec hasExp digitsStart s := by
  unfold decimalTailK decimalTail finishNumK
  simp only [↓reduceIte, Bool.false_eq_true]
  rfl

theorem exponentPartK_eq (cfg : Cfg) (start : Bytes) (neg hasDec : Bool) (digitsStart s : Bytes) :
    exponentPartK cfg finishNumK NumOut.err start neg hasDec digitsStart s =
      exponentPart cfg start neg hasDec digitsStart s := by
  unfold exponentPartK exponentPart
  simp only [decimalTailK_eq]

theorem afterMantissaK_eq (cfg : Cfg) (start : Bytes) (neg hasDec : Bool) (digitsStart s : Bytes) :
    afterMantissaK cfg finishNumK NumOut.err start neg hasDec digitsStart s =
      afterMantissa cfg start neg hasDec digitsStart s := by
  unfold afterMantissaK afterMantissa
  simp only [decimalTailK_eq, exponentPartK_eq]

theorem decimalPartK_eq (cfg : Cfg) (start : Bytes) (neg : Bool) (digitsStart s : Bytes) :
    decimalPartK cfg finishNumK NumOut.err start neg digitsStart s = decimalPart cfg start neg digitsStart s := by
  unfold decimalPartK decimalPart
  simp only [afterMantissaK_eq]

theorem finishNumK_true (v : NumVal) (s : Bytes) : finishNumK v s true = finishNum v s := rfl
theorem finishNumK_false (v : NumVal) (s : Bytes) : finishNumK v s false = .ok v s := rfl

/-- After the rewriting both sides are the same text up to the names of the auxiliary matchers, which
    `delta` unfolds by name.  `match_n` is Lean's numbering of the `match`es of a definition: an edit to
    `readNumberK`, `readNumber`, `parseDouble` or `decimalTail(K)` can renumber them, and `delta` then
    fails with "unknown constant"; `set_option pp.match false in #print readNumberK` shows the names. -/
theorem readNumberK_eq (cfg : Cfg) (s : Bytes) :
    readNumberK cfg finishNumK NumOut.err s = readNumber cfg s := by
  unfold readNumberK readNumber
  simp -zeta only [radixTailK_eq, decimalPartK_eq, exponentPartK_eq, afterMantissaK_eq, finishNumK_true,
    finishNumK_false]
  delta readNumberK.match_5 readNumber.match_3 readNumberK.match_3 readNumber.match_1 readNumberK.match_1
    parseDouble.match_1 decimalTailK.match_4 decimalTail.match_4
  rfl

theorem parseDouble_eq (cfg : Cfg) (text : Bytes) :
    parseDouble cfg text = (match parseDoubleFastOpt cfg text with
                           | some r => r
                           | none => strtodSpec text) := by
  unfold parseDouble parseDoubleFastOpt
  rfl

theorem floatNeedsHeap_short (cfg : Cfg) (text : Bytes) (h : text.length < floatStackBuffer) :
    floatNeedsHeap cfg text = false := by
  unfold floatNeedsHeap
  simp [Nat.not_le.mpr h]

theorem hasDuplicatesA_small (x : ACtx) (xs : List Val) (a : ASt) (h : xs.length ≤ 1) :
    hasDuplicatesA x xs a = ((false, xs), a) := by
  simp [hasDuplicatesA, h]

theorem insertByHash_perm (v : Val) (l : List Val) : (insertByHash v l).Perm (v :: l) := by
  induction l with
  | nil => exact .refl _
  | cons y ys ih =>
    unfold insertByHash
    split
    · exact .refl _
    · exact (ih.cons y).trans (.swap v y ys)

theorem sortByHash_perm (xs : List Val) : (sortByHash xs).Perm xs := by
  have : ∀ xs acc : List Val, (xs.foldl (fun acc v => insertByHash v acc) acc).Perm (xs.reverse ++ acc) := by
    intro xs
    induction xs with
    | nil => intro acc; exact .refl _
    | cons v xs ih =>
      intro acc
      rw [List.foldl_cons, List.reverse_cons, List.append_assoc]
      exact (ih _).trans ((insertByHash_perm v acc).append_left _)
  exact (this xs []).trans (by rw [List.append_nil]; exact List.reverse_perm xs)

inductive Reqs (x : ACtx) : Nat → ASt → ASt → Prop
  | nil (a : ASt) : Reqs x 0 a a
  | cons {n : Nat} {a a' : ASt} : Reqs x n (a.request x.orc .arena).2 a' → Reqs x (n + 1) a a'

/-- what the builders, the one-entry metadata map and a request made under a condition have in common:
    at most `k` such requests, and a `good` answer when no fault is scheduled and the arena exists
    (every request is granted then).  The relations of the three inductions over the reader are read
    off it: `Prim.kept` (Edn.Proofs.AllocLedgerKept), `Prim.step` (Edn.Proofs.AllocSimLeaf), `Prim.stp` (Edn.Proofs.AllocBoundDup). -/
def Prim {α : Type} (x : ACtx) (k : Nat) (good : α → Prop) (a : ASt) (r : α × ASt) : Prop :=
  (∃ n, n ≤ k ∧ Reqs x n a r.2) ∧ ((∀ n, x.orc n = false) → a.arena = .alive → good r.1)

namespace Prim
variable {α : Type} {x : ACtx} {k : Nat} {good : α → Prop} {a : ASt} {r : α × ASt}

theorem pure (x : ACtx) (k : Nat) {u : α} (a : ASt) (h : good u) : Prim x k good a (u, a) :=
  ⟨⟨0, Nat.zero_le _, .nil a⟩, fun _ _ => h⟩

theorem cons (x : ACtx) (a : ASt) (hf : (a.request x.orc .arena).1 = false → r.2 = (a.request x.orc .arena).2)
    (h : (a.request x.orc .arena).1 = true → Prim x k good (a.request x.orc .arena).2 r) : Prim x (k + 1) good a r := by
  cases ho : (a.request x.orc .arena).1 with
  | false =>
    exact ⟨⟨1, Nat.le_add_left _ _, hf ho ▸ .cons (.nil _)⟩,
      fun hx ha => absurd (request_succeeds x.orc .arena a 0 (hx _) fun _ => ha) (ho ▸ Bool.false_ne_true)⟩
  | true =>
    obtain ⟨⟨n, hn, hr⟩, hg⟩ := h ho
    exact ⟨⟨n + 1, Nat.succ_le_succ hn, .cons hr⟩, fun hx ha => hg hx ha⟩

theorem one (x : ACtx) (a : ASt) (h2 : r.2 = (a.request x.orc .arena).2)
    (hg : (a.request x.orc .arena).1 = true → good r.1) : Prim x 1 good a r :=
  cons x a (fun _ => h2) fun ho => ⟨⟨0, Nat.le_refl _, h2 ▸ .nil _⟩, fun _ _ => hg ho⟩

theorem two (x : ACtx) (a : ASt) (h2 : r.2 = ((a.request x.orc .arena).2.request x.orc .arena).2)
    (hg : (a.request x.orc .arena).1 = true → ((a.request x.orc .arena).2.request x.orc .arena).1 = true → good r.1) :
    Prim x 2 good a r :=
  ⟨⟨2, Nat.le_refl _, h2 ▸ .cons (.cons (.nil _))⟩, fun hx ha =>
    hg (request_succeeds x.orc .arena a 0 (hx _) fun _ => ha) (request_succeeds x.orc .arena _ 0 (hx _) fun _ => ha)⟩

end Prim

theorem request_prim (x : ACtx) (a : ASt) : Prim x 1 (fun o => o = true) a (a.request x.orc .arena) :=
  Prim.one x a rfl id

/-- a request made only under a condition (a rewritten map key, a handler that allocates) -/
theorem optional_prim (x : ACtx) (c : Bool) (a : ASt) :
    Prim x 1 (fun o => o = true) a (if c = true then a.request x.orc .arena else (true, a)) :=
  ite_ind (fun _ => request_prim x a) (fun _ => Prim.pure x 1 a rfl)

theorem add_prim (x : ACtx) (b : BSt) (a : ASt) : Prim x 1 (fun o => ∃ b', o = some b') a (b.add x a) := by
  unfold BSt.add
  refine ite_ind (fun _ => ?_) (fun _ => Prim.pure x 1 a ⟨_, rfl⟩)
  exact Prim.one x a (by dsimp only; split <;> rfl) (fun o => by dsimp only; rw [if_pos o]; exact ⟨_, rfl⟩)

theorem finish_prim (x : ACtx) (b : BSt) (a : ASt) : Prim x 1 (fun o => o = true) a (b.finish x a) :=
  ite_ind (fun _ => request_prim x a) (fun _ => Prim.pure x 1 a rfl)

theorem addPair_prim (x : ACtx) (b : BSt) (a : ASt) : Prim x 2 (fun o => ∃ b', o = some b') a (b.addPair x a) := by
  unfold BSt.addPair
  refine ite_ind (fun _ => ?_) (fun _ => Prim.pure x 2 a ⟨_, rfl⟩)
  exact Prim.two x a (by dsimp only; split <;> rfl) (fun o1 o2 => by dsimp only; rw [o1, o2]; exact ⟨_, rfl⟩)

theorem finishPair_prim (x : ACtx) (b : BSt) (a : ASt) : Prim x 2 (fun o => o = true) a (b.finishPair x a) :=
  ite_ind (fun _ => Prim.two x a rfl (fun o1 o2 => by dsimp only; rw [o1, o2]; rfl)) (fun _ => Prim.pure x 2 a rfl)

theorem metaEntryA_prim (x : ACtx) (m : Val) (a : ASt) : Prim x 3 (fun o => o = true) a (metaEntryA x m a) := by
  unfold metaEntryA
  split
  · exact Prim.pure x 3 a rfl
  · refine Prim.cons x a (fun ho => by dsimp only; rw [ho]; rfl) (fun ho => ?_)
    dsimp only; rw [ho]
    exact Prim.two x _ rfl (fun o1 o2 => by rw [o1, o2]; rfl)

/-- the state `edn_read_with_options` ends in after an error of the reader: the line index is built
    first, then the parser's arena is released when it exists -/
def errorExit (orc : Nat → Bool) (input : Bytes) (a : ASt) : ASt :=
  if (lineIndexA orc input a).2.arena == .alive then (lineIndexA orc input a).2.arenaDestroy false
  else (lineIndexA orc input a).2

theorem readA_cases (cfg : Cfg) (opts : Opts) (orc : Nat → Bool) (input : Bytes)
    (grow : Nat → Nat) (handlerReq : String → Bool) (sortTouch : Nat → List Nat) :
    let ra := readValueA ⟨⟨cfg, opts⟩, orc, grow, handlerReq, sortTouch⟩ (readFuel input) 0 false { rest := input }
      (({} : ASt).arenaCreate orc false).2
    let r := readA cfg opts orc input grow handlerReq sortTouch
    (∃ v st, ra.1 = .ok v st ∧ r.out = .value v ∧ r.ast = ra.2) ∨ (r.out = .fuelOut ∧ r.ast = ra.2) ∨
    ((r.out = .eofValue ∨ ∃ c s e, r.out = .error c s e) ∧ r.ast = errorExit orc input ra.2) := by
  unfold readA
  dsimp only
  rcases readValueA ⟨⟨cfg, opts⟩, orc, grow, handlerReq, sortTouch⟩ (readFuel input) 0 false { rest := input }
    (({} : ASt).arenaCreate orc false).2 with ⟨res, a⟩
  cases res with
  | ok v st => exact .inl ⟨v, st, rfl, rfl, rfl⟩
  | closer st => exact .inr (.inl ⟨rfl, rfl⟩)
  | err e st =>
    dsimp only
    -- out of fuel; otherwise the three ways to report
    have ite2 := @ite_ind ResultA (fun r => (r.out = .fuelOut ∧ r.ast = a) ∨
      (r.out = .eofValue ∨ ∃ c s e, r.out = .error c s e) ∧ r.ast = errorExit orc input a)
    have ite3 := @ite_ind ResultA
      (fun r => (r.out = .eofValue ∨ ∃ c s e, r.out = .error c s e) ∧ r.ast = errorExit orc input a)
    exact .inr (ite2 (fun _ => .inl ⟨rfl, rfl⟩) fun _ => .inr (ite3 (fun _ => ⟨.inl rfl, rfl⟩) fun _ =>
      ite3 (fun _ => ⟨.inr ⟨_, _, _, rfl⟩, rfl⟩) fun _ => ⟨.inr ⟨_, _, _, rfl⟩, rfl⟩))

theorem errorExit_reqs (orc : Nat → Bool) (input : Bytes) (a : ASt) :
    (errorExit orc input a).reqs = (lineIndexA orc input a).2.reqs :=
  ite_ind (P := fun b : ASt => b.reqs = _) (fun _ => arenaDestroy_reqs false _) (fun _ => rfl)

end Edn.Proofs.AllocBasic
