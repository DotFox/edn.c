/-
  Erasing the cache cells of a tree (`eraseCache`): what the value algebra does not see.  `Eqv` and
  `pairwiseDistinct` of operands that differ in cache cells only agree (`transp_erase`); the elements the
  duplicate check hands back differ from those it was given in cache cells only
  (`hasDuplicatesF_snd_erase`); `eraseCache` commutes with what the reader does to a value it has read
  (`setMd`, the header replacements, `qualifyKey`, `metaEntries`).  That `equal` and the verdict of the
  duplicate check agree on such operands is in Edn.Proofs.AllocSimFault (`equal_erase`, `SameL.dup`).
  C14 (Dispatch), C16 (AllocSim, AllocSimFault) and the value half of C18 (FlagIndepValue) rest on
  these facts.
-/
import Edn.Proofs.Equal
import Edn.Model.Reader

namespace Edn.Proofs
open Edn.Model Edn.Spec

theorem eraseCache_cacheOnly {y x : Val} (h : CacheOnly y x) : eraseCache y = eraseCache x := by
  obtain ⟨c, rfl⟩ := h; exact eraseCache_setHdr_hc x c

theorem eraseCacheL_cons (x : Val) (xs : List Val) :
    eraseCacheL (x :: xs) = eraseCache x :: eraseCacheL xs := rfl

theorem eraseCacheL_eq_map : ∀ l : List Val, eraseCacheL l = l.map eraseCache
  | [] => rfl
  | x :: xs => by rw [eraseCacheL_cons, List.map_cons, eraseCacheL_eq_map xs]

theorem eraseCacheL_length' (l : List Val) : (eraseCacheL l).length = l.length := by
  rw [eraseCacheL_eq_map, List.length_map]

theorem transp_erase : Transp eraseCache := by
  intro v
  cases v <;> try rfl
  all_goals simp only [eraseCache, view, eraseCacheL_eq_map, List.map_id]

theorem depth_eraseCache (v : Val) : depth (eraseCache v) = depth v := transp_erase.depth v

theorem depthL_eraseCacheL (l : List Val) : depthL (eraseCacheL l) = depthL l := by
  rw [eraseCacheL_eq_map]; exact depthL_map l fun x _ => depth_eraseCache x

theorem depth_of_eraseCache {a a' : Val} (h : eraseCache a' = eraseCache a) : depth a' = depth a := by
  rw [← depth_eraseCache a', ← depth_eraseCache a, h]

theorem eraseCacheL_append (a b : List Val) : eraseCacheL (a ++ b) = eraseCacheL a ++ eraseCacheL b := by
  rw [eraseCacheL_eq_map, eraseCacheL_eq_map, eraseCacheL_eq_map, List.map_append]

theorem eraseCacheL_reverse (a : List Val) : eraseCacheL a.reverse = (eraseCacheL a).reverse := by
  rw [eraseCacheL_eq_map, eraseCacheL_eq_map, List.map_reverse]

theorem eraseCacheL_reverse_congr {a a' : List Val} (h : eraseCacheL a' = eraseCacheL a) :
    eraseCacheL a'.reverse = eraseCacheL a.reverse := by
  rw [eraseCacheL_reverse, eraseCacheL_reverse, h]

theorem eraseCacheL_cons_congr {x x' : Val} {a a' : List Val} (hx : eraseCache x' = eraseCache x)
    (h : eraseCacheL a' = eraseCacheL a) : eraseCacheL (x' :: a') = eraseCacheL (x :: a) := by
  rw [eraseCacheL_cons, eraseCacheL_cons, hx, h]

theorem eqvF_erase (cfg : Cfg) (f : Nat) (a b : Val) :
    eqvF cfg f (eraseCache a) (eraseCache b) = eqvF cfg f a b :=
  transp_erase.eqvF transp_erase cfg f a b

theorem Eqv_of_erase (cfg : Cfg) {a b a' b' : Val} (ha : eraseCache a' = eraseCache a)
    (hb : eraseCache b' = eraseCache b) : Eqv cfg a' b' ↔ Eqv cfg a b :=
  transp_erase.Eqv_of_eq cfg ha hb

theorem pairwiseDistinct_of_erase (cfg : Cfg) (xs xs' : List Val) (he : eraseCacheL xs' = eraseCacheL xs) :
    pairwiseDistinct cfg xs' ↔ pairwiseDistinct cfg xs := by
  rw [← transp_erase.pairwiseDistinct cfg xs', ← transp_erase.pairwiseDistinct cfg xs,
    ← eraseCacheL_eq_map, ← eraseCacheL_eq_map, he]

theorem hasDuplicatesF_snd_erase (cfg : Cfg) (c m : Bool) (xs : List Val) :
    eraseCacheL (hasDuplicatesF cfg c m xs).2 = eraseCacheL xs := by
  rw [eraseCacheL_eq_map, eraseCacheL_eq_map]
  exact (hasDuplicatesF_elems cfg c m xs).map_eq _ _ fun _ _ _ _ h => eraseCache_cacheOnly h

theorem hasDuplicates_snd_erase (cfg : Cfg) (xs : List Val) :
    eraseCacheL (hasDuplicates cfg xs).2 = eraseCacheL xs := by
  rw [← hasDuplicatesF_nofault]; exact hasDuplicatesF_snd_erase cfg true true xs

theorem erase_md (v : Val) : (eraseCache v).md = eraseCacheO v.md := by cases v <;> rfl

theorem erase_setMd (v : Val) (m : Option Val) : eraseCache (v.setMd m) = (eraseCache v).setMd (eraseCacheO m) := by
  cases v <;> rfl

theorem md_of_erase {v v0 : Val} (h : eraseCache v = eraseCache v0) : eraseCacheO v.md = eraseCacheO v0.md := by
  have := congrArg Val.md h
  rwa [erase_md, erase_md] at this

theorem setMd_of_erase {v v0 : Val} {m m0 : Option Val} (h : eraseCache v = eraseCache v0)
    (hm : eraseCacheO m = eraseCacheO m0) : eraseCache (v.setMd m) = eraseCache (v0.setMd m0) := by
  rw [erase_setMd, erase_setMd, h, hm]

/-- the header replacement of `edn_read_tagged` (the result of a handler gets the range of the tagged form) -/
theorem setRange_of_erase {v v0 : Val} (s e : Nat) (h : eraseCache v = eraseCache v0) :
    eraseCache (v.setHdr { v.hdr with s := s, e := e }) = eraseCache (v0.setHdr { v0.hdr with s := s, e := e }) := by
  rw [eraseCache_setHdr, eraseCache_setHdr, h]
  show (eraseCache v0).setHdr ⟨s, e, 0, v.hdr.synth⟩ = (eraseCache v0).setHdr ⟨s, e, 0, v0.hdr.synth⟩
  rw [(hdr_of_erase h).2.2]

/-- the header replacement of `edn_read_metadata` (new start offset): the ends agree already -/
theorem setStart_of_erase {v v0 : Val} (start : Nat) (h : eraseCache v = eraseCache v0) :
    eraseCache (v.setHdr { v.hdr with s := start }) = eraseCache (v0.setHdr { v0.hdr with s := start }) :=
  (setRange_of_erase start v.hdr.e h).trans (by rw [(hdr_of_erase h).2.1])

theorem erase_qualifyKey (n : Bytes) (k : Val) : eraseCache (qualifyKey n k) = qualifyKey n (eraseCache k) := by
  cases k with
  | kw h ns name => cases ns with
    | none => rfl
    | some n' => exact apply_ite eraseCache _ _ _
  | sym h md ns name => cases ns with
    | none => rfl
    | some n' => exact apply_ite eraseCache _ _ _
  | _ => rfl

theorem qualifyKey_of_erase (n : Bytes) {k k0 : Val} (h : eraseCache k = eraseCache k0) :
    eraseCache (qualifyKey n k) = eraseCache (qualifyKey n k0) := by
  have := congrArg (qualifyKey n) h
  rwa [← erase_qualifyKey, ← erase_qualifyKey] at this

theorem erase_metaTarget (v : Val) : (eraseCache v).metaTarget = v.metaTarget := by cases v <;> rfl

theorem metaTarget_of_erase {v v0 : Val} (h : eraseCache v = eraseCache v0) : v.metaTarget = v0.metaTarget := by
  have := congrArg Val.metaTarget h
  rwa [erase_metaTarget, erase_metaTarget] at this

def eraseEntries : Option (List Val × List Val) → Option (List Val × List Val)
  | none => none
  | some (ks, vs) => some (eraseCacheL ks, eraseCacheL vs)

theorem erase_metaEntries (m : Val) : metaEntries (eraseCache m) = eraseEntries (metaEntries m) := by
  cases m <;> rfl

theorem metaEntries_of_erase {m m0 : Val} (h : eraseCache m = eraseCache m0) :
    eraseEntries (metaEntries m) = eraseEntries (metaEntries m0) := by
  have := congrArg metaEntries h
  rwa [erase_metaEntries, erase_metaEntries] at this

theorem kw_of_erase {h : Hdr} {name : Bytes} {v0 : Val} (he : eraseCache (.kw h none name) = eraseCache v0) :
    ∃ h0, v0 = .kw h0 none name := by
  cases v0 with
  | kw h0 ns0 name0 =>
    injection he with _ hns hname
    subst hns hname
    exact ⟨h0, rfl⟩
  | _ => cases he

theorem AllocSim.not_kw_of_erase {v v0 : Val} (he : eraseCache v = eraseCache v0)
    (hv : ∀ h name, v = .kw h none name → False) : ∀ h name, v0 = .kw h none name → False := by
  intro h0 name e
  subst e
  obtain ⟨h, hk⟩ := kw_of_erase he.symm
  exact hv h name hk

theorem metaEntries_some_of_erase {m m0 : Val} {p : List Val × List Val} (h : eraseCache m = eraseCache m0)
    (hm : metaEntries m = some p) : ∃ p0, metaEntries m0 = some p0 := by
  have he := metaEntries_of_erase h
  rw [hm] at he
  cases h0 : metaEntries m0 with
  | none => rw [h0] at he; cases he
  | some p0 => exact ⟨p0, rfl⟩

theorem erase_map {h h0 : Hdr} {md md0 : Option Val} {ks ks0 vs vs0 : List Val}
    (hh : ({ h with hc := 0 } : Hdr) = { h0 with hc := 0 }) (hm : eraseCacheO md = eraseCacheO md0)
    (hk : eraseCacheL ks = eraseCacheL ks0) (hv : eraseCacheL vs = eraseCacheL vs0) :
    eraseCache (.map h md ks vs) = eraseCache (.map h0 md0 ks0 vs0) := by
  show Val.map _ _ _ _ = Val.map _ _ _ _
  rw [hh, hm, hk, hv]

theorem map_of_erase {h : Hdr} {md : Option Val} {ks vs : List Val} {w : Val}
    (he : eraseCache (.map h md ks vs) = eraseCache w) :
    ∃ h0 md0 ks0 vs0, w = .map h0 md0 ks0 vs0 ∧ ({ h with hc := 0 } : Hdr) = { h0 with hc := 0 } ∧
      eraseCacheO md = eraseCacheO md0 ∧ eraseCacheL ks = eraseCacheL ks0 ∧ eraseCacheL vs = eraseCacheL vs0 := by
  cases w with
  | map h0 md0 ks0 vs0 =>
    injection he with e1 e2 e3 e4
    exact ⟨h0, md0, ks0, vs0, rfl, e1, e2, e3, e4⟩
  | _ => cases he

end Edn.Proofs
