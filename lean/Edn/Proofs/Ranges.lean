/-
  C11 (value and error ranges) and the slice half of C01: every range stored in a tree the reader
  returns lies inside the input and encloses its children's pairwise non-overlapping ranges in
  reading order; every error range satisfies 0 <= start <= end <= length.
-/
import Edn.Proofs.RangesValue

namespace Edn.Proofs
open Edn.Model Edn.Spec
open Edn.Generated

/-- The postcondition for each shape of reader function: `readValue`; the element loops, which carry the
    invariant of their accumulator (only without a registry, as handlers return arbitrary values); the three
    functions entered after an opening token at `start`. -/
def PostC (ctx : Ctx) : Call6 → Res → Prop
  | .v _ _ st, r => Post ctx st.rest.length r
  | .s _ _ _ start st acc, r => st.rest.length < start →
      (ctx.opts.registry = none → AccS start st.rest.length acc) → Post ctx start r
  | .m _ _ start _ st ks vs, r => st.rest.length < start →
      (ctx.opts.registry = none → AccM start st.rest.length ks vs) → Post ctx start r
  | .n _ _ start st, r | .t _ _ start st, r | .me _ _ start st, r => st.rest.length < start → Post ctx start r

theorem post_err {ctx : Ctx} {n b : Nat} {code : Err} {st' : St} (h : b ≤ n) :
    Post ctx n (.err (mkErr code (some n) (some b)) st') := errB_some h (Nat.le_refl _)

theorem post_fuelOut {ctx : Ctx} {n : Nat} {st : St} (h : st.rest.length ≤ n) : Post ctx n (fuelOut st) :=
  ⟨Nat.le_refl _, h⟩

theorem post_loopErr {ctx : Ctx} {n start : Nat} {e : ErrInfo} {st' : St} (h : ErrB n e st') (hn : n ≤ start)
    (hs : st'.rest.length ≤ start) : Post ctx start (.err (loopErr start e st'.rest) st') :=
  ite_ind (P := fun e => ErrB start e st') (fun _ => errB_some hs (Nat.le_refl _)) fun _ => h.mono hn

/-- with a registry nothing is claimed about values; both errors span `start` to the stop position -/
theorem tagOut_post {ctx : Ctx} {dm : Bool} {start cur : Nat} {tag : Bytes} {v : Val} {st'' : St}
    (hv : ctx.opts.registry = none → OkPost cur v st'') (hcur : cur ≤ start) (hstop : st''.rest.length < start) :
    Post ctx start (tagOut ctx dm start tag v st'') := by
  cases hreg : ctx.opts.registry with
  | none =>
    rw [tagOut_none hreg]
    have hv := hv hreg
    exact fun _ => okPost_fresh ⟨Or.inr hstop, (hv.within.mono hcur (Nat.le_refl _)).encloses, hv.rok, rangeOKO_none _⟩
      rfl rfl trivial hstop rfl
  | some reg =>
    have hok : ∀ (w : Val) (s : St), Post ctx start (.ok w s) := fun _ _ hn => by rw [hreg] at hn; cases hn
    have hbad : ∀ {code : Err} (s : St), Post ctx start (.err (mkErr code (some start) (some st''.rest.length)) s) :=
      fun _ => post_err (Nat.le_of_lt hstop)
    unfold tagOut
    rw [hreg]
    dsimp only
    refine ite_ind (fun _ => hok _ _) fun _ => ?_
    split
    · split
      · exact hbad _
      · exact hok _ _
    · exact ite_ind (fun _ => hok _ _) fun _ => ite_ind (fun _ => hbad _) fun _ => hok _ _

/-- `hA`: a sub-call stops behind where it began, and so does the step (`fin`).  An error raised on the spot
    spans `start` to where the step stops; a value is closed there over what the accumulator holds. -/
theorem PostC.step {ctx : Ctx} {R : Call6 → Res} (hA : ∀ c, Answer ctx c (R c)) (hR : ∀ c, PostC ctx c (R c))
    {c : Call6} {r : Res} (h : StepRel ctx R c r) : PostC ctx c r := by
  have into {c r} (h : R c = r) : PostC ctx c r := h ▸ hR c
  have post {d dm st r} (h : R (.v d dm st) = r) : Post ctx st.rest.length r := into h
  have lt {d dm st v st'} (h : R (.v d dm st) = .ok v st') : st'.rest.length < st.rest.length :=
    (h ▸ hA (.v d dm st) : Ans _ _ _ st (.ok v st')).progress
  have ident {st r} (h : readIdentifier ctx st = r) : Progress st r ∧ Post ctx st.rest.length r :=
    h ▸ ⟨readIdentifier_progress ctx st, (readIdentifier_leafRes ctx st).post.post (readIdentifier_progress ctx st)⟩
  have ws {st : St} {c cs} (hw : skipWs st.rest = c :: cs) : (c :: cs).length ≤ st.rest.length :=
    hw ▸ skipWs_length_le st.rest
  have fin : r.st.rest.length ≤ c.st.rest.length := (step_answer ctx hA h).progress.st_le
  have stop {start} (hst : c.st.rest.length < start) : r.st.rest.length ≤ start := Nat.le_trans fin (Nat.le_of_lt hst)
  cases h with
  | vEof => exact ⟨Nat.le_refl _, Nat.zero_le _⟩
  | vLeaf hw hrt =>
    exact (((route_bytes hrt).leafCall ctx _).leaf.elim fun _ h =>
      h.2.post.post ((route_bytes hrt).leafCall ctx _).progress).mono (ws hw)
  | vDeep hw | vSkipCloser hw => exact ErrB.mono (errB_some (Nat.sub_le _ _) (Nat.le_refl _)) (ws hw)
  | vStray hw => exact ErrB.mono (errB_none (Nat.le_refl _)) (ws hw)
  | vCloser => trivial
  | vSeq hw hrt hr =>
    exact (into hr (Nat.lt_succ_of_le (route_bytes hrt).seq_le.length_le) fun _ => AccS.nil _ _).mono (ws hw)
  | vMap hw _ hr => exact (into hr (Nat.lt_succ_self _) fun _ => AccM.nil _ _).mono (ws hw)
  | vNsmap hw _ hr | vTagged hw _ hr | vMeta hw _ hr => exact (into hr (Nat.lt_succ_self _)).mono (ws hw)
  | vSkipOk hw hrt hv hr =>
    have := ws hw; have := (route_bytes hrt).skip_lt; have := lt hv
    exact (post hr).mono (by simp only [List.length_cons] at *; omega)
  | vSkipErr hw hrt hv =>
    have := ws hw; have := (route_bytes hrt).skip_lt
    exact ErrB.mono (post hv) (by simp only [List.length_cons] at *; omega)
  | sNext hv hr =>
    exact fun hst hacc => into hr (Nat.lt_trans (lt hv) hst)
      fun hreg => (hacc hreg).push (post hv hreg) (Nat.le_of_lt hst)
  | sList => exact fun hst hacc hreg => ((hacc hreg).close ctx.cfg fin (Nat.lt_of_le_of_lt fin hst) rfl).1
  | sVec => exact fun hst hacc hreg => ((hacc hreg).close ctx.cfg fin (Nat.lt_of_le_of_lt fin hst) rfl).2.1
  | sSet => exact fun hst hacc hreg => ((hacc hreg).close ctx.cfg fin (Nat.lt_of_le_of_lt fin hst) rfl).2.2
  | mNext hv hv2 hr =>
    intro hst hacc
    refine into hr (Nat.lt_trans (lt hv2) (Nat.lt_trans (lt hv) hst))
      fun hreg => (hacc hreg).push (post hv hreg) (post hv2 hreg) (Nat.le_of_lt hst) ?_
    split
    · exact qualifyKey_ok _ _ (post hv hreg).rok
    · exact ⟨(post hv hreg).rok, Or.inr rfl⟩
  | mOk => exact fun hst hacc hreg => (hacc hreg).close ctx.cfg fin (Nat.lt_of_le_of_lt fin hst) rfl
  | sErr hv | mErr hv => exact fun hst _ => post_loopErr (post hv) (Nat.le_of_lt hst) (stop hst)
  | mErr₂ hv hv2 => exact fun hst _ => post_loopErr (post hv2) (Nat.le_of_lt (Nat.lt_trans (lt hv) hst)) (stop hst)
  | sStray | mStray => exact fun hst _ => post_err (Nat.le_trans (Nat.sub_le _ _) (stop hst))
  | sDup | mOdd | mEof | mDup => exact fun hst _ => post_err (stop hst)
  | nNext hv hw hr =>
    exact fun hst => into hr (Nat.lt_of_lt_of_le (Nat.lt_succ_self _) (Nat.le_trans (ws hw)
      (Nat.le_of_lt (Nat.lt_trans (lt hv) hst)))) fun _ => AccM.nil _ _
  | tOk _ _ hr hv =>
    exact fun hst => tagOut_post (post hv) (Nat.le_of_lt (Nat.lt_trans (ident hr).1 hst))
      (Nat.lt_trans (lt hv) (Nat.lt_trans (ident hr).1 hst))
  | meOk hv hm hv2 ht =>
    exact fun hst hreg => attachMeta_ok ctx.cfg (post hv2 hreg) (metaEntries_ok (post hv hreg) hm)
      (Nat.le_of_lt (lt hv)) (Nat.le_of_lt hst) ht
  | nCloser | tIdCloser => exact fun _ => trivial
  | nErr hv | meErr hv => exact fun hst => ErrB.mono (post hv) (Nat.le_of_lt hst)
  | tIdErr _ _ hr => exact fun hst => ErrB.mono (ident hr).2 (Nat.le_of_lt hst)
  | tErr _ _ hr hv => exact fun hst => ErrB.mono (post hv) (Nat.le_of_lt (Nat.lt_trans (ident hr).1 hst))
  | meErr₂ hv _ hv2 => exact fun hst => ErrB.mono (post hv2) (Nat.le_of_lt (Nat.lt_trans (lt hv) hst))
  | nBad | nNoBrace | tEof | tWs | tNotSym | tCloser | meCloser | meNoEntries | meCloser₂ | meNoTarget =>
    exact fun hst => post_err (stop hst)

theorem PostC.fuelOut (ctx : Ctx) : ∀ c : Call6, PostC ctx c (fuelOut c.st)
  | .v .. => post_fuelOut (ctx := ctx) (Nat.le_refl _)
  | .s .. | .m .. => fun h _ => post_fuelOut (Nat.le_of_lt h)
  | .n .. | .t .. | .me .. => fun h => post_fuelOut (Nat.le_of_lt h)

theorem run_post (ctx : Ctx) (f : Nat) : ∀ c, PostC ctx c (run ctx f c) :=
  run_ind ctx (P := fun _ R => ∀ c, PostC ctx c (R c)) (PostC.fuelOut ctx)
    (fun f ih c => PostC.step (run_answer ctx f) ih (step_rel c)) f

theorem readValue_post (ctx : Ctx) (f d : Nat) (dm : Bool) (st : St) :
    Post ctx st.rest.length (readValue ctx f d dm st) := run_post ctx f (.v d dm st)

/-- in remaining-length coordinates: the value starts at or after the position where reading
    began, ends exactly where reading stopped, and covers at least one byte -/
def SpanOf (before : St) (v : Val) (after : St) : Prop :=
  v.hdr.synth = false ∧ v.hdr.e = after.rest.length ∧ after.rest.length < v.hdr.s ∧ v.hdr.s ≤ before.rest.length

/-- without a handler registry (handlers may return arbitrary values), every value
    `edn_read_value` returns satisfies the range conditions and spans exactly the bytes read -/
theorem readValue_ranges (ctx : Ctx) (hreg : ctx.opts.registry = none) (f d : Nat) (dm : Bool) (st st' : St) (v : Val)
    (h : readValue ctx f d dm st = .ok v st') : RangeOK v ∧ SpanOf st v st' := by
  have q := readValue_post ctx f d dm st
  rw [h] at q
  have hv : OkPost st.rest.length v st' := q hreg
  exact ⟨hv.rok, hv.nsyn, hv.he, hv.hlt, hv.hs⟩

theorem read_value_ranges (cfg : Cfg) (opts : Opts) (hreg : opts.registry = none) (input : Bytes) (v : Val)
    (h : (read cfg opts input).out = .value v) :
    RangeOK v ∧ v.hdr.s ≤ input.length ∧ v.hdr.e < v.hdr.s := by
  obtain ⟨st, hr⟩ := read_out_value h
  obtain ⟨h1, -, h2, h3, h4⟩ := readValue_ranges { cfg := cfg, opts := opts } hreg _ _ _ _ _ _ hr
  exact ⟨h1, h4, by omega⟩

end Edn.Proofs
