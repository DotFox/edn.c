/-
  "Re-readable" values: every value in the tree that has a source range is read again, at top
  level, from the bytes of that range.  The predicate is closed under the value-rewriting steps of
  the reader, and the induction over the six reader functions makes every returned value
  hereditarily re-readable.  The value itself: `readValue` dispatches where `skipWs` stops, the value
  starts there and ends where the cursor is left, so its bytes are the input between the two; what
  follows them is cut off (`readValue_cut`), the nesting depth does not matter (`readValue_depth_le`).
  Behind a discarded form the value is that of the second call, which is re-readable already.
-/
import Edn.Proofs.ReReadCut

namespace Edn.Proofs
open Edn.Model Edn.Spec
open Edn.Generated

def kidsOf (v : Val) : List Val := children v ++ v.md.toList

theorem subVal_of_kid {w c v : Val} (hc : c ∈ kidsOf v) (h : SubVal w c) : SubVal w v := by
  simp only [kidsOf, List.mem_append, Option.mem_toList] at hc
  rcases hc with hc | hc
  · cases v <;> simp only [children, List.not_mem_nil] at hc
    case list hh md xs => exact SubVal.list w hh md xs c hc h
    case vec hh md xs => exact SubVal.vec w hh md xs c hc h
    case set hh md xs => exact SubVal.set w hh md xs c hc h
    case map hh md ks vs =>
      rcases List.mem_append.1 hc with hc | hc
      · exact SubVal.mapKey w hh md ks vs c hc h
      · exact SubVal.mapVal w hh md ks vs c hc h
    case tagged hh md tg x =>
      simp only [List.mem_cons, List.not_mem_nil, or_false] at hc
      subst hc
      exact SubVal.tagged w hh md tg c h
  · exact SubVal.mdata w v c hc h

theorem subVal_cases_kid {w v : Val} (h : SubVal w v) : w = v ∨ ∃ c ∈ kidsOf v, SubVal w c := by
  cases h with
  | refl => exact Or.inl rfl
  | list hh md xs x hx hs => exact Or.inr ⟨x, by simp [kidsOf, children, hx], hs⟩
  | vec hh md xs x hx hs => exact Or.inr ⟨x, by simp [kidsOf, children, hx], hs⟩
  | set hh md xs x hx hs => exact Or.inr ⟨x, by simp [kidsOf, children, hx], hs⟩
  | mapKey hh md ks vs x hx hs => exact Or.inr ⟨x, by simp [kidsOf, children, hx], hs⟩
  | mapVal hh md ks vs x hx hs => exact Or.inr ⟨x, by simp [kidsOf, children, hx], hs⟩
  | tagged hh md tg x hs => exact Or.inr ⟨x, by simp [kidsOf, children], hs⟩
  | mdata _ m hm hs => exact Or.inr ⟨m, by simp [kidsOf, hm], hs⟩

/-- `RR`: `w` (if it has a source range) is read again from the bytes of its range.  `HRR`: so is
    every value occurring in it; `HRRL` the same for a list, `HK` for the immediate operands. -/
def RR (ctx : Ctx) (inp : Bytes) (w : Val) : Prop :=
  w.hdr.synth = false → ∃ f w', readValue ctx f 0 false { rest := sliceOf inp w.hdr, calls := [] }
      = .ok w' { rest := [], calls := [] } ∧ eraseCache (shiftV w.hdr.e w') = eraseCache w

def HRR (ctx : Ctx) (inp : Bytes) (v : Val) : Prop := ∀ w, SubVal w v → RR ctx inp w

def HRRL (ctx : Ctx) (inp : Bytes) (xs : List Val) : Prop := ∀ x ∈ xs, HRR ctx inp x

def HK (ctx : Ctx) (inp : Bytes) (v : Val) : Prop := HRRL ctx inp (kidsOf v)

theorem HRR.intro {ctx : Ctx} {inp : Bytes} {v : Val} (h0 : RR ctx inp v) (hk : HK ctx inp v) : HRR ctx inp v := by
  intro w hw
  rcases subVal_cases_kid hw with rfl | ⟨c, hc, hs⟩
  · exact h0
  · exact hk c hc w hs

theorem HRR.kids {ctx : Ctx} {inp : Bytes} {v : Val} (h : HRR ctx inp v) : HK ctx inp v :=
  fun _ hc w hw => h w (subVal_of_kid hc hw)

theorem HRR.of_synth {ctx : Ctx} {inp : Bytes} {v : Val} (hs : v.hdr.synth = true) (hk : HK ctx inp v) :
    HRR ctx inp v := by
  apply HRR.intro _ hk
  intro h; rw [hs] at h; cases h

theorem HK.of_nil {ctx : Ctx} {inp : Bytes} {v : Val} (hk : kidsOf v = []) : HK ctx inp v := by
  intro c hc; rw [hk] at hc; cases hc

theorem HRR.of_synth_leaf {ctx : Ctx} {inp : Bytes} {v : Val} (hs : v.hdr.synth = true) (hk : kidsOf v = []) :
    HRR ctx inp v :=
  HRR.of_synth hs (HK.of_nil hk)

theorem kidsOf_setHdr (x : Val) (h : Hdr) : kidsOf (x.setHdr h) = kidsOf x := by
  cases x <;> rfl

theorem HRR.setHc {ctx : Ctx} {inp : Bytes} {x : Val} (h : HRR ctx inp x) (c : UInt64) :
    HRR ctx inp (x.setHdr { x.hdr with hc := c }) := by
  apply HRR.intro
  · intro hs
    rw [hdr_setHdr] at hs
    obtain ⟨f, w', h1, h2⟩ := h x (SubVal.refl x) hs
    refine ⟨f, w', ?_, ?_⟩
    · rw [hdr_setHdr]; exact h1
    · rw [hdr_setHdr, eraseCache_setHdr_hc]; exact h2
  · unfold HK; rw [kidsOf_setHdr]; exact h.kids

theorem HRRL.hasDuplicates {ctx : Ctx} {inp : Bytes} {xs : List Val} (h : HRRL ctx inp xs) :
    HRRL ctx inp (hasDuplicates ctx.cfg xs).2 := by
  intro y hy
  obtain ⟨x, hx, c, rfl⟩ := (hasDuplicates_elems ctx.cfg xs).mem_left y hy
  exact (h x hx).setHc c

theorem HRRL.reverse {ctx : Ctx} {inp : Bytes} {xs : List Val} (h : HRRL ctx inp xs) : HRRL ctx inp xs.reverse :=
  fun x hx => h x (List.mem_reverse.1 hx)

theorem HRRL.cons {ctx : Ctx} {inp : Bytes} {x : Val} {xs : List Val} (hx : HRR ctx inp x) (h : HRRL ctx inp xs) :
    HRRL ctx inp (x :: xs) := by
  intro y hy
  rcases List.mem_cons.1 hy with rfl | hy
  · exact hx
  · exact h y hy

theorem HRRL.nil {ctx : Ctx} {inp : Bytes} : HRRL ctx inp [] := fun _ h => by cases h

theorem HRRL.append {ctx : Ctx} {inp : Bytes} {xs ys : List Val} (hx : HRRL ctx inp xs) (hy : HRRL ctx inp ys) :
    HRRL ctx inp (xs ++ ys) := by
  intro y h
  rcases List.mem_append.1 h with h | h
  · exact hx y h
  · exact hy y h

theorem HRR.qualifyKey {ctx : Ctx} {inp : Bytes} {k : Val} (n : Bytes) (h : HRR ctx inp k) :
    HRR ctx inp (qualifyKey n k) := by
  rcases qualifyKey_cases n k with e | ⟨_, _, e⟩ | ⟨_, _, e⟩ <;> rw [e]
  · exact h
  · exact HRR.of_synth_leaf rfl rfl
  · exact HRR.of_synth_leaf rfl rfl

theorem HRR.qualifyNs {ctx : Ctx} {inp : Bytes} {k : Val} (ns : Option Bytes) (h : HRR ctx inp k) :
    HRR ctx inp (qualifyNs ns k) := by
  cases ns with
  | none => exact h
  | some n => exact h.qualifyKey n

theorem metaEntries_hrr {ctx : Ctx} {inp : Bytes} {m : Val} {nks nvs : List Val} (h : HRR ctx inp m)
    (he : metaEntries m = some (nks, nvs)) : HRRL ctx inp nks ∧ HRRL ctx inp nvs := by
  have hsyn1 : HRR ctx inp (.bool synthHdr true) := HRR.of_synth_leaf rfl rfl
  have hsyn2 : ∀ nm, HRR ctx inp (.kw synthHdr none nm) := fun nm => HRR.of_synth_leaf rfl rfl
  cases m <;> simp only [metaEntries] at he <;> cases he
  case map =>
    have hk := h.kids
    exact ⟨fun x hx => hk x (by simp [kidsOf, children, hx]), fun x hx => hk x (by simp [kidsOf, children, hx])⟩
  case kw => exact ⟨HRRL.cons h HRRL.nil, HRRL.cons hsyn1 HRRL.nil⟩
  case vec => exact ⟨HRRL.cons (hsyn2 _) HRRL.nil, HRRL.cons h HRRL.nil⟩
  case str => exact ⟨HRRL.cons (hsyn2 _) HRRL.nil, HRRL.cons h HRRL.nil⟩
  case sym => exact ⟨HRRL.cons (hsyn2 _) HRRL.nil, HRRL.cons h HRRL.nil⟩

theorem kidsOf_setMd (x : Val) (m : Val) (ht : x.metaTarget = true) : kidsOf (x.setMd (some m)) = children x ++ [m] := by
  cases x <;> first | rfl | cases ht

theorem attachMeta_hk {ctx : Ctx} {inp : Bytes} {m form : Val} {nks nvs : List Val} {n : Nat} {st'' : St} (start : Nat)
    (hf : HRR ctx inp form) (hpost : OkPost n form st'') (hk : HRRL ctx inp nks) (hv : HRRL ctx inp nvs)
    (ht : form.metaTarget = true) :
    HK ctx inp ((attachMeta ctx.cfg m form nks nvs).setHdr { (attachMeta ctx.cfg m form nks nvs).hdr with s := start }) := by
  unfold HK
  rw [kidsOf_setHdr, attachMeta_eq, kidsOf_setMd _ _ ht]
  apply HRRL.append
  · exact fun c hc => hf.kids c (by simp [kidsOf, hc])
  · apply HRRL.cons _ HRRL.nil
    rcases newMd_cases ctx.cfg form nks nvs with ⟨mh, mmd, ks, vs, hmd, e⟩ | ⟨-, e⟩ <;> rw [e]
    · obtain ⟨hsy, -⟩ := hpost.mdtop mh mmd ks vs hmd
      have hold : HRR ctx inp (.map mh mmd ks vs) := hf.kids _ (by simp [kidsOf, hmd])
      have hok := hold.kids
      obtain ⟨s1, s2, -⟩ := keepOld_sublist ctx.cfg nks ks vs
      apply HRR.of_synth (v := .map mh mmd _ _) hsy
      intro c hc
      simp only [kidsOf, children, Val.md, List.mem_append, Option.mem_toList] at hc
      rcases hc with ((hc | hc) | (hc | hc)) | hc
      · exact hk c hc
      · exact hok c (by simp [kidsOf, children, s1.subset hc])
      · exact hv c hc
      · exact hok c (by simp [kidsOf, children, s2.subset hc])
      · exact hok c (by simp [kidsOf, Val.md, hc])
    · apply HRR.of_synth (v := .map synthHdr none nks nvs) rfl
      intro c hc
      simp only [kidsOf, children, Val.md, Option.toList_none, List.append_nil, List.mem_append] at hc
      rcases hc with hc | hc
      · exact hk c hc
      · exact hv c hc

theorem sliceOf_eq (p t r : Bytes) (h : Hdr) (hs : h.s = t.length + r.length) (he : h.e = r.length) :
    sliceOf (p ++ (t ++ r)) h = t := by
  unfold sliceOf
  rw [hs, he, Nat.add_sub_cancel, List.length_append, List.length_append, Nat.add_sub_cancel, List.drop_left,
    List.take_left]

theorem rr_self (ctx : Ctx) (hreg : ctx.opts.registry = none) (inp : Bytes) (f d : Nat) (dm : Bool) (s : Bytes) (st' : St)
    (v : Val) (hsuf : s <:+ inp) (h : readValue ctx f d dm { rest := s, calls := [] } = .ok v st')
    (hs : v.hdr.s = s.length) : RR ctx inp v := by
  intro _
  obtain ⟨hsuf', hcl'⟩ := readValue_rest_suffix ctx hreg f d dm _ _ _ h
  obtain ⟨-, -, he, -, -⟩ := readValue_ranges ctx hreg _ _ _ _ _ _ h
  obtain ⟨r, cl'⟩ := st'
  dsimp only at hsuf' hcl' he
  subst hcl'
  obtain ⟨t, rfl⟩ := hsuf'
  obtain ⟨p, rfl⟩ := hsuf
  obtain ⟨v', hsmall, hshift⟩ := readValue_cut ctx hreg f d dm t r [] [] v h
  refine ⟨f, v', ?_, by rw [he, hshift]⟩
  rw [sliceOf_eq p t r v.hdr (hs.trans (List.length_append ..)) he]
  exact readValue_depth_le ctx hreg f d 0 dm false _ _ _ (Nat.zero_le _) hsmall

theorem HK.of_children {ctx : Ctx} {inp : Bytes} {v : Val} (hmd : v.md = none) (h : HRRL ctx inp (children v)) :
    HK ctx inp v := by
  unfold HK kidsOf
  rw [hmd, Option.toList_none, List.append_nil]
  exact h

theorem kidsOf_of_isLeaf {v : Val} (h : isLeaf v = true) : kidsOf v = [] := by
  cases v
  case sym md _ _ =>
    cases md with
    | none => rfl
    | some m => exact absurd h Bool.false_ne_true
  all_goals first | rfl | exact absurd h Bool.false_ne_true

theorem readIdentifier_suffix (ctx : Ctx) (st st' : St) (v : Val) (h : readIdentifier ctx st = .ok v st') :
    st'.rest <:+ st.rest ∧ st'.calls = st.calls := by
  have hc := (readIdentifier_leafRes ctx st).calls
  rw [h] at hc
  exact ⟨readIdentifier_rest_suffix h, hc⟩

theorem suffix_of_cons {c : UInt8} {cs inp : Bytes} (h : (c :: cs) <:+ inp) : cs <:+ inp :=
  List.IsSuffix.trans (List.suffix_cons c cs) h

/-- Read from a suffix of `inp` on an empty call log, a value `readValue` returns is hereditarily
    re-readable.  What the other five return (entered behind an opening token at `start`) starts at
    `start` and has re-readable operands, given that the accumulators are: with that, one level up,
    it is read again from its own bytes. -/
def Sub (ctx : Ctx) (inp : Bytes) (c : Call6) (r : Res) : Prop :=
  ∀ v st', r = .ok v st' → c.st.rest <:+ inp → c.st.calls = [] →
    match c with
    | .v .. => HRR ctx inp v
    | .s _ _ _ start _ acc => v.hdr.s = start ∧ (HRRL ctx inp acc → HK ctx inp v)
    | .m _ _ start _ _ ks vs => v.hdr.s = start ∧ (HRRL ctx inp ks → HRRL ctx inp vs → HK ctx inp v)
    | .n _ _ start _ | .t _ _ start _ | .me _ _ start _ => v.hdr.s = start ∧ HK ctx inp v

theorem Sub.step {ctx : Ctx} (hreg : ctx.opts.registry = none) (inp : Bytes) (f : Nat)
    (ih : ∀ c, Sub ctx inp c (run ctx f c)) {c : Call6} {r : Res} (h : StepRel ctx (run ctx f) c r) : Sub ctx inp c r := by
  intro v st' e hsuf hcl
  have sub {d dm st x st1} (hv : run ctx f (.v d dm st) = .ok x st1) (hs : st.rest <:+ inp) (hc : st.calls = []) :
      st1.rest <:+ inp ∧ st1.calls = [] ∧ HRR ctx inp x := by
    obtain ⟨f1, f2⟩ := readValue_rest_suffix ctx hreg f d dm st st1 x hv
    exact ⟨f1.trans hs, f2.trans hc, ih _ x st1 hv hs hc⟩
  -- a value that `readValue` returns where `skipWs` stopped: it starts there and its children re-read, so it re-reads
  -- itself (`rr_self`; the run on the value's own bytes is this run, blanks skipped)
  have top {d dm st c0 cs} (hc : c = .v d dm st) (hw : skipWs st.rest = c0 :: cs)
      (hk : v.hdr.s = (c0 :: cs).length ∧ HK ctx inp v) : HRR ctx inp v := by
    subst hc
    obtain ⟨s, cl⟩ := st
    cases hcl
    refine HRR.intro (rr_self ctx hreg inp (f + 1) d dm _ st' v ((hw ▸ skipWs_suffix s).trans hsuf) ?_ hk.1) hk.2
    exact hw ▸ ((run_succ ..).trans ((step_v_skip ..).trans (run_succ ..).symm)).trans ((run_of_rule h).trans e)
  have hws {st : St} {c cs} (hs : st.rest <:+ inp) (hw : skipWs st.rest = c :: cs) : cs <:+ inp :=
    suffix_of_cons ((hw ▸ skipWs_suffix st.rest).trans hs)
  cases h with
  | @vLeaf _ _ st _ _ _ hw hrt =>
    obtain ⟨_, -, hl⟩ := ((route_bytes hrt).leafCall ctx st.calls).leaf
    have := hl.post
    rw [e] at this
    exact top rfl hw ⟨congrArg Hdr.s this.2, HK.of_nil (kidsOf_of_isLeaf this.1)⟩
  | vSeq hw hrt hr =>
    exact top rfl hw ((ih _ v st' (hr.trans e) ((route_bytes hrt).seq_le.trans (hws hsuf hw)) hcl).imp_right (· HRRL.nil))
  | vMap hw hrt hr => exact top rfl hw ((ih _ v st' (hr.trans e) (hws hsuf hw) hcl).imp_right (· HRRL.nil HRRL.nil))
  | vNsmap hw hrt hr | vTagged hw hrt hr | vMeta hw hrt hr => exact top rfl hw (ih _ v st' (hr.trans e) (hws hsuf hw) hcl)
  -- a discarded form, then the value: the value is that of the second call
  | vSkipOk hw hrt hv hr =>
    obtain ⟨h1, h2, -⟩ := sub hv (suffix_of_cons ((route_bytes hrt).2.2 ▸ hws hsuf hw)) hcl
    exact ih _ v st' (hr.trans e) h1 h2
  | sNext hv hr =>
    obtain ⟨h1, h2, hx⟩ := sub hv hsuf hcl
    exact (ih _ v st' (hr.trans e) h1 h2).imp_right fun k hacc => k (HRRL.cons hx hacc)
  | sList hv hs hk => cases e; exact ⟨rfl, fun hacc => HK.of_children rfl hacc.reverse⟩
  | sVec hv hs hk => cases e; exact ⟨rfl, fun hacc => HK.of_children rfl hacc.reverse⟩
  | sSet hv hs hk0 hk1 hdup => cases e; exact ⟨rfl, fun hacc => HK.of_children rfl hacc.reverse.hasDuplicates⟩
  | mNext hv hv2 hr =>
    obtain ⟨h1, h2, hk⟩ := sub hv hsuf hcl
    obtain ⟨h3, h4, hx⟩ := sub hv2 h1 h2
    exact (ih _ v st' (hr.trans e) h3 h4).imp_right fun k hks hvs =>
      k (HRRL.cons (hk.qualifyNs _) hks) (HRRL.cons hx hvs)
  | mOk hv hs hdup =>
    cases e
    exact ⟨rfl, fun hks hvs => HK.of_children rfl (hks.reverse.hasDuplicates.append hvs.reverse)⟩
  | nNext hv hw hr =>
    obtain ⟨h1, h2, -⟩ := sub hv hsuf hcl
    exact (ih _ v st' (hr.trans e) (hws h1 hw) h2).imp_right (· HRRL.nil HRRL.nil)
  | tOk hs hc hr hv =>
    rw [tagOut_none hreg] at e
    cases e
    obtain ⟨f1, f2⟩ := readIdentifier_suffix ctx _ _ _ hr
    exact ⟨rfl, HK.of_children rfl (HRRL.cons (sub hv (f1.trans hsuf) (f2.trans hcl)).2.2 HRRL.nil)⟩
  | @meOk d dm start _ m st1 p form _ hv hm hv2 ht =>
    cases e
    obtain ⟨h1, h2, hm'⟩ := sub hv hsuf hcl
    obtain ⟨hk, hvs⟩ := metaEntries_hrr hm' hm
    have q2 : Post ctx _ (run ctx f (.v (d + 1) dm st1)) := run_post ctx f (.v (d + 1) dm st1)
    rw [hv2] at q2
    exact ⟨congrArg Hdr.s (hdr_setHdr ..), attachMeta_hk start (sub hv2 h1 h2).2.2 (q2 hreg) hk hvs ht⟩
  | _ => cases e

theorem run_sub (ctx : Ctx) (hreg : ctx.opts.registry = none) (inp : Bytes) (f : Nat) : ∀ c, Sub ctx inp c (run ctx f c) :=
  run_ind ctx (P := fun _ R => ∀ c, Sub ctx inp c (R c)) (fun _ _ _ e => nomatch e)
    (fun f ih c => Sub.step hreg inp f ih (step_rel c)) f

theorem readValue_hrr (ctx : Ctx) (hreg : ctx.opts.registry = none) (inp : Bytes) (f d : Nat) (dm : Bool) (st : St)
    (v : Val) (st' : St) (hsuf : st.rest <:+ inp) (hcl : st.calls = []) (h : readValue ctx f d dm st = .ok v st') :
    HRR ctx inp v :=
  run_sub ctx hreg inp f (.v d dm st) v st' h hsuf hcl

theorem readValue_ok_fuel (ctx : Ctx) (f f' d : Nat) (dm : Bool) (st st' : St) (v : Val)
    (h : readValue ctx f d dm st = .ok v st') (hf : 2 * st.rest.length + 2 ≤ f') :
    readValue ctx f' d dm st = .ok v st' :=
  Evals.of_run (c := .v d dm st) h rfl f' hf

end Edn.Proofs
