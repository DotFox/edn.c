/-
  The duplicate check (pairwise / sorted copy / hash table) of a collection whose elements have `S`
  nodes in total costs at most `1 + ℓ * (4 * S * S)` units of the potential under a fault-free oracle
  (its scratch array and four looks per pair of nodes): read off the `Look`s of Edn.Proofs.AllocSimDup,
  where the strategies are followed; the builders cost one request per element (two per map entry) at
  most; the metadata merge at most `5 + ℓ * (2 * (nodes of the form) * (nodes of the new keys))`.
-/
import Edn.Proofs.AllocSimDup

namespace Edn.Proofs.AllocBound
open Edn.Model Edn.Proofs.AllocBasic Edn.Proofs.AllocLook
open Edn.Proofs.AllocSim (hasDupLinearA_look hasDupSortedA_look hasDupTableA_look)

theorem msortTouch_length : ∀ (f lo n : Nat), (msortTouch f lo n).length ≤ n ∧
    (n = 1 → (msortTouch f lo n).length = 0) := by
  intro f
  induction f with
  | zero => intro lo n; simp [msortTouch]
  | succ f ih =>
    intro lo n
    unfold msortTouch
    split
    · simp
    · next hn =>
      have h1 := ih lo (n / 2)
      have h2 := ih (lo + n / 2) (n - n / 2)
      dsimp only
      simp only [List.length_append]
      refine ⟨?_, fun h => absurd h (by omega)⟩
      have e1 : (if (n / 2 == 1) = true then [lo] else []).length + (msortTouch f lo (n / 2)).length ≤ n / 2 := by
        split
        · next h => have := h1.2 (by simpa using h); simp only [List.length_singleton]; omega
        · simp only [List.length_nil]; omega
      have e2 : (if (n - n / 2 == 1) = true then [lo + n / 2] else []).length +
          (msortTouch f (lo + n / 2) (n - n / 2)).length ≤ n - n / 2 := by
        split
        · next h => have := h2.2 (by simpa using h); simp only [List.length_singleton]; omega
        · simp only [List.length_nil]; omega
      omega

section
variable {N ℓ : Nat} {x : ACtx} (horc : ∀ n, x.orc n = false)
include horc

theorem hasDupSortedA_stp (hst : ∀ n, ℓ * (x.sortTouch n).length ≤ ℓ * n) (xs : List Val) (a : ASt)
    (g : FitL x.ctx.cfg N ℓ xs) (ha : a.arena = .alive) :
    Stp N (1 + ℓ * (4 * (szL xs * szL xs))) a (hasDupSortedA x xs a).2 := by
  refine ((hasDupSortedA_look xs a g).stp horc ha).mono (Nat.add_le_add_left ?_ _)
  -- what `qsort` touches matters only if a look costs something
  rcases Nat.eq_zero_or_pos ℓ with hz | hpos
  · subst hz; simp only [Nat.zero_mul, Nat.le_refl]
  · have hm := length_le_szL xs
    have ht := Nat.le_of_mul_le_mul_left (hst xs.length) hpos
    have b := Nat.mul_le_mul_right (szL xs) (Nat.add_le_add (Nat.le_trans ht hm) hm)
    rw [← Nat.two_mul, Nat.mul_assoc] at b
    apply Nat.mul_le_mul_left
    omega

theorem hasDupTableA_stp (xs : List Val) (a : ASt) (g : FitL x.ctx.cfg N ℓ xs) (ha : a.arena = .alive) :
    Stp N (1 + ℓ * (4 * (szL xs * szL xs))) a (hasDupTableA x xs a).2 := by
  obtain ⟨⟨i, hi⟩, -⟩ := rawAlloc_ff (N := N) horc .calloc a ha
  refine ((hasDupTableA_look xs (Prod.ext hi rfl) g).stp horc ha).mono
    (Nat.add_le_add_left (Nat.mul_le_mul_left _ ?_) _)
  have : szL xs ≤ szL xs * szL xs := Nat.le_mul_self _
  omega

theorem hasDuplicatesA_stp (hst : ∀ n, ℓ * (x.sortTouch n).length ≤ ℓ * n) (xs : List Val) (a : ASt)
    (g : FitL x.ctx.cfg N ℓ xs) (ha : a.arena = .alive) :
    Stp N (1 + ℓ * (4 * (szL xs * szL xs))) a (hasDuplicatesA x xs a).2 := by
  unfold hasDuplicatesA
  split
  · exact Stp.zero ha
  · split
    · exact (((hasDupLinearA_look xs a g).monoL (by omega)).stp horc ha).mono (Nat.le_add_left _ 1)
    · split
      · exact hasDupSortedA_stp horc hst xs a g ha
      · exact hasDupTableA_stp horc xs a g ha

theorem _root_.Edn.Proofs.AllocBasic.Reqs.stp {n : Nat} {a a' : ASt} (h : Reqs x n a a') (ha : a.arena = .alive) :
    Stp N n a a' := by
  induction h with
  | nil a => exact Stp.zero ha
  | @cons n a a' _ ih =>
    have s1 := (request_ff (N := N) horc .arena a 0 ha).2
    exact (Nat.add_comm n 1) ▸ s1.trans (ih s1.1)

theorem _root_.Edn.Proofs.AllocBasic.Prim.stp {α : Type} {k : Nat} {good : α → Prop} {a : ASt} {r : α × ASt}
    (h : Prim x k good a r) (ha : a.arena = .alive) : good r.1 ∧ Stp N k a r.2 :=
  have ⟨⟨_, hk, hr⟩, hg⟩ := h
  ⟨hg horc ha, (hr.stp (N := N) horc ha).mono hk⟩

/-- Step 3 of `edn_read_metadata`: at most five requests, and the looks of the merge -/
theorem attachMetaA_stp (m form : Val) (nks nvs : List Val) (a : ASt) (gf : Fit x.ctx.cfg N ℓ form)
    (gk : FitL x.ctx.cfg N ℓ nks) (ha : a.arena = .alive) :
    Stp N (5 + ℓ * (2 * (sz form * szL nks))) a (attachMetaA x m form nks nvs a).2 := by
  unfold attachMetaA
  split
  · next h md ks vs hmd =>
    have gm : Fit x.ctx.cfg N ℓ (.map h md ks vs) := fun h0 => (gf h0).md hmd
    have hmdsz := szO_md_le form
    rw [hmd] at hmdsz
    simp only [szO, sz] at hmdsz
    have h1 := (metaEntryA_prim x m a).stp (N := N) horc ha
    rcases hq1 : metaEntryA x m a with ⟨okE, a1⟩
    rw [hq1] at h1
    obtain ⟨hok, hst1⟩ := h1
    dsimp only at hok hst1
    subst hok
    obtain ⟨o2, s2⟩ := request_ff (N := N) horc .arena a1 0 hst1.1
    obtain ⟨o3, s3⟩ := request_ff (N := N) horc .arena _ 0 s2.1
    simp only [o2, o3, Bool.and_self, Bool.not_true, Bool.false_eq_true, ↓reduceIte]
    have hall := ((hst1.trans s2).trans s3).trans
      (((keepOldA_look nks ks vs _ gk gm.map_k).mono2 (A' := sz form) (by omega) (Nat.le_refl _)).stp horc s3.1)
    exact Stp.ite (fun _ => hall) fun _ => hall
  · obtain ⟨o1, s1⟩ := request_ff (N := N) horc .arena a 0 ha
    simp only [o1, Bool.not_true, Bool.false_eq_true, ↓reduceIte]
    have h2 := ((metaEntryA_prim x m _).stp (N := N) horc s1.1).2
    exact Stp.ite (fun _ => (s1.trans h2).mono (by omega)) fun _ => (s1.trans h2).mono (by omega)

end

end Edn.Proofs.AllocBound
