/-
  flag independence (C18), leaf level: trigger patterns, the single-character table, string decoding,
  and "what core accepts, every configuration reads identically" for the string, character, symbolic and
  identifier readers (the number reader: `readNumberRes_core_ok` in `FlagIndep`).
-/
import Edn.Proofs.DispatchTable
import Edn.Proofs.FlagIndepAux0
import Edn.Proofs.CharSound

namespace Edn.Proofs
open Edn.Model Edn.Spec Edn.Generated

/-- the escape letters that only an extension decodes inside strings: `\f`, `\b`, `\u`, `\0`..`\7` -/
def extEscape (c : UInt8) : Bool := c == 0x66 || c == 0x62 || c == 0x75 || isOct c

def NoExt (s : Bytes) : Prop := ∀ c, extEscape c = true → ¬ [0x5C, c] <:+: s

/-- the trigger-free inputs (same body as `NoTriggers` in `Edn.Proofs.FlagIndep`) -/
def NoTrig (s : Bytes) : Prop :=
  0x5E ∉ s ∧ ¬ [0x22, 0x22, 0x22, 0x0A] <:+: s ∧ ¬ [0x5C, 0x0C] <:+: s ∧ ¬ [0x5C, 0x08] <:+: s ∧
  (¬ [0x23, 0x5F] <:+: s ∨ NoExt s)

theorem not_infix_infix {p s t : Bytes} (h : ¬ p <:+: s) (hs : t <:+: s) : ¬ p <:+: t :=
  fun hp => h (hp.trans hs)

theorem NoExt.infix {s t : Bytes} (h : NoExt s) (hs : t <:+: s) : NoExt t :=
  fun c hc => not_infix_infix (h c hc) hs

theorem NoExt.suffix {s t : Bytes} (h : NoExt s) (hs : t <:+ s) : NoExt t := h.infix hs.isInfix

theorem NoTrig.infix {s t : Bytes} (h : NoTrig s) (hs : t <:+: s) : NoTrig t :=
  ⟨fun hm => h.1 (hs.subset hm), not_infix_infix h.2.1 hs, not_infix_infix h.2.2.1 hs,
    not_infix_infix h.2.2.2.1 hs,
    h.2.2.2.2.imp (fun h' => not_infix_infix h' hs) (fun h' => h'.infix hs)⟩

theorem NoTrig.suffix {s t : Bytes} (h : NoTrig s) (hs : t <:+ s) : NoTrig t := h.infix hs.isInfix

theorem not_infix_of_prefix {p s : Bytes} (h : ¬ p <:+: s) : ¬ p <+: s :=
  fun hp => h hp.isInfix

theorem dispatch_core_string {c : UInt8} (h : dispatch Cfg.core c = .string) : c = 0x22 := DispRow.of h

theorem isValidSingleChar_flag (cfg : Cfg) {c : UInt8} (h1 : c ≠ 0x0C) (h2 : c ≠ 0x08) :
    isValidSingleChar cfg c = isValidSingleChar Cfg.core c := by
  rw [Bool.eq_iff_iff, validSingleChar_iff, validSingleChar_iff]
  exact ⟨fun ⟨a, b, d, e, _⟩ => ⟨a, b, d, e, fun h => absurd h Bool.false_ne_true⟩,
    fun ⟨a, b, d, e, _⟩ => ⟨a, b, d, e, fun _ => ⟨h2, h1⟩⟩⟩

/-- `\" \\ \n \t \r` are decoded alike, to one byte, by every configuration; any other escape the
    core configuration rejects, and so does every configuration unless the letter is one of
    the extension escapes -/
theorem decodeEscape_cases (cfg : Cfg) (c : UInt8) (r : Bytes) :
    (∃ b, decodeEscape cfg (c :: r) = some ([b], r) ∧ decodeEscape Cfg.core (c :: r) = some ([b], r)) ∨
    (decodeEscape Cfg.core (c :: r) = none ∧ (extEscape c = false → decodeEscape cfg (c :: r) = none)) := by
  rw [decodeEscape, decodeEscape]
  by_cases h1 : (c == 0x22) = true
  · rw [if_pos h1, if_pos h1]; exact .inl ⟨_, rfl, rfl⟩
  rw [if_neg h1, if_neg h1]
  by_cases h2 : (c == 0x5C) = true
  · rw [if_pos h2, if_pos h2]; exact .inl ⟨_, rfl, rfl⟩
  rw [if_neg h2, if_neg h2]
  by_cases h3 : (c == 0x6E) = true
  · rw [if_pos h3, if_pos h3]; exact .inl ⟨_, rfl, rfl⟩
  rw [if_neg h3, if_neg h3]
  by_cases h4 : (c == 0x74) = true
  · rw [if_pos h4, if_pos h4]; exact .inl ⟨_, rfl, rfl⟩
  rw [if_neg h4, if_neg h4]
  by_cases h5 : (c == 0x72) = true
  · rw [if_pos h5, if_pos h5]; exact .inl ⟨_, rfl, rfl⟩
  rw [if_neg h5, if_neg h5]
  refine .inr ⟨if_neg (by decide), fun he => ?_⟩
  simp only [extEscape, Bool.or_eq_false_iff] at he
  obtain ⟨⟨⟨e1, e2⟩, e3⟩, e4⟩ := he
  by_cases hclj : cfg.clj = true
  · rw [if_pos hclj, if_neg (ne_true_of_eq_false e1), if_neg (ne_true_of_eq_false e2),
      if_neg (ne_true_of_eq_false e3), if_neg (ne_true_of_eq_false e4)]
  · rw [if_neg hclj]

theorem decodeString_flag (cfg : Cfg) : ∀ (f : Nat) (d : Bytes),
    NoExt d ∨ (decodeString Cfg.core f d).isSome = true →
    decodeString cfg f d = decodeString Cfg.core f d := by
  intro f
  induction f with
  | zero => intro d _; rfl
  | succ f ih =>
    intro d h
    cases d with
    | nil => rfl
    | cons c r =>
      rw [decodeString, decodeString] at *
      by_cases hc : (c == 0x5C) = true
      · rw [if_pos hc] at h ⊢
        rw [if_pos hc]
        cases r with
        | nil => rfl
        | cons e r' =>
          have hsuf : r' <:+ c :: e :: r' := (List.suffix_cons _ _).trans (List.suffix_cons _ _)
          rcases decodeEscape_cases cfg e r' with ⟨b, h1, h2⟩ | ⟨h2, h3⟩
          · rw [h2] at h ⊢
            rw [h1]
            simp only [Option.isSome_map] at h ⊢
            rw [ih r' (h.imp (·.suffix hsuf) id)]
          · rw [h2] at h ⊢
            rcases h with h | h
            · have he : extEscape e = false := by
                cases hx : extEscape e with
                | false => rfl
                | true =>
                  rw [beq_iff_eq] at hc
                  exact absurd ⟨[], r', by rw [hc]; rfl⟩ (h e hx)
              rw [h3 he]
            · cases h
      · rw [if_neg hc] at h ⊢
        rw [if_neg hc]
        simp only [Option.isSome_map] at h
        rw [ih r (h.imp (·.suffix (List.suffix_cons _ _)) id)]


theorem stringGet_core_some (cfg : Cfg) (data : Bytes) (esc : Bool) (out : Bytes)
    (h : stringGet Cfg.core data esc = some out) : stringGet cfg data esc = some out := by
  unfold stringGet at h ⊢
  by_cases he : (!esc) = true
  · rw [if_pos he] at h ⊢; exact h
  · rw [if_neg he] at h ⊢
    rw [decodeString_flag cfg _ _ (.inr (by rw [h]; rfl))]; exact h

theorem stringContent_flag (cfg : Cfg) (data : Bytes) (esc : Bool)
    (h : NoExt data ∨ (stringContent Cfg.core data esc).1 = true) :
    stringContent cfg data esc = stringContent Cfg.core data esc := by
  unfold stringContent at h ⊢
  by_cases he : (!esc) = true
  · rw [if_pos he, if_pos he]
  · rw [if_neg he] at h ⊢
    rw [if_neg he, decodeString_flag cfg _ _ (h.imp id fun hd => ?_)]
    cases hx : decodeString Cfg.core (data.length + 1) data with
    | none => rw [hx] at hd; cases hd
    | some o => rfl

/-- what the core grammar spells, every configuration spells, the two single bytes apart that
    the Clojure table takes out -/
theorem charTokX_of_core (cfg : Cfg) {body : Bytes} {cp : Nat} (h : CharTokX Cfg.core body cp)
    (h1 : body ≠ [0x0C]) (h2 : body ≠ [0x08]) : CharTokX cfg body cp := by
  cases h with
  | newline => exact .newline
  | ret => exact .ret
  | space => exact .space
  | tab => exact .tab
  | formfeed h => cases h
  | backspace h => cases h
  | octal h => cases h
  | unicode ds hd hl => exact .unicode ds hd (.inl (hl.resolve_right fun h => Bool.false_ne_true h.1))
  | single c hc =>
    refine .single c ?_
    rw [isValidSingleChar_flag cfg (fun e => h1 (e ▸ rfl)) (fun e => h2 (e ▸ rfl))]
    exact hc

/- the token the core configuration reads is a token of every configuration's grammar, so every
   configuration reads it, with the same value and rest -/
theorem readCharacter_core_ok (cfg : Cfg) (o o' : Opts) (st st' : St) (v : Val) (t : Bytes)
    (hs : st.rest = 0x5C :: t) (h1 : ¬ [0x5C, 0x0C] <:+: st.rest) (h2 : ¬ [0x5C, 0x08] <:+: st.rest)
    (h : readCharacter { cfg := Cfg.core, opts := o } st = .ok v st') :
    readCharacter { cfg := cfg, opts := o' } st = .ok v st' ∧ flagOK cfg v := by
  obtain ⟨c0, body, cp, hb, hc, htok, hcp, hd, rfl⟩ := readCharacter_sound _ st st' v h
  obtain ⟨s, cl⟩ := st
  obtain ⟨s', cl'⟩ := st'
  dsimp only at hs hb hc hd h1 h2 ⊢
  subst hc
  subst hb
  cases hs
  have htok' : CharTokX cfg body cp :=
    charTokX_of_core cfg htok (fun e => h1 ⟨[], s', by rw [e]; rfl⟩) (fun e => h2 ⟨[], s', by rw [e]; rfl⟩)
  refine ⟨?_, by unfold flagOK; trivial⟩
  rw [readCharacter_complete { cfg := cfg, opts := o' } 0x5C body s' cl' cp htok' hcp hd]
  simp only [List.length_cons, List.length_append]

theorem readString_flag (cfg : Cfg) (o o' : Opts) (st : St) (h : ¬ [0x22, 0x22, 0x22, 0x0A] <:+: st.rest) :
    readString { cfg := cfg, opts := o' } st = readString { cfg := Cfg.core, opts := o } st := by
  have hp : startsWith st.rest [0x22, 0x22, 0x22, 0x0A] = false :=
    Bool.eq_false_iff.mpr fun hsw => not_infix_of_prefix h (List.isPrefixOf_iff_prefix.mp hsw)
  unfold readString
  dsimp only
  rw [hp, Bool.and_false, Bool.and_false]
  rfl

theorem readString_core_ok (o : Opts) (st st' : St) (v : Val)
    (h : readString { cfg := Cfg.core, opts := o } st = .ok v st') :
    ∃ hd d e, v = .str hd d e ∧ d <:+: st.rest := by
  obtain ⟨rest, calls⟩ := st
  cases rest with
  | nil => cases h
  | cons c cs =>
    obtain ⟨sp, t, -, rfl, rfl, -⟩ := (readString_literal_iff _ c _ calls v st' rfl).mp h
    exact ⟨_, _, _, rfl, [c], 0x22 :: t, rfl⟩

theorem flagOK_str (cfg : Cfg) (hd : Hdr) (d : Bytes) (e : Bool)
    (h : NoExt d ∨ coreStrings (.str hd d e) = true) : flagOK cfg (.str hd d e) := by
  unfold flagOK
  unfold coreStrings at h
  exact stringContent_flag cfg d e h

theorem readSymbolic_flag (ctx ctx' : Ctx) (st : St) : readSymbolic ctx st = readSymbolic ctx' st := rfl

theorem flagOK_of_tok (cfg : Cfg) {v : Val} (h : isTok v = true) : flagOK cfg v := by
  cases v <;> first | (unfold flagOK; trivial) | cases h

end Edn.Proofs
