/-
  String decoding, exactly: `edn_string_get` (with the escape flag)
  returns bytes for a string literal's content precisely when the content is a sequence of
  maximal units of `Edn.Spec.StringFull` (plain bytes, the escapes of the build, and with
  the Clojure flag the octal escapes), and the bytes are the ones the units denote.

  The decoder itself does not look for quotes (a bare `"` in the data is copied like any
  other byte), whereas a unit is never a bare quote.  The content of a literal never
  contains an unescaped quote (`readString` cuts at the first one), which is the hypothesis
  `findQuote sp = none` of `Edn.Properties.C06.decode_is_the_grammar`; `readString_iff` states the whole thing at the
  level of the token, where the hypothesis is discharged by the reader.
-/
import Edn.Proofs.Str

namespace Edn.Proofs
open Edn.Model Edn.Spec

theorem findQuoteScalar_nil (bs : Bool) : findQuoteScalar bs [] = none := rfl

theorem findQuoteScalar_none_bs (s : Bytes) (bs bs' : Bool) (h : findQuoteScalar bs s = none) :
    findQuoteScalar bs' s = none :=
  findQuoteScalar_open ((findQuoteScalar_none_iff bs s).mp h) bs'

theorem decode_sound (cfg : Cfg) : ∀ (f : Nat) (sp dn : Bytes), decodeString cfg f sp = some dn →
    findQuoteScalar false sp = none → StrContentX cfg sp dn := by
  intro f
  induction f with
  | zero => intro sp dn h; simp [decodeString] at h
  | succ f ih =>
    intro sp dn h hq
    cases sp with
    | nil =>
      simp only [decodeString, Option.some.injEq] at h
      subst h; exact .nil
    | cons c r =>
      rw [decodeString] at h
      by_cases e1 : c = 0x5C
      · subst e1
        simp only [beq_self_eq_true, if_true] at h
        cases he : decodeEscape cfg r with
        | none => simp [he] at h
        | some x =>
          obtain ⟨out, r'⟩ := x
          simp only [he, Option.map_eq_some_iff] at h
          obtain ⟨dn', hd, rfl⟩ := h
          obtain ⟨u, rfl, hu, hm⟩ := decodeEscape_sound cfg r out r' he
          have hq' : findQuoteScalar false r' = none := by
            rw [← List.cons_append, findQuoteScalar_rawStr (unitX_rawStr hu)] at hq
            exact findQuoteScalar_none_bs _ _ _ hq
          have := StrContentX.cons hu hm (ih r' dn' hd hq')
          simpa using this
      · have b1 : (c == 0x5C) = false := by simpa using e1
        simp only [b1, Bool.false_eq_true, if_false, Option.map_eq_some_iff] at h
        obtain ⟨dn', hd, rfl⟩ := h
        rw [findQuoteScalar_cons] at hq
        simp only [b1, Bool.false_eq_true, if_false] at hq
        by_cases e2 : c = 0x22
        · subst e2; simp at hq
        · have b2 : (c == 0x22) = false := by simpa using e2
          simp only [b2, Bool.false_eq_true, if_false] at hq
          exact StrContentX.cons (sp := [c]) (dn := [c]) (.base (.plain c e2 e1)) (maximal_plain c e1 r)
            (ih r dn' hd hq)

theorem rawStr_plainX (cfg : Cfg) {sp : Bytes} (h : RawStr sp) (hb : sp.contains 0x5C = false) :
    StrContentX cfg sp sp := by
  induction h with
  | nil => exact .nil
  | plain b t h1 h2 _ ih =>
    rw [List.contains_cons, Bool.or_eq_false_iff] at hb
    exact .cons (sp := [b]) (dn := [b]) (.base (.plain b h1 h2)) (maximal_plain b h2 t) (ih hb.2)
  | esc b t _ _ => rw [List.contains_cons, beq_self_eq_true, Bool.true_or] at hb; cases hb

theorem strContentX_noclj {cfg : Cfg} (hc : cfg.clj = false) {sp dn : Bytes} (h : StrContentX cfg sp dn) :
    StrContent cfg sp dn := by
  induction h with
  | nil => exact .nil
  | cons hu _ _ ih =>
    cases hu with
    | base hu => exact .cons hu ih
    | octal h ds ho => rw [hc] at h; cases h

theorem stringGet_sound (cfg : Cfg) (sp dn : Bytes) (hq : findQuote sp = none)
    (h : stringGet cfg sp true = some dn) : StrContentX cfg sp dn := by
  unfold stringGet at h
  rw [findQuote_eq] at hq
  exact decode_sound cfg _ sp dn (by simpa using h) hq

theorem strContentX_iff (cfg : Cfg) (sp dn : Bytes) :
    StrContentX cfg sp dn ↔ (stringGet cfg sp true = some dn ∧ findQuote sp = none) := by
  constructor
  · intro h
    exact ⟨stringGet_complete cfg sp dn h, by rw [findQuote_eq]; exact findQuoteScalar_open (.inl (contentX_rawStr h)) false⟩
  · rintro ⟨h, hq⟩
    exact stringGet_sound cfg sp dn hq h

theorem stringGet_iff_noclj (cfg : Cfg) (hc : cfg.clj = false) (sp dn : Bytes) (hq : findQuote sp = none) :
    stringGet cfg sp true = some dn ↔ StrContent cfg sp dn :=
  ⟨fun h => strContentX_noclj hc (stringGet_sound _ sp dn hq h), fun h => stringGet_complete _ sp dn (strContent_toX h)⟩

theorem stringGet_iff_core (sp dn : Bytes) (hq : findQuote sp = none) :
    stringGet Cfg.core sp true = some dn ↔ StrContent Cfg.core sp dn :=
  stringGet_iff_noclj Cfg.core rfl sp dn hq

/-- the hypothesis of `Edn.Properties.C06.decode_is_the_grammar` cannot be dropped: the decoder copies a bare quote,
    which no unit spells -/
theorem stringGet_bare_quote (cfg : Cfg) :
    stringGet cfg [0x61, 0x22, 0x62] true = some [0x61, 0x22, 0x62] ∧
      ¬ StrContentX cfg [0x61, 0x22, 0x62] [0x61, 0x22, 0x62] := by
  refine ⟨?_, fun h => ?_⟩
  · simp [stringGet, decodeString]
  · have := ((strContentX_iff cfg _ _).mp h).2
    rw [findQuote_eq] at this
    simp [findQuoteScalar_cons] at this

/-- **String literals, token level.**  On `"` `sp` `"` `rest` (not the opener of a text
    block) the reader returns a string value with data `sp`, stopping right after the second
    quote, and `edn_string_get` on that value yields `dn` — iff `sp` is a sequence of
    maximal units denoting `dn`. -/
theorem readString_iff (ctx : Ctx) (sp dn rest : Bytes) (cl : List Call)
    (hnb : ¬ (ctx.cfg.exp = true ∧ ∃ t, (0x22 :: (sp ++ 0x22 :: rest)) = 0x22 :: 0x22 :: 0x22 :: 0x0A :: t)) :
    (∃ h esc, readString ctx { rest := 0x22 :: (sp ++ 0x22 :: rest), calls := cl } =
        .ok (.str h sp esc) { rest := rest, calls := cl } ∧ stringGet ctx.cfg sp esc = some dn)
      ↔ StrContentX ctx.cfg sp dn := by
  constructor
  · rintro ⟨h, esc, hr, hg⟩
    obtain ⟨sp', rest', hraw, -, hv, -⟩ := (readString_literal_iff ctx _ _ cl _ _ (not_textBlock_opener hnb)).mp hr
    simp only [Val.str.injEq] at hv
    obtain ⟨-, rfl, rfl⟩ := hv
    cases hb : sp.contains 0x5C with
    | true =>
      rw [hb] at hg
      exact stringGet_sound ctx.cfg sp dn (by rw [findQuote_eq]; exact findQuoteScalar_open (.inl hraw) false) hg
    | false =>
      rw [hb, stringGet_raw] at hg
      cases hg
      exact rawStr_plainX ctx.cfg hraw hb
  · intro h
    exact ⟨_, _, readString_literalX ctx sp dn rest cl h hnb, stringGet_contentX ctx.cfg sp dn h⟩

/-- `\400` is `\40` followed by `0`: the bytes 0x20 0x30 -/
example : StrContentX ⟨true, false⟩ [0x5C, 0x34, 0x30, 0x30] [0x20, 0x30] :=
  .cons (sp := [0x5C, 0x34, 0x30]) (dn := [0x20])
    (.octal rfl [0x34, 0x30] ⟨by decide, by decide, by decide, by decide⟩)
    (by
      rintro d t ht ⟨ds, hds, ho⟩
      simp only [List.cons.injEq] at ht
      obtain ⟨rfl, rfl⟩ := ht
      simp only [List.cons_append, List.nil_append, List.cons.injEq, true_and] at hds
      subst hds
      exact absurd ho.byte (by decide))
    (.cons (sp := [0x30]) (dn := [0x30]) (.base (.plain 0x30 (by decide) (by decide)))
      (maximal_plain _ (by decide) _) .nil)

/-- `\200` denotes the single byte 0x80 (not the UTF-8 encoding C2 80 of U+0080) -/
example : stringGet ⟨true, false⟩ [0x5C, 0x32, 0x30, 0x30] true = some [0x80] := by decide +kernel

/-- … whereas `\u0080` denotes C2 80 -/
example : stringGet ⟨true, false⟩ [0x5C, 0x75, 0x30, 0x30, 0x38, 0x30] true = some [0xC2, 0x80] := by
  decide +kernel

end Edn.Proofs
