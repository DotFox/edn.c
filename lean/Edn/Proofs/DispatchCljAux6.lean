/-
  Why the whole-document dispatch theorem is not stated on the
  registry-free tree once the Clojure flag is on: two inputs with the same registry-free tree
  and different results under the same registry (kernel-checked on the model).
-/
import Edn.Spec.DispatchClj
namespace Edn.Proofs
open Edn.Model Edn.Spec

namespace CljCounterexample

/-- `id` = the identity handler, `ka` = the handler returning the keyword `:a` -/
def reg (tag : Bytes) : Option Handler :=
  if tag == [0x69, 0x64] then some ⟨"id", fun v => some v⟩
  else if tag == [0x6B, 0x61] then some ⟨"ka", fun _ => some (.kw (mkHdr 0 0) none [0x61])⟩
  else none

def cfg : Cfg := ⟨true, false⟩

def inpP : Bytes := "#:p{#id :a 1}".toUTF8.toList
def inpQ : Bytes := "#:q{#id :a 1}".toUTF8.toList

/-- `Val` has no decidable equality; headers, byte strings and integers have -/
def shapeOut : Outcome → Option (List Hdr × List Bytes × Int)
  | .value (.map h none [.tagged h2 none tag (.kw h3 none nm)] [.int h4 i]) => some ([h, h2, h3, h4], [tag, nm], i)
  | _ => none

theorem shapeOut_inj {o o' : Outcome} {p : List Hdr × List Bytes × Int}
    (h : shapeOut o = some p) (h' : shapeOut o' = some p) : ∃ v0, o = .value v0 ∧ o' = .value v0 := by
  unfold shapeOut at h h'
  split at h
  · split at h'
    · cases h; cases h'; exact ⟨_, rfl, rfl⟩
    · cases h'
  · cases h

def keyNs : Outcome → Option Bytes
  | .value (.map _ _ (.kw _ (some ns) _ :: _) _) => some ns
  | _ => none

/-- `#:p{#id :a 1}` and `#:q{#id :a 1}` read to the same tree without a registry -/
theorem same_registry_free_tree :
    ∃ v0, (read cfg {} inpP).out = .value v0 ∧ (read cfg {} inpQ).out = .value v0 :=
  shapeOut_inj
    (p := ([mkHdr 13 0, mkHdr 9 3, mkHdr 5 3, mkHdr 2 1], [[0x69, 0x64], [0x61]], 1))
    (by decide +kernel) (by decide +kernel)

/-- with the registry the key is qualified with the prefix after the handler returned -/
theorem different_registry_results :
    keyNs (read cfg { registry := some reg } inpP).out = some [0x70] ∧
    keyNs (read cfg { registry := some reg } inpQ).out = some [0x71] := by
  decide +kernel

/-- No function of the registry-free tree gives the result of the registry run (Clojure
    configuration, the registry `reg`, passthrough mode): in particular not
    `fun v0 => dispatchV cfg reg 0 (eraseCache v0)`. -/
theorem registry_free_tree_insufficient :
    ¬ ∃ F : Val → DOne, ∀ (input : Bytes) (v0 : Val), (read cfg {} input).out = .value v0 →
      ReadIs (read cfg { registry := some reg } input) input.length (F v0) := by
  rintro ⟨F, hF⟩
  obtain ⟨v0, hP, hQ⟩ := same_registry_free_tree
  obtain ⟨kP, kQ⟩ := different_registry_results
  have h1 := hF inpP v0 hP
  have h2 := hF inpQ v0 hQ
  rcases hfv : F v0 with ⟨calls, ⟨code, s, e⟩ | v⟩
  · rw [hfv] at h1
    obtain ⟨⟨es, ee, ho, _, _⟩, _⟩ := h1
    rw [ho] at kP
    cases kP
  · rw [hfv] at h1 h2
    have e1 : (read cfg { registry := some reg } inpP).out = .value v := h1.1
    have e2 : (read cfg { registry := some reg } inpQ).out = .value v := h2.1
    rw [e1] at kP
    rw [e2] at kQ
    rw [kP] at kQ
    exact absurd kQ (by decide)

/-! ## stacked annotations: the boundaries between annotations are lost -/

def inpA : Bytes := "^{#id :a 1,,,#ka :b 2} [3]".toUTF8.toList
def inpB : Bytes := "^{#id :a 1}^{#ka :b 2} [3]".toUTF8.toList

def shapeOutM : Outcome → Option (List Hdr × List Bytes × List Int)
  | .value (.vec hv (some (.map hm none
      [.tagged t1 none g1 (.kw k1 none n1), .tagged t2 none g2 (.kw k2 none n2)]
      [.int a1 i1, .int a2 i2])) [.int hx x]) =>
    some ([hv, hm, t1, k1, a1, t2, k2, a2, hx], [g1, n1, g2, n2], [i1, i2, x])
  | _ => none

theorem shapeOutM_inj {o o' : Outcome} {p : List Hdr × List Bytes × List Int}
    (h : shapeOutM o = some p) (h' : shapeOutM o' = some p) : ∃ v0, o = .value v0 ∧ o' = .value v0 := by
  unfold shapeOutM at h h'
  split at h
  · split at h'
    · cases h; cases h'; exact ⟨_, rfl, rfl⟩
    · cases h'
  · cases h

/-- `^{#id :a 1,,,#ka :b 2} [3]` and `^{#id :a 1}^{#ka :b 2} [3]` read to the same tree without
    a registry (the entries of all annotations, outermost first, in one synthesised map) -/
theorem same_registry_free_tree_meta :
    ∃ v0, (read cfg {} inpA).out = .value v0 ∧ (read cfg {} inpB).out = .value v0 :=
  shapeOutM_inj
    (p := ([mkHdr 26 0, synthHdr, mkHdr 24 18, mkHdr 20 18, mkHdr 17 16, mkHdr 13 7, mkHdr 9 7, mkHdr 6 5, mkHdr 2 1],
      [[0x69, 0x64], [0x61], [0x6B, 0x61], [0x62]], [1, 2, 3]))
    (by decide +kernel) (by decide +kernel)

/-- with the registry (`#ka :b` ↦ `:a`): one annotation with two keys `:a` is a DUPLICATE_KEY
    error over the annotation map (offsets 1 … 22), two annotations merge silently; the same
    two calls are made in both -/
theorem different_registry_results_meta :
    (match (read cfg { registry := some reg } inpA).out with
      | .error code es ee => code == .duplicateKey && es.offset == 1 && ee.offset == 22
      | _ => false) = true ∧
    (match (read cfg { registry := some reg } inpB).out with
      | .value (.vec _ (some (.map _ _ [.kw _ none n] [.int _ 1])) [_]) => n == [0x61]
      | _ => false) = true ∧
    (read cfg { registry := some reg } inpA).calls = [⟨"id", 20, 18⟩, ⟨"ka", 9, 7⟩] ∧
    (read cfg { registry := some reg } inpB).calls = [⟨"id", 20, 18⟩, ⟨"ka", 9, 7⟩] := by
  decide +kernel

end CljCounterexample
end Edn.Proofs
