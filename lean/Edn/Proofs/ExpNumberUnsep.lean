/-
  Removing the separators from the text of a float does not change
  its exact decimal value (`decimalParts`), hence not the double `parse_double_from_buffer` returns:
  `parseDouble expCfg text = parseDouble Cfg.core (unsep text)` for every text that does not start
  with a separator and has no separator directly after an `e` / `E`.
-/
import Edn.Spec.ExpNumLit
import Edn.Proofs.DoubleSpec

namespace Edn.Proofs.ExpN
open Edn.Model Edn.Spec Edn.Proofs Edn.Proofs.DoubleSpecAux

theorem unsep_nil : unsep [] = [] := rfl

theorem unsep_cons_sep (t : Bytes) : unsep (0x5F :: t) = unsep t := by
  simp [unsep]

theorem unsep_cons_ne {c : UInt8} (h : c ≠ 0x5F) (t : Bytes) : unsep (c :: t) = c :: unsep t := by
  simp [unsep, h]

theorem unsep_append (a b : Bytes) : unsep (a ++ b) = unsep a ++ unsep b := by
  simp [unsep]

theorem unsep_noU (t : Bytes) : (0x5F : UInt8) ∉ unsep t := by
  simp [unsep]

theorem unsep_of_not_mem {t : Bytes} (h : (0x5F : UInt8) ∉ t) : unsep t = t := by
  unfold unsep
  rw [List.filter_eq_self]
  intro c hc
  have : c ≠ 0x5F := fun e => h (e ▸ hc)
  simpa using this

theorem unsep_idem (t : Bytes) : unsep (unsep t) = unsep t := unsep_of_not_mem (unsep_noU t)

theorem head_unsep {t : Bytes} (h : t.head? ≠ some 0x5F) : (unsep t).head? = t.head? := by
  cases t with
  | nil => rfl
  | cons c r =>
    have hc : c ≠ 0x5F := fun e => h (by simp [e])
    rw [unsep_cons_ne hc]
    rfl

theorem D_unsep : ∀ (s : Bytes) (m n : Nat),
    D m n (unsep s) = ((D m n s).1, (D m n s).2.1, unsep (D m n s).2.2) ∧
      (D m n s).2.2.head? ≠ some 0x5F := by
  intro s
  induction s with
  | nil =>
    intro m n
    rw [unsep_nil, D_nil]
    exact ⟨rfl, by simp⟩
  | cons c cs ih =>
    intro m n
    rw [D_cons]
    by_cases hc : c = 0x5F
    · subst hc
      rw [unsep_cons_sep]
      simp only [beq_self_eq_true, if_true]
      exact ih m n
    · have h1 : (c == 0x5F) = false := by simpa using hc
      rw [unsep_cons_ne hc, D_cons]
      simp only [h1, Bool.false_eq_true, if_false]
      by_cases hd : is09 c = true
      · simp only [hd, if_true]
        exact ih (m * 10 + dval c) (n + 1)
      · have hd' : is09 c = false := by simpa using hd
        simp only [hd', Bool.false_eq_true, if_false]
        exact ⟨by rw [unsep_cons_ne hc], fun e => hc (Option.some.inj e)⟩

def isE (c : UInt8) : Bool := c == 0x65 || c == 0x45

def noESep : Bytes → Bool
  | [] => true
  | c :: r => (!isE c || !(r.head? == some 0x5F)) && noESep r

theorem noESep_cons (c : UInt8) (r : Bytes) :
    noESep (c :: r) = ((!isE c || !(r.head? == some 0x5F)) && noESep r) := rfl

theorem noESep_append_of_noE : ∀ (a b : Bytes), (∀ c ∈ a, isE c = false) → noESep (a ++ b) = noESep b := by
  intro a
  induction a with
  | nil => intro b _; rfl
  | cons c a ih =>
    intro b h
    rw [List.cons_append, noESep_cons, h c (by simp), ih b (fun x hx => h x (by simp [hx]))]
    rfl

theorem noESep_of_noE (a : Bytes) (h : ∀ c ∈ a, isE c = false) : noESep a = true := by
  have := noESep_append_of_noE a [] h
  rw [List.append_nil] at this
  rw [this]
  rfl

theorem noESep_suffix {a b : Bytes} (h : b <:+ a) (hg : noESep a = true) : noESep b = true := by
  obtain ⟨p, rfl⟩ := h
  induction p with
  | nil => exact hg
  | cons c p ih =>
    rw [List.cons_append, noESep_cons, Bool.and_eq_true] at hg
    exact ih hg.2

theorem noESep_head {c : UInt8} {r : Bytes} (h : noESep (c :: r) = true) (hc : isE c = true) :
    r.head? ≠ some 0x5F := by
  rw [noESep_cons, Bool.and_eq_true, hc] at h
  intro e
  rw [e] at h
  exact absurd h.1 (by decide)

theorem pdSign_unsep {text : Bytes} (h : text.head? ≠ some 0x5F) :
    pdSign (unsep text) = ((pdSign text).1, unsep (pdSign text).2) := by
  cases text with
  | nil => rfl
  | cons c r =>
    have hc : c ≠ 0x5F := fun e => h (by simp [e])
    rw [unsep_cons_ne hc]
    unfold pdSign
    by_cases h1 : (c == 0x2D) = true
    · simp only [h1, if_true]
    · simp only [h1, Bool.false_eq_true, if_false]
      by_cases h2 : (c == 0x2B) = true
      · simp only [h2, if_true]
      · simp only [h2, Bool.false_eq_true, if_false]
        rw [unsep_cons_ne hc]

theorem dpFrac_unsep (m1 : Nat) {s1 : Bytes} (h : s1.head? ≠ some 0x5F) :
    dpFrac m1 (unsep s1) = ((dpFrac m1 s1).1, (dpFrac m1 s1).2.1, unsep (dpFrac m1 s1).2.2) ∧
      (dpFrac m1 s1).2.2.head? ≠ some 0x5F := by
  cases s1 with
  | nil => exact ⟨rfl, h⟩
  | cons c r =>
    have hc : c ≠ 0x5F := fun e => h (by simp [e])
    rw [unsep_cons_ne hc]
    by_cases hd : c = 0x2E
    · subst hd
      obtain ⟨h1, h2⟩ := D_unsep r m1 0
      rw [dpFrac_dot, dpFrac_dot, h1]
      exact ⟨rfl, h2⟩
    · rw [dpFrac_other _ _ _ hd, dpFrac_other _ _ _ hd, unsep_cons_ne hc]
      exact ⟨rfl, h⟩

theorem dpExp_unsep {s2 : Bytes} (h : s2.head? ≠ some 0x5F) (hg : noESep s2 = true) :
    dpExp (unsep s2) = dpExp s2 := by
  cases s2 with
  | nil => rfl
  | cons c r =>
    have hc : c ≠ 0x5F := fun e => h (by simp [e])
    rw [unsep_cons_ne hc]
    unfold dpExp
    by_cases he : (c == 0x65 || c == 0x45) = true
    · simp only [he, if_true]
      have hr : r.head? ≠ some 0x5F := noESep_head hg he
      rw [dpSign_eq, dpSign_eq, pdSign_unsep hr, (D_unsep _ _ _).1]
    · simp only [he, Bool.false_eq_true, if_false]

theorem dpAcc_unsep {s : Bytes} (hg : noESep s = true) : dpAcc (unsep s) = dpAcc s := by
  rw [dpAcc_eq, dpAcc_eq, (D_unsep _ _ _).1]
  simp only []
  obtain ⟨hf, h2⟩ := dpFrac_unsep (D 0 0 s).1 (D_unsep s 0 0).2
  rw [hf]
  simp only []
  rw [dpExp_unsep h2 (noESep_suffix ((dpFrac_suffix _ _).trans (D_suffix s 0 0)) hg)]

theorem decimalParts_unsep {text : Bytes} (h : text.head? ≠ some 0x5F) (hg : noESep text = true) :
    decimalParts (unsep text) = decimalParts text := by
  rw [decimalParts_eq, decimalParts_eq, pdSign_unsep h]
  simp only []
  rw [dpAcc_unsep (noESep_suffix (pdSign_suffix text) hg)]

theorem parseDouble_unsep {text : Bytes} (h : text.head? ≠ some 0x5F) (hg : noESep text = true) :
    parseDouble expCfg text = parseDouble Cfg.core (unsep text) := by
  rw [parseDouble_of_noUnderscore expCfg text (fun he => Bool.noConfusion he),
    parseDouble_of_noUnderscore Cfg.core (unsep text) (fun _ => unsep_noU text),
    decimalParts_unsep h hg]

end Edn.Proofs.ExpN
