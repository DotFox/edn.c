/-
  `Leaf x r a r0`: the allocation-aware leaf reader, started in `a`, returned `r`; `r0` is what the
  pure reader returns.  Then the arena keeps its state, and `r` is `r0` or an ordinary error that
  a refused request caused — never another value, and no error at all in a state where nothing
  can be refused (`Quiet`: the oracle fails nothing and the arena is alive).
-/
import Edn.Proofs.AllocLook
import Edn.Proofs.AllocNumber
import Edn.Proofs.MetaMerge

namespace Edn.Proofs.AllocSim
open Edn.Model Edn.Proofs.AllocBasic Edn.Proofs Edn.Proofs.AllocNumber

def Ordinary (e : ErrInfo) : Prop := e.eofTop = false ∧ e.fuelOut = false

def isOrdinaryErr : Res → Prop
  | .err e _ => Ordinary e
  | _ => False

structure Leaf (x : ACtx) (r : Res × ASt) (a : ASt) (r0 : Res) : Prop where
  fr : Fr x a r.2
  out : r.1 = r0 ∨ isOrdinaryErr r.1 ∧ ¬ Quiet x a

theorem Leaf.pure (x : ACtx) (a : ASt) (r0 : Res) : Leaf x (r0, a) a r0 := ⟨Fr.refl x a, Or.inl rfl⟩

theorem Leaf.after {x : ACtx} {r : Res × ASt} {a a1 : ASt} {r0 : Res} (h : Fr x a a1) (l : Leaf x r a1 r0) :
    Leaf x r a r0 :=
  ⟨h.trans l.fr, l.out.imp id fun h' => ⟨h'.1, fun q => h'.2 (q.fr h)⟩⟩

theorem oneRequest_leaf (x : ACtx) (stE : St → St) (r0 : Res) (a : ASt) : Leaf x (oneRequest x stE r0 a) a r0 := by
  unfold oneRequest
  cases r0 with
  | ok v st' =>
    simp only
    have hf := request_fr x .arena a 0
    cases hr : (a.request x.orc .arena).1
    · exact ⟨by simpa [hr] using hf, Or.inr ⟨⟨rfl, rfl⟩, not_quiet_of_refused hr⟩⟩
    · exact ⟨by simpa [hr] using hf, Or.inl (by simp)⟩
  | closer st' => exact Leaf.pure x a _
  | err e st' => exact Leaf.pure x a _

def tbMatch (start : Nat) (o : TbOutA) (p : Except TbErr (List TbLine × Bytes)) : Prop :=
  match p with
  | .ok (ls, rest) => ∃ buf, o = .lines ls rest buf
  | .error .missingCloser => o = .fail (mkErr .invalidString (some start) (some 0)) []
  | .error (.eofInLine s) => o = .fail (mkErr .invalidString) s

def tbFail : TbOutA → Prop
  | .fail e _ => Ordinary e
  | _ => False

theorem grow_fr (x : ACtx) (n : Nat) (buf : TbBuf) (a : ASt) : Fr x a (buf.grow x n a).2 := by
  unfold TbBuf.grow
  split
  · have h := realloc_fr x buf.arr a
    rcases hq : a.realloc x.orc buf.arr with ⟨o, a1⟩
    rw [hq] at h
    cases o <;> exact h
  · exact Fr.refl x a

theorem grow_nofault (x : ACtx) (hx : NoFault x) (n : Nat) (buf : TbBuf) (a : ASt) :
    (buf.grow x n a).1.isSome = true := by
  unfold TbBuf.grow
  split
  · have h := realloc_nofault x hx buf.arr a
    rcases hq : a.realloc x.orc buf.arr with ⟨o, a1⟩
    rw [hq] at h
    cases o
    · cases h
    · rfl
  · rfl

theorem tbLinesA_spec (x : ACtx) (start : Nat) : ∀ (f : Nat) (s : Bytes) (acc : List TbLine) (buf : TbBuf) (a : ASt),
    Fr x a (tbLinesA x start f s acc buf a).2 ∧
    (tbMatch start (tbLinesA x start f s acc buf a).1 (tbLines f s acc) ∨
      tbFail (tbLinesA x start f s acc buf a).1 ∧ ¬ NoFault x) := by
  intro f
  induction f with
  | zero =>
    intro s acc buf a
    unfold tbLinesA tbLines
    exact ⟨release_fr x buf a, Or.inl rfl⟩
  | succ f ih =>
    intro s acc buf a
    unfold tbLinesA tbLines
    split
    · exact ⟨release_fr x buf a, Or.inl rfl⟩
    · have h1 := grow_fr x acc.length buf a
      have n1 := fun hx => grow_nofault x hx acc.length buf a
      rcases hg : buf.grow x acc.length a with ⟨ob, a1⟩
      rw [hg] at h1 n1
      cases ob with
      | none => exact ⟨h1.trans (release_fr x buf a1), Or.inr ⟨⟨rfl, rfl⟩, fun hx => nomatch n1 hx⟩⟩
      | some buf1 =>
        simp only
        cases hl : tbLine s with
        | none => exact ⟨h1.trans (release_fr x buf1 a1), Or.inl rfl⟩
        | some p =>
          obtain ⟨ln, rest⟩ := p
          simp only
          have h2 := rawAlloc_fr x .malloc a1
          have n2 := fun hx => rawAlloc_nofault x hx .malloc a1 (by decide)
          rcases hq : a1.rawAlloc x.orc .malloc with ⟨o, a2⟩
          rw [hq] at h2 n2
          cases o with
          | none =>
            exact ⟨h1.trans (h2.trans (release_fr x buf1 a2)), Or.inr ⟨⟨rfl, rfl⟩, fun hx => nomatch n2 hx⟩⟩
          | some i =>
            simp only
            split
            · exact ⟨h1.trans h2, Or.inl ⟨_, rfl⟩⟩
            · obtain ⟨i1, i2⟩ := ih rest (ln :: acc) { buf1 with ids := i :: buf1.ids } a2
              exact ⟨h1.trans (h2.trans i1), i2⟩

/-- the end of `edn_parse_text_block` once the lines are there -/
theorem tb_finish (x : ACtx) (st : St) (start : Nat) (ls : List TbLine) (rest : Bytes) (buf : TbBuf) (a2 : ASt) :
    Leaf x (let st' := { st with rest := rest }
            let (okT, a3) := a2.request x.orc .arena
            if !okT then (.err oomErr st', buf.release a3)
            else
              let a4 := buf.release a3
              let (okV, a5) := a4.request x.orc .arena
              if !okV then (.err oomErr st', a5)
              else (.ok (.str (mkHdr start (x.ctx.pos rest)) (tbRender ls) false) st',
                    { a5 with bufs := start :: a5.bufs })) a2
      (.ok (.str (mkHdr start (x.ctx.pos rest)) (tbRender ls) false) { st with rest := rest }) := by
  simp only
  have g1 := (request_fr x .arena a2 0).trans (release_fr x buf _)
  cases hr1 : (a2.request x.orc .arena).1
  · simp only [Bool.not_false, ↓reduceIte]
    exact ⟨g1, Or.inr ⟨⟨rfl, rfl⟩, not_quiet_of_refused hr1⟩⟩
  · simp only [Bool.not_true, Bool.false_eq_true, ↓reduceIte]
    have g2 := g1.trans (request_fr x .arena (buf.release (a2.request x.orc .arena).2) 0)
    cases hr2 : ((buf.release (a2.request x.orc .arena).2).request x.orc .arena).1
    · simp only [Bool.not_false, ↓reduceIte]
      exact ⟨g2, Or.inr ⟨⟨rfl, rfl⟩, fun q => not_quiet_of_refused hr2 (q.fr g1)⟩⟩
    · simp only [Bool.not_true, Bool.false_eq_true, ↓reduceIte]
      exact ⟨g2.trans (Fr.of_eq rfl rfl), Or.inl rfl⟩

theorem readTextBlockA_leaf (x : ACtx) (st : St) (a : ASt)
    (hc : (x.ctx.cfg.exp && startsWith st.rest [0x22, 0x22, 0x22, 0x0A]) = true) :
    Leaf x (readTextBlockA x st a) a (readString x.ctx st) := by
  unfold readTextBlockA readString readTextBlockBody
  simp only [hc, ↓reduceIte]
  have h0 := rawAlloc_fr x .malloc a
  have n0 := fun hx => rawAlloc_nofault x hx .malloc a (by decide)
  rcases hq0 : a.rawAlloc x.orc .malloc with ⟨o, a1⟩
  rw [hq0] at h0 n0
  cases o with
  | none => exact ⟨h0, Or.inr ⟨⟨rfl, rfl⟩, fun q => nomatch n0 q.1⟩⟩
  | some arr =>
    simp only
    obtain ⟨h1, f1⟩ := tbLinesA_spec x (x.ctx.pos st.rest) ((st.rest.drop 4).length + 2) (st.rest.drop 4) [] { arr := arr } a1
    rcases hq1 : tbLinesA x (x.ctx.pos st.rest) ((st.rest.drop 4).length + 2) (st.rest.drop 4) [] { arr := arr } a1 with ⟨out, a2⟩
    rw [hq1] at h1 f1
    generalize tbLines ((st.rest.drop 4).length + 2) (st.rest.drop 4) [] = p at f1 ⊢
    refine Leaf.after h0 ?_
    rcases f1 with hm | ⟨hf, hnq⟩
    · -- the loop ended as the pure loop does
      cases p with
      | error er => cases er <;> (obtain rfl : out = _ := hm; exact ⟨h1, Or.inl rfl⟩)
      | ok q =>
        obtain ⟨ls, rest⟩ := q
        obtain ⟨buf, rfl⟩ := hm
        exact Leaf.after h1 (tb_finish x st (x.ctx.pos st.rest) ls rest buf a2)
    · cases out with
      | lines ls rest buf => exact hf.elim
      | fail e rest => exact ⟨h1, Or.inr ⟨hf, fun q => hnq q.1⟩⟩

theorem readStringA_leaf (x : ACtx) (st : St) (a : ASt) : Leaf x (readStringA x st a) a (readString x.ctx st) := by
  rw [readStringA_eq]
  split
  · next hc => exact readTextBlockA_leaf x st a hc
  · exact oneRequest_leaf x _ _ a

theorem floatHeapA_fr (x : ACtx) (heap : Bool) (a : ASt) : Fr x a (floatHeapA x heap a).2 := by
  unfold floatHeapA
  have h := rawAlloc_fr x .malloc a
  split
  · split
    · next i a' e => rw [e] at h; exact h.trans (free_fr x i a')
    · next a' e => rw [e] at h; exact h
  · exact Fr.refl x a

theorem floatHeapA_nofault (x : ACtx) (hx : NoFault x) (heap : Bool) (a : ASt) : (floatHeapA x heap a).1 = true :=
  floatHeapA_granted x heap a (hx _)

theorem numCreateA_leaf (x : ACtx) (st : St) (a : ASt) (v : NumVal) (p : Bytes) (validate : Bool) :
    Leaf x (numCreateA x st a v p validate) a (numRes x.ctx st (finishNumK v p validate)) := by
  have g1 := request_fr x .arena a 0
  have g2 := floatHeapA_fr x (numNeedsHeap x.ctx.cfg v (slice st.rest p)) (a.request x.orc .arena).2
  refine ⟨?_, ?_⟩
  · have ite : ∀ {c : Prop} [Decidable c] {r r' : Res × ASt}, Fr x a r.2 → Fr x a r'.2 → Fr x a (if c then r else r').2 :=
      fun h h' => ite_ind (P := fun r : Res × ASt => Fr x a r.2) (fun _ => h) fun _ => h'
    unfold numCreateA
    exact ite g1 (ite (g1.trans g2) (ite (g1.trans g2) (g1.trans g2)))
  · cases h1 : (a.request x.orc .arena).1
    · right
      rw [numCreateA_refused x st a v p validate h1]
      exact ⟨⟨rfl, rfl⟩, not_quiet_of_refused h1⟩
    · unfold numCreateA numRes finishNumK finishNum
      simp only [h1, Bool.not_true, Bool.false_eq_true, ↓reduceIte]
      cases h2 : (floatHeapA x (numNeedsHeap x.ctx.cfg v (slice st.rest p)) (a.request x.orc .arena).2).1
      · exact Or.inr ⟨⟨rfl, rfl⟩, fun q => Bool.false_ne_true (h2.symm.trans (floatHeapA_granted x _ _ (q.1 _)))⟩
      · simp only [Bool.not_true, Bool.false_eq_true, ↓reduceIte]
        cases validate <;> cases numDelimOk p <;> simp [numErrA]

theorem readNumberResA_leaf (x : ACtx) (st : St) (a : ASt) :
    Leaf x (readNumberResA x st a) a (readNumberRes x.ctx st) := by
  rw [readNumberRes_eq, ← readNumberK_eq]
  unfold readNumberResA
  have hb : ∀ c, Leaf x (numErrA x.ctx st c, a) a (numRes x.ctx st (NumOut.err c)) := fun c => Leaf.pure x a _
  exact readNumberK_rel (fun (r : Res × ASt) (o : NumOut) => Leaf x r a (numRes x.ctx st o)) x.ctx.cfg
    (numCreateA x st a) (fun cur => (numErrA x.ctx st cur, a)) finishNumK NumOut.err
    (fun v s b => numCreateA_leaf x st a v s b) hb st.rest

inductive LeafCall (x : ACtx) : (St → ASt → Res × ASt) → (St → Res) → Prop
  | ident : LeafCall x (readIdentifierA x) (readIdentifier x.ctx)
  | str : LeafCall x (readStringA x) (readString x.ctx)
  | char : LeafCall x (readCharacterA x) (readCharacter x.ctx)
  | sym : LeafCall x (readSymbolicA x) (readSymbolic x.ctx)
  | num : LeafCall x (readNumberResA x) (readNumberRes x.ctx)

theorem LeafCall.leaf {x : ACtx} {LA : St → ASt → Res × ASt} {L : St → Res} (c : LeafCall x LA L) (s : St) (a : ASt) :
    Leaf x (LA s a) a (L s) := by
  cases c
  · exact readIdentifierA_eq x s a ▸ oneRequest_leaf x id _ a
  · exact readStringA_leaf x s a
  · exact readCharacterA_eq x s a ▸ oneRequest_leaf x _ _ a
  · exact readSymbolicA_eq x s a ▸ oneRequest_leaf x _ _ a
  · exact readNumberResA_leaf x s a

structure Step {α : Type} (x : ACtx) (r : α × ASt) (a : ASt) (good : α → Prop) : Prop where
  fr : Fr x a r.2
  exact : Quiet x a → good r.1

theorem _root_.Edn.Proofs.AllocBasic.Reqs.fr {x : ACtx} {n : Nat} {a a' : ASt} (h : Reqs x n a a') : Fr x a a' := by
  induction h with
  | nil a => exact Fr.refl x a
  | cons _ ih => exact (request_fr x .arena _ 0).trans ih

theorem _root_.Edn.Proofs.AllocBasic.Prim.step {α : Type} {x : ACtx} {k : Nat} {good : α → Prop} {a : ASt} {r : α × ASt}
    (h : Prim x k good a r) : Step x r a good :=
  have ⟨⟨_, _, hr⟩, hg⟩ := h
  ⟨hr.fr, fun q => hg q.1 q.2⟩

theorem attachMetaA_spec (x : ACtx) (m form : Val) (nks nvs : List Val) (a : ASt) :
    Step x (attachMetaA x m form nks nvs a) a (fun o => o = some (attachMeta x.ctx.cfg m form nks nvs)) ∧
    (∀ f', (attachMetaA x m form nks nvs a).1 = some f' → f' = attachMeta x.ctx.cfg m form nks nvs) := by
  -- a refusal: frame, not in a quiet state, no value
  have refuse : ∀ {a' a1 : ASt} {w : Val}, Fr x a a' → Fr x a a1 → ¬ Quiet x a1 →
      Step x ((none : Option Val), a') a (fun o => o = some w) ∧ (∀ f', (none : Option Val) = some f' → f' = w) :=
    fun g g1 hq => ⟨⟨g, fun q => absurd (q.fr g1) hq⟩, fun _ h => nomatch h⟩
  rcases attachMeta_cases x.ctx.cfg m form nks nvs with ⟨h, md, ks, vs, hmd, ea⟩ | ⟨hmd, ea⟩ <;> rw [ea] <;>
    unfold attachMetaA
  · rw [hmd]
    dsimp only
    obtain ⟨g1, n1⟩ := (metaEntryA_prim x m a).step
    rcases hq1 : metaEntryA x m a with ⟨okE, a1⟩
    rw [hq1] at g1 n1
    simp only at g1 n1 ⊢
    cases okE
    · simp only [Bool.not_false, ↓reduceIte]
      exact refuse g1 (Fr.refl x a) fun q => nomatch n1 q
    · simp only [Bool.not_true, Bool.false_eq_true, ↓reduceIte]
      have g2 := (request_fr x .arena a1 0).trans (request_fr x .arena _ 0)
      have g3 := (AllocLook.keepOldA_look (x := x) (N := 0) (ℓ := 1) nks ks vs ((a1.request x.orc .arena).2.request x.orc .arena).2
        (fun _ _ => AllocLook.fit1 _ _) fun _ _ => AllocLook.fit1 _ _).sim
      rcases hq3 : keepOldA x nks ks vs ((a1.request x.orc .arena).2.request x.orc .arena).2 with ⟨⟨oks, ovs⟩, a4⟩
      rw [hq3] at g3
      cases hr1 : (a1.request x.orc .arena).1
      · simp only [Bool.false_and, Bool.not_false, ↓reduceIte]
        exact refuse (g1.trans g2) g1 (not_quiet_of_refused hr1)
      · cases hr2 : ((a1.request x.orc .arena).2.request x.orc .arena).1
        · simp only [Bool.and_false, Bool.not_false, ↓reduceIte]
          exact refuse (g1.trans g2) (g1.trans (request_fr x .arena a1 0)) (not_quiet_of_refused hr2)
        · simp only [Bool.and_self, Bool.not_true, Bool.false_eq_true, ↓reduceIte]
          have ha3 : ((a1.request x.orc .arena).2.request x.orc .arena).2.arena = .alive :=
            g2.arena.trans (request_arena_alive x.orc a1 0 hr1)
          have g123 := g1.trans (g2.trans g3.1)
          cases hb : (a4.failedArena != ((a1.request x.orc .arena).2.request x.orc .arena).2.failedArena)
          · simp only [Bool.false_eq_true, ↓reduceIte]
            have e := g3.2 ha3 (by simpa using hb)
            simp only at e
            rw [← e]
            exact ⟨⟨g123, fun _ => rfl⟩, fun f' hf => (Option.some.inj hf).symm⟩
          · simp only [↓reduceIte]
            -- the count moved during the merge: some request was refused
            refine refuse g123 (Fr.refl x a) fun q => ?_
            have hc := g3.1.quiet q.1
            simp only at hc
            rw [hc] at hb
            simp at hb
  · split
    · next h md ks vs e => exact (hmd h md ks vs e).elim
    have g1 := request_fr x .arena a 0
    obtain ⟨g2, n2⟩ := (metaEntryA_prim x m (a.request x.orc .arena).2).step
    simp only
    cases hr : (a.request x.orc .arena).1
    · simp only [Bool.not_false, ↓reduceIte]
      exact refuse g1 (Fr.refl x a) (not_quiet_of_refused hr)
    · simp only [Bool.not_true, Bool.false_eq_true, ↓reduceIte]
      rcases hq2 : metaEntryA x m (a.request x.orc .arena).2 with ⟨okE, a2⟩
      rw [hq2] at g2 n2
      simp only at g2 n2 ⊢
      cases okE
      · simp only [Bool.not_false, ↓reduceIte]
        exact refuse (g1.trans g2) g1 fun q => nomatch n2 q
      · simp only [Bool.not_true, Bool.false_eq_true, ↓reduceIte]
        exact ⟨⟨g1.trans g2, fun _ => rfl⟩, fun f' h => (Option.some.inj h).symm⟩

end Edn.Proofs.AllocSim
