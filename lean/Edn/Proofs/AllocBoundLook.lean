/-
  Vocabulary of the bounds on the number of allocation requests of a fault-free read (property C02);
  what the looks of `edn_value_equal` / `edn_value_hash` cost is proved in Edn.Proofs.AllocLook.

  * `Psi N bufs`: how many of the `N` possible value names (`Hdr.s`, a position of the input) have
    no materialised buffer yet.  A lazily materialised payload (decoded text of a string literal,
    digits of a big number without underscores) is requested at most once per name, so
    `reqs + Psi N bufs` is a potential that a look at such a payload does not increase.
  * `Stp N c a a'`: from `a` to `a'` that potential grew by at most `c` (and the parser's arena is
    still alive, which is what makes the next request succeed under a fault-free oracle).  The
    primitives of the allocation state are priced in it: a request one (`request_ff`, `rawAlloc_ff`,
    `realloc_ff`, which also say that it is granted), a release nothing (`free_stp` … `release_stp`).
  * `Good cfg N v`: every header of the tree `v` is named by a position `< N` and every string
    literal with escapes decodes.  A literal whose escapes do NOT decode is asked for again at
    every look, so a look at a tree that is not good costs one unit.
  * `ℓ`, the price of a look: `Fit cfg N ℓ v` says that `v` is good if looks are to be free (`ℓ = 0`),
    and nothing otherwise.  Equality of `u` and `w` then costs at most `ℓ * (2 * (sz u * sz w))` (two
    looks per pair of nodes), hashing `v` at most `ℓ * sz v`.  The linear bound is the instance
    `ℓ = 0`, `N = length + 1`; the bound without hypothesis on the literals is `ℓ = 1`, `N = 0`.
-/
import Edn.Proofs.AllocBasic
import Edn.Proofs.EqualBody

namespace Edn.Proofs.AllocBound
open Edn.Model Edn.Proofs.AllocBasic

def Psi (N : Nat) (bufs : List Nat) : Nat := (List.range N).countP (fun k => !bufs.contains k)

theorem countP_cons_le (L : List Nat) (k0 : Nat) (bufs : List Nat) :
    L.countP (fun k => !(k0 :: bufs).contains k) ≤ L.countP (fun k => !bufs.contains k) := by
  apply List.countP_mono_left
  intro x _ hx
  simp only [List.contains_cons, Bool.not_or, Bool.and_eq_true] at hx
  exact hx.2

theorem countP_cons_lt (L : List Nat) (k0 : Nat) (bufs : List Nat) (hm : k0 ∈ L) (hc : bufs.contains k0 = false) :
    L.countP (fun k => !(k0 :: bufs).contains k) + 1 ≤ L.countP (fun k => !bufs.contains k) := by
  have hc' : k0 ∉ bufs := by simpa using hc
  induction L with
  | nil => cases hm
  | cons x L ih =>
    by_cases hx : x = k0
    · subst hx
      rw [List.countP_cons_of_neg (by simp), List.countP_cons_of_pos (by simpa using hc')]
      have := countP_cons_le L x bufs
      omega
    · have hm' : k0 ∈ L := by
        cases hm with
        | head => exact absurd rfl hx
        | tail _ h => exact h
      have ih := ih hm'
      by_cases hp : x ∈ bufs
      · rw [List.countP_cons_of_neg (by simp [hp]), List.countP_cons_of_neg (by simp [hp])]
        exact ih
      · rw [List.countP_cons_of_pos (by simp [hp, hx]), List.countP_cons_of_pos (by simp [hp])]
        omega

theorem Psi_cons_le (N k0 : Nat) (bufs : List Nat) : Psi N (k0 :: bufs) ≤ Psi N bufs :=
  countP_cons_le _ k0 bufs

theorem Psi_cons_lt (N k0 : Nat) (bufs : List Nat) (hk : k0 < N) (hc : bufs.contains k0 = false) :
    Psi N (k0 :: bufs) + 1 ≤ Psi N bufs :=
  countP_cons_lt _ k0 bufs (List.mem_range.mpr hk) hc

theorem Psi_le (N : Nat) (bufs : List Nat) : Psi N bufs ≤ N := by
  have := List.countP_le_length (p := fun k => !bufs.contains k) (l := List.range N)
  simpa [Psi] using this

def Stp (N c : Nat) (a a' : ASt) : Prop :=
  a'.arena = .alive ∧ a'.reqs + Psi N a'.bufs ≤ a.reqs + Psi N a.bufs + c

section
variable {N ℓ c c' c1 c2 : Nat} {a a' a1 a2 : ASt}

theorem Stp.zero (ha : a.arena = .alive) : Stp N c a a := ⟨ha, Nat.le_add_right _ _⟩

theorem Stp.trans (h1 : Stp N c1 a a1) (h2 : Stp N c2 a1 a2) : Stp N (c1 + c2) a a2 :=
  ⟨h2.1, by have := h1.2; have := h2.2; omega⟩

theorem Stp.mono (h : Stp N c a a') (hc : c ≤ c') : Stp N c' a a' :=
  ⟨h.1, by have := h.2; omega⟩

theorem Stp.of_eq (ha : a.arena = .alive) (hr : a'.reqs = a.reqs + c) (hb : a'.bufs = a.bufs)
    (har : a'.arena = a.arena) : Stp N c a a' :=
  ⟨har.trans ha, by rw [hr, hb]; omega⟩

/-- applied instead of `split`, which would rewrite both branches -/
theorem Stp.ite {β : Type} {p : Prop} [Decidable p] {t e : β × ASt} (ht : p → Stp N c a t.2)
    (he : ¬p → Stp N c a e.2) : Stp N c a (if p then t else e).2 :=
  ite_ind (P := fun r : β × ASt => Stp N c a r.2) ht he

end

section
variable {N : Nat} {orc : Nat → Bool} (horc : ∀ n, orc n = false)
include horc

theorem request_ff (k : ReqKind) (a : ASt) (old : Nat) (ha : a.arena = .alive) :
    (a.request orc k old).1 = true ∧ Stp N 1 a (a.request orc k old).2 :=
  ⟨request_succeeds orc k a old (horc _) (fun _ => ha), Stp.of_eq ha rfl rfl rfl⟩

theorem request_ff_eq (k : ReqKind) (a : ASt) (old : Nat) (ha : a.arena = .alive) :
    a.request orc k old = (true, (a.request orc k old).2) :=
  Prod.ext (request_succeeds orc k a old (horc _) (fun _ => ha)) rfl

theorem rawAlloc_ff (k : ReqKind) (a : ASt) (ha : a.arena = .alive) :
    (∃ i, (a.rawAlloc orc k).1 = some i) ∧ Stp N 1 a (a.rawAlloc orc k).2 := by
  refine ⟨rawAlloc_succeeds orc k a (horc _) fun _ => ha, ?_⟩
  unfold ASt.rawAlloc
  simp only [request_succeeds orc k a 0 (horc _) fun _ => ha, ↓reduceIte]
  exact Stp.of_eq ha rfl rfl rfl

theorem realloc_ff (old : Nat) (a : ASt) (ha : a.arena = .alive) :
    (∃ i, (a.realloc orc old).1 = some i) ∧ Stp N 1 a (a.realloc orc old).2 := by
  refine ⟨realloc_succeeds orc old a (horc _), ?_⟩
  unfold ASt.realloc
  simp only [request_succeeds orc .realloc a old (horc _) nofun, ↓reduceIte]
  exact Stp.of_eq ha rfl rfl rfl

end

theorem free_stp {N : Nat} (i : Nat) (a : ASt) (ha : a.arena = .alive) : Stp N 0 a (a.free i) :=
  Stp.of_eq ha rfl rfl rfl

theorem freeAll_stp {N : Nat} (ids : List Nat) (a : ASt) (ha : a.arena = .alive) : Stp N 0 a (a.freeAll ids) := by
  induction ids generalizing a with
  | nil => exact Stp.zero ha
  | cons i is ih =>
    show Stp N 0 a ((a.free i).freeAll is)
    exact (free_stp i a ha).trans (ih (a.free i) ha)

theorem release_stp {N : Nat} (b : TbBuf) (a : ASt) (ha : a.arena = .alive) : Stp N 0 a (b.release a) := by
  unfold TbBuf.release
  have h1 := freeAll_stp (N := N) b.ids.reverse a ha
  exact h1.trans (free_stp _ _ h1.1)

inductive Good (cfg : Cfg) (N : Nat) : Val → Prop
  | nil (h : Hdr) : h.s < N → Good cfg N (.nil h)
  | bool (h : Hdr) (b : Bool) : h.s < N → Good cfg N (.bool h b)
  | int (h : Hdr) (i : Int) : h.s < N → Good cfg N (.int h i)
  | bigint (h : Hdr) (n : Bool) (r : Nat) (d : Bytes) : h.s < N → Good cfg N (.bigint h n r d)
  | float (h : Hdr) (b : UInt64) : h.s < N → Good cfg N (.float h b)
  | bigdec (h : Hdr) (n : Bool) (t : Bytes) : h.s < N → Good cfg N (.bigdec h n t)
  | ratio (h : Hdr) (n d : Int) : h.s < N → Good cfg N (.ratio h n d)
  | bigratio (h : Hdr) (g : Bool) (n d : Bytes) : h.s < N → Good cfg N (.bigratio h g n d)
  | char (h : Hdr) (cp : Nat) : h.s < N → Good cfg N (.char h cp)
  | str (h : Hdr) (data : Bytes) (esc : Bool) : h.s < N →
      (esc = true → (decodeString cfg (data.length + 1) data).isSome = true) → Good cfg N (.str h data esc)
  | sym (h : Hdr) (md : Option Val) (ns : Option Bytes) (name : Bytes) : h.s < N →
      (∀ m, md = some m → Good cfg N m) → Good cfg N (.sym h md ns name)
  | kw (h : Hdr) (ns : Option Bytes) (name : Bytes) : h.s < N → Good cfg N (.kw h ns name)
  | list (h : Hdr) (md : Option Val) (xs : List Val) : h.s < N →
      (∀ m, md = some m → Good cfg N m) → (∀ x ∈ xs, Good cfg N x) → Good cfg N (.list h md xs)
  | vec (h : Hdr) (md : Option Val) (xs : List Val) : h.s < N →
      (∀ m, md = some m → Good cfg N m) → (∀ x ∈ xs, Good cfg N x) → Good cfg N (.vec h md xs)
  | map (h : Hdr) (md : Option Val) (ks vs : List Val) : h.s < N →
      (∀ m, md = some m → Good cfg N m) → (∀ x ∈ ks, Good cfg N x) → (∀ x ∈ vs, Good cfg N x) →
      Good cfg N (.map h md ks vs)
  | set (h : Hdr) (md : Option Val) (xs : List Val) : h.s < N →
      (∀ m, md = some m → Good cfg N m) → (∀ x ∈ xs, Good cfg N x) → Good cfg N (.set h md xs)
  | tagged (h : Hdr) (md : Option Val) (tag : Bytes) (v : Val) : h.s < N →
      (∀ m, md = some m → Good cfg N m) → Good cfg N v → Good cfg N (.tagged h md tag v)
  | ext (h : Hdr) (t d : Nat) : h.s < N → Good cfg N (.ext h t d)

abbrev GoodL (cfg : Cfg) (N : Nat) (xs : List Val) : Prop := ∀ x ∈ xs, Good cfg N x

section
variable {cfg : Cfg} {N : Nat}

theorem Good.hdr_lt {v : Val} (h : Good cfg N v) : v.hdr.s < N := by
  cases h <;> assumption

theorem Good.setHdr {v : Val} (h : Good cfg N v) (h' : Hdr) (hs : h'.s < N) : Good cfg N (v.setHdr h') := by
  cases h
  all_goals (simp only [Val.setHdr]; constructor <;> assumption)

theorem Good.md {v m : Val} (h : Good cfg N v) (hm : v.md = some m) : Good cfg N m := by
  cases h <;> simp only [Val.md] at hm <;> first | exact absurd hm (by simp) | (rename_i hmd _; exact hmd m hm) | (rename_i hmd _ _; exact hmd m hm) | (rename_i hmd; exact hmd m hm)

theorem Good.setMd {v : Val} (h : Good cfg N v) (m : Option Val) (hm : ∀ m', m = some m' → Good cfg N m') :
    Good cfg N (v.setMd m) := by
  cases h
  all_goals (simp only [Val.setMd]; constructor <;> assumption)

theorem GoodL.reverse {xs : List Val} (h : GoodL cfg N xs) : GoodL cfg N xs.reverse :=
  fun y hy => h y (List.mem_reverse.mp hy)

end

def Fit (cfg : Cfg) (N ℓ : Nat) (v : Val) : Prop := ℓ = 0 → Good cfg N v

abbrev FitL (cfg : Cfg) (N ℓ : Nat) (xs : List Val) : Prop := ∀ x ∈ xs, Fit cfg N ℓ x

section
variable {cfg : Cfg} {N ℓ : Nat}

theorem Fit.setHdr {v : Val} (g : Fit cfg N ℓ v) (h' : Hdr) (hs : ℓ = 0 → h'.s < N) : Fit cfg N ℓ (v.setHdr h') :=
  fun h0 => (g h0).setHdr h' (hs h0)

theorem Fit.list {h : Hdr} {md : Option Val} {xs : List Val} (g : Fit cfg N ℓ (.list h md xs)) : FitL cfg N ℓ xs :=
  fun y hy h0 => by cases g h0 with | list _ _ _ _ _ hxs => exact hxs y hy
theorem Fit.vec {h : Hdr} {md : Option Val} {xs : List Val} (g : Fit cfg N ℓ (.vec h md xs)) : FitL cfg N ℓ xs :=
  fun y hy h0 => by cases g h0 with | vec _ _ _ _ _ hxs => exact hxs y hy
theorem Fit.set {h : Hdr} {md : Option Val} {xs : List Val} (g : Fit cfg N ℓ (.set h md xs)) : FitL cfg N ℓ xs :=
  fun y hy h0 => by cases g h0 with | set _ _ _ _ _ hxs => exact hxs y hy
theorem Fit.map_k {h : Hdr} {md : Option Val} {ks vs : List Val} (g : Fit cfg N ℓ (.map h md ks vs)) :
    FitL cfg N ℓ ks :=
  fun y hy h0 => by cases g h0 with | map _ _ _ _ _ _ hks _ => exact hks y hy
theorem Fit.map_v {h : Hdr} {md : Option Val} {ks vs : List Val} (g : Fit cfg N ℓ (.map h md ks vs)) :
    FitL cfg N ℓ vs :=
  fun y hy h0 => by cases g h0 with | map _ _ _ _ _ _ _ hvs => exact hvs y hy
theorem Fit.tagged {h : Hdr} {md : Option Val} {t : Bytes} {v : Val} (g : Fit cfg N ℓ (.tagged h md t v)) :
    Fit cfg N ℓ v :=
  fun h0 => by cases g h0 with | tagged _ _ _ _ _ _ hv => exact hv

theorem FitL.nil : FitL cfg N ℓ [] := fun _ h => nomatch h

theorem FitL.cons {v : Val} {xs : List Val} (hv : Fit cfg N ℓ v) (hxs : FitL cfg N ℓ xs) : FitL cfg N ℓ (v :: xs) :=
  List.forall_mem_cons.mpr ⟨hv, hxs⟩

theorem FitL.head {v : Val} {xs : List Val} (h : FitL cfg N ℓ (v :: xs)) : Fit cfg N ℓ v := h v (List.mem_cons_self ..)
theorem FitL.tail {v : Val} {xs : List Val} (h : FitL cfg N ℓ (v :: xs)) : FitL cfg N ℓ xs :=
  fun y hy => h y (List.mem_cons_of_mem _ hy)

theorem FitL.reverse {xs : List Val} (h : FitL cfg N ℓ xs) : FitL cfg N ℓ xs.reverse :=
  fun y hy => h y (List.mem_reverse.mp hy)

theorem FitL.sub {xs ys : List Val} (h : FitL cfg N ℓ ys) (hs : ∀ y ∈ xs, y ∈ ys) : FitL cfg N ℓ xs :=
  fun y hy => h y (hs y hy)

theorem FitL.good {xs : List Val} (h : FitL cfg N ℓ xs) (h0 : ℓ = 0) : GoodL cfg N xs := fun y hy => h y hy h0

end

mutual
/-- number of nodes, metadata included -/
def sz : Val → Nat
  | .nil _ => 1
  | .bool _ _ => 1
  | .int _ _ => 1
  | .bigint _ _ _ _ => 1
  | .float _ _ => 1
  | .bigdec _ _ _ => 1
  | .ratio _ _ _ => 1
  | .bigratio _ _ _ _ => 1
  | .char _ _ => 1
  | .str _ _ _ => 1
  | .sym _ md _ _ => 1 + szO md
  | .kw _ _ _ => 1
  | .list _ md xs => 1 + szO md + szL xs
  | .vec _ md xs => 1 + szO md + szL xs
  | .map _ md ks vs => 1 + szO md + szL ks + szL vs
  | .set _ md xs => 1 + szO md + szL xs
  | .tagged _ md _ v => 1 + szO md + sz v
  | .ext _ _ _ => 1
def szL : List Val → Nat
  | [] => 0
  | v :: vs => sz v + szL vs
def szO : Option Val → Nat
  | none => 0
  | some v => sz v
end

theorem sz_pos (v : Val) : 1 ≤ sz v := by
  cases v <;> simp only [sz] <;> omega

theorem szL_perm {l m : List Val} (h : l.Perm m) : szL l = szL m := by
  induction h with
  | nil => rfl
  | cons x _ ih => simp only [szL, ih]
  | swap x y l => simp only [szL]; omega
  | trans _ _ ih1 ih2 => exact ih1.trans ih2

theorem szL_set (l : List Val) (i : Nat) (v v' : Val) (h : l[i]? = some v) (hs : sz v' = sz v) :
    szL (l.set i v') = szL l := by
  induction l generalizing i with
  | nil => rfl
  | cons y ys ih =>
    cases i with
    | zero =>
      simp only [List.getElem?_cons_zero, Option.some.injEq] at h
      subst h
      simp only [List.set_cons_zero, szL, hs]
    | succ i =>
      simp only [List.getElem?_cons_succ] at h
      simp only [List.set_cons_succ, szL, ih i h]

theorem sz_setHdr (v : Val) (h : Hdr) : sz (v.setHdr h) = sz v := by
  cases v <;> simp only [Val.setHdr, sz]

theorem szL_append (xs ys : List Val) : szL (xs ++ ys) = szL xs + szL ys := by
  induction xs with
  | nil => simp [szL]
  | cons v vs ih => simp only [List.cons_append, szL, ih]; omega

theorem szL_reverse (xs : List Val) : szL xs.reverse = szL xs := by
  induction xs with
  | nil => rfl
  | cons v vs ih => simp only [List.reverse_cons, szL_append, szL, ih]; omega

theorem length_le_szL (xs : List Val) : xs.length ≤ szL xs := by
  induction xs with
  | nil => simp [szL]
  | cons v vs ih => have := sz_pos v; simp only [List.length_cons, szL]; omega

theorem sz_le_szL {v : Val} {xs : List Val} (h : v ∈ xs) : sz v ≤ szL xs := by
  induction xs with
  | nil => cases h
  | cons y ys ih =>
    simp only [szL]
    cases h with
    | head => omega
    | tail _ h => have := ih h; omega

theorem szL_sublist {xs ys : List Val} (h : List.Sublist xs ys) : szL xs ≤ szL ys := by
  induction h with
  | slnil => exact Nat.le_refl _
  | cons a _ ih => simp only [szL]; omega
  | cons_cons a _ ih => simp only [szL]; omega

theorem szL_takeWhile_dropWhile (p : Val → Bool) (xs : List Val) :
    szL (xs.takeWhile p) + szL (xs.dropWhile p) = szL xs := by
  rw [← szL_append, List.takeWhile_append_dropWhile]

theorem szO_md_le (v : Val) : szO v.md ≤ sz v := by
  cases v <;> simp only [Val.md, sz, szO] <;> omega

theorem sz_setMd (v : Val) (m : Option Val) (ht : v.metaTarget = true) :
    sz (v.setMd m) + szO v.md = sz v + szO m := by
  cases v <;> simp only [Val.metaTarget] at ht <;> simp only [Val.setMd, Val.md, sz] <;> first | omega | cases ht

theorem fit_cacheOnly {cfg : Cfg} {N ℓ : Nat} {y v : Val} (h : CacheOnly y v) (g : Fit cfg N ℓ v) :
    Fit cfg N ℓ y ∧ sz y = sz v := by
  obtain ⟨c, rfl⟩ := h
  exact ⟨g.setHdr _ fun h0 => (g h0).hdr_lt, sz_setHdr _ _⟩

theorem hashOp_fit {cfg : Cfg} {N ℓ : Nat} {v : Val} (g : Fit cfg N ℓ v) : Fit cfg N ℓ (hashOp cfg v).2 ∧ sz (hashOp cfg v).2 = sz v :=
  fit_cacheOnly (hashOp_cacheOnly cfg v) g

theorem sq_split (R T S : Nat) (h : R + T = S) : 2 * (R * R) + 2 * (T * T) ≤ 2 * (S * S) := by
  subst h; grind

end Edn.Proofs.AllocBound
