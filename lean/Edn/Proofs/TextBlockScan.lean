/-
  The text-block scanner against the grammar of source lines (C20, scanning half).  The content scan
  `tbContent` and the line reader `tbLine` are characterised the way `findQuoteScalar` is in Scan: a
  forward theorem (what the scanner returns on a well-formed piece followed by anything, `tbLine_enc`,
  `tbLine_eof`) and a parse theorem of the grammar alone (every input is such a piece or is cut by the
  end of the input, `tbBody_parse`); the inversions `tbLine_some_iff` / `tbLine_none_iff` follow, and
  with them where the scanner stops (`tbLine_rest`).  The line loop `tbLines` is followed once forwards
  (`tbLines_enc`) and once backwards (`tbLines_outcome`: which of the three outcomes says what about
  the input).  What the lines render to is in TextBlock.
-/
import Edn.Spec.TextBlock
import Edn.Proofs.ScanTb

namespace Edn.Spec
open Edn.Model

/-- how the body of the last line may end when the closing `"""` follows it directly: not in a
    backslash (it would escape the delimiter), and in a quote only when that quote is the end
    of an escaped triple quote `\"""` (any other trailing quote would be taken for the first
    byte of the delimiter) -/
def EndOK (b : Bytes) : Prop :=
  b.getLast? ≠ some 0x5C ∧ (b.getLast? = some 0x22 → [0x5C, 0x22, 0x22, 0x22] <:+ b)

instance (b : Bytes) : Decidable (EndOK b) := by unfold EndOK; infer_instance

def encodeLines (lines : List SrcLine) : Bytes :=
  (lines.map fun l => l.indent ++ l.body ++ [0x0A]).flatten

theorem encodeLines_nil : encodeLines [] = [] := rfl

theorem encodeLines_cons (l : SrcLine) (ls : List SrcLine) :
    encodeLines (l :: ls) = l.indent ++ l.body ++ [0x0A] ++ encodeLines ls := rfl

theorem encodeLines_append (a b : List SrcLine) :
    encodeLines (a ++ b) = encodeLines a ++ encodeLines b := by
  simp [encodeLines]

/-- complete well-formed lines, then a line cut by the end of the input: no line feed and no
    closing delimiter after `ls` starts -/
def CutLine (body ls : Bytes) : Prop :=
  ∃ lines : List SrcLine, (∀ l ∈ lines, l.WF) ∧ body = encodeLines lines ++ ls ∧ ls ≠ [] ∧
    TbBody (ls.dropWhile isBlank)

/-- complete well-formed lines and nothing else: the closing delimiter is missing -/
def Unclosed (body : Bytes) : Prop :=
  ∃ lines : List SrcLine, (∀ l ∈ lines, l.WF) ∧ body = encodeLines lines

/-- complete well-formed lines, then the line with the closing delimiter (indentation `ind`,
    body `b`, possibly empty), then `rest` -/
def ClosedAt (body rest : Bytes) : Prop :=
  ∃ (lines : List SrcLine) (ind b : Bytes), (∀ l ∈ lines, l.WF) ∧ (⟨ind, b⟩ : SrcLine).WF ∧ EndOK b ∧
    body = encodeLines lines ++ ind ++ b ++ [0x22, 0x22, 0x22] ++ rest

end Edn.Spec

namespace Edn.Proofs
open Edn.Model Edn.Spec

/-- does the escaped triple quote `\"""` occur in the bytes: what the line reader reports as `needsEsc` -/
def hasEsc : Bytes → Bool
  | [] => false
  | c :: r => ([0x5C, 0x22, 0x22, 0x22] : Bytes).isPrefixOf (c :: r) || hasEsc r

theorem hasEsc_esc (r : Bytes) : hasEsc (0x5C :: 0x22 :: 0x22 :: 0x22 :: r) = true := rfl

theorem hasEsc_cons (c : UInt8) (r : Bytes) (h : ¬ [0x5C, 0x22, 0x22, 0x22] <+: c :: r) :
    hasEsc (c :: r) = hasEsc r := by
  rw [hasEsc, Bool.or_eq_right_iff_imp]
  exact fun hp => absurd (List.isPrefixOf_iff_prefix.mp hp) h

theorem not_prefix_of_prefix {p a b : Bytes} (h : ¬ p <+: b) (hab : a <+: b) : ¬ p <+: a :=
  fun hp => h (hp.trans hab)

theorem endOK_nil : EndOK [] := ⟨nofun, nofun⟩

theorem endOK_tail {c : UInt8} {r : Bytes} (h : EndOK (c :: r)) (hne : c :: r ≠ [0x5C, 0x22, 0x22, 0x22]) :
    EndOK r := by
  cases r with
  | nil => exact endOK_nil
  | cons a r =>
    unfold EndOK at h ⊢
    rw [List.getLast?_cons_cons] at h
    exact ⟨h.1, fun hq => (List.suffix_cons_iff.mp (h.2 hq)).resolve_left (Ne.symm hne)⟩

theorem endOK_drop_esc {r : Bytes} (h : EndOK (0x5C :: 0x22 :: 0x22 :: 0x22 :: r)) : EndOK r := by
  by_cases hr : r = []
  · subst hr; exact endOK_nil
  · exact endOK_tail (endOK_tail (endOK_tail (endOK_tail h (by simpa using hr)) (by simp)) (by simp)) (by simp)

theorem endOK_cons (c : UInt8) (b : Bytes) (hne : b ≠ []) (h : EndOK b) : EndOK (c :: b) := by
  obtain ⟨a, b', rfl⟩ := List.exists_cons_of_ne_nil hne
  unfold EndOK at h ⊢
  rw [List.getLast?_cons_cons]
  exact ⟨h.1, fun hq => (h.2 hq).trans (List.suffix_cons c _)⟩

theorem endOK_esc (b : Bytes) (h : EndOK b) : EndOK (0x5C :: 0x22 :: 0x22 :: 0x22 :: b) := by
  by_cases hne : b = []
  · subst hne; decide
  · exact endOK_cons _ _ (by simp) (endOK_cons _ _ (by simp) (endOK_cons _ _ (by simp) (endOK_cons _ _ hne h)))

/-- `t` may follow the body `b`: no quote at the start of `t` can combine with the end of `b` into a
    triple quote or an escaped one, because there is none or because `b` ends as `EndOK` says -/
def NoFuse (b t : Bytes) : Prop := t.head? ≠ some 0x22 ∨ EndOK b

theorem prefix_append_split {P a t : Bytes} (h : P <+: a ++ t) (hn : ¬ P <+: a) :
    ∃ x y, P = a ++ x :: y ∧ x :: y <+: t := by
  rcases List.prefix_or_prefix_of_prefix h (List.prefix_append a t) with h' | ⟨z, rfl⟩
  · exact absurd h' hn
  · cases z with
    | nil => exact absurd (by simp) hn
    | cons x y => exact ⟨x, y, rfl, (List.prefix_append_right_inj a).mp h⟩

/-- a pattern of at most four bytes, made of quotes after its first byte and of backslashes and quotes
    before its last, occurs at the start of `a ++ t` only if it occurs at the start of `a`: otherwise
    `t` would start with a quote and `a`, shorter than four bytes, end in a backslash or in a quote,
    which `EndOK` allows only at the end of a whole `\"""` -/
theorem NoFuse.not_prefix {P : Bytes} (hP : ∀ x ∈ P.tail, x = 0x22)
    (hP' : ∀ x ∈ P.dropLast, x = 0x5C ∨ x = 0x22) (hlen : P.length ≤ 4) {c : UInt8} {r t : Bytes}
    (h : NoFuse (c :: r) t) (hn : ¬ P <+: c :: r) : ¬ P <+: c :: (r ++ t) := by
  intro hp
  obtain ⟨x, y, rfl, z, rfl⟩ := prefix_append_split (a := c :: r) hp hn
  rcases h with h | ⟨h1, h2⟩
  · exact h (by rw [hP x (by simp)]; rfl)
  · have hne : c :: r ≠ [] := List.cons_ne_nil c r
    rw [List.getLast?_eq_some_getLast hne] at h1 h2
    rcases hP' ((c :: r).getLast hne) (by
      rw [List.dropLast_append_of_ne_nil (List.cons_ne_nil x y)]
      exact List.mem_append_left _ (List.getLast_mem hne)) with hl | hl
    · exact h1 (congrArg some hl)
    · have := (h2 (congrArg some hl)).length_le
      simp only [List.length_append, List.length_cons, List.length_nil] at hlen this
      omega

theorem tbContent_through {p : Bytes} (hp : TbBody p) :
    ∀ (f n : Nat) (acc : Bytes) (esc : Bool) (t : Bytes), NoFuse p t → n + p.length ≤ f →
      ∃ f', tbContent f acc esc (p ++ t) = tbContent (f' + n) (p.reverse ++ acc) (esc || hasEsc p) t := by
  induction hp with
  | nil =>
    intro f n acc esc t _ hf
    exact ⟨f - n, by rw [Nat.sub_add_cancel (show n ≤ f from hf), hasEsc, Bool.or_false]; rfl⟩
  | esc r _ ih =>
    intro f n acc esc t ht hf
    cases f with
    | zero => exact absurd hf (Nat.not_succ_le_zero _)
    | succ k =>
      obtain ⟨f', h⟩ := ih k n (0x22 :: 0x22 :: 0x22 :: 0x5C :: acc) true t (ht.imp id endOK_drop_esc)
        (Nat.le_trans (Nat.le_add_right _ 3) (Nat.le_of_succ_le_succ hf))
      refine ⟨f', ?_⟩
      show tbContent (k + 1) acc esc (0x5C :: 0x22 :: 0x22 :: 0x22 :: (r ++ t)) = _
      rw [tbContent_esc, h, hasEsc_esc, Bool.or_true, Bool.true_or]
      simp only [List.reverse_cons, List.append_assoc, List.cons_append, List.nil_append]
  | plain c r hlf hq he _ ih =>
    intro f n acc esc t ht hf
    cases f with
    | zero => exact absurd hf (Nat.not_succ_le_zero _)
    | succ k =>
      obtain ⟨f', h⟩ := ih k n (c :: acc) esc t
        (ht.imp id (endOK_tail · fun e => he (e ▸ List.prefix_refl _))) (Nat.le_of_succ_le_succ hf)
      refine ⟨f', ?_⟩
      rw [List.cons_append, tbContent_other _ _ _ _ _ hlf (ht.not_prefix (by decide) (by decide) (by decide) hq)
        (ht.not_prefix (by decide) (by decide) (by decide) he), h, hasEsc_cons c r he,
        List.reverse_cons, List.append_assoc]
      rfl

/-- what ends the content of a line: the closing `"""` on the terminal line, a line feed otherwise -/
def tbTerm (terminal : Bool) : Bytes := if terminal then [0x22, 0x22, 0x22] else [0x0A]

theorem tbContent_body {b : Bytes} (hb : TbBody b) (tm : Bool) (he : tm = true → EndOK b) (rest : Bytes)
    (f : Nat) (acc : Bytes) (esc : Bool) (hf : b.length < f) :
    tbContent f acc esc (b ++ tbTerm tm ++ rest) = some (acc.reverse ++ b, esc || hasEsc b, tm, rest) := by
  have hf1 : 1 + b.length ≤ f := by rw [Nat.add_comm]; exact hf
  rw [List.append_assoc]
  cases tm with
  | false =>
    obtain ⟨k, h⟩ := tbContent_through hb f 1 acc esc (0x0A :: rest) (.inl (by simp)) hf1
    show tbContent f acc esc (b ++ 0x0A :: rest) = _
    rw [h, tbContent_lf, List.reverse_append, List.reverse_reverse]
  | true =>
    obtain ⟨k, h⟩ := tbContent_through hb f 1 acc esc (0x22 :: 0x22 :: 0x22 :: rest) (.inr (he rfl)) hf1
    show tbContent f acc esc (b ++ 0x22 :: 0x22 :: 0x22 :: rest) = _
    rw [h, tbContent_close, List.reverse_append, List.reverse_reverse]

theorem tbContent_eof {p : Bytes} (hp : TbBody p) (f : Nat) (acc : Bytes) (esc : Bool) (hf : p.length ≤ f) :
    tbContent f acc esc p = none := by
  obtain ⟨f', h⟩ := tbContent_through hp f 0 acc esc [] (.inl nofun) (by rw [Nat.zero_add]; exact hf)
  rw [List.append_nil] at h
  rw [h, tbContent_nil]

/-- every input is a body up to the end of the input, or a body, its terminator (the first line feed
    or unescaped triple quote) and a rest -/
theorem tbBody_parse (s : Bytes) :
    TbBody s ∨ ∃ b tm rest, TbBody b ∧ (tm = true → EndOK b) ∧ s = b ++ tbTerm tm ++ rest := by
  induction s using tbUnescape.induct with
  | case1 r ih =>
    rcases ih with h | ⟨b, tm, rest, hb, he, rfl⟩
    · exact .inl (.esc r h)
    · exact .inr ⟨_, tm, rest, .esc b hb, fun ht => endOK_esc b (he ht), rfl⟩
  | case3 => exact .inl .nil
  | case2 a r hne ih =>
    have he : ¬ [0x5C, 0x22, 0x22, 0x22] <+: a :: r := by rintro ⟨t, ht⟩; cases ht; exact hne t rfl rfl
    by_cases hq : [0x22, 0x22, 0x22] <+: a :: r
    · obtain ⟨t, ht⟩ := hq
      exact .inr ⟨[], true, t, .nil, fun _ => endOK_nil, ht.symm⟩
    by_cases hlf : a = 0x0A
    · exact .inr ⟨[], false, r, .nil, nofun, by rw [hlf]; rfl⟩
    rcases ih with h | ⟨b, tm, rest, hb, hend, rfl⟩
    · exact .inl (.plain a r hlf hq he h)
    · have hpre : a :: b <+: a :: (b ++ tbTerm tm ++ rest) := by
        rw [List.append_assoc]; exact List.prefix_append (a :: b) _
      refine .inr ⟨a :: b, tm, rest, .plain a b hlf (not_prefix_of_prefix hq hpre) (not_prefix_of_prefix he hpre) hb,
        fun ht => ?_, rfl⟩
      by_cases hb0 : b = []
      · -- the delimiter follows `a` directly: `a` is no backslash and no quote
        subst hb0 ht
        have h5 : a ≠ 0x5C := by rintro rfl; exact he ⟨rest, rfl⟩
        have h6 : a ≠ 0x22 := by rintro rfl; exact hq ⟨0x22 :: rest, rfl⟩
        simp [EndOK, h5, h6]
      · exact endOK_cons a b hb0 (hend ht)

theorem tbBody_iff_scan (b : Bytes) : TbBody b ↔ (tbContent (b.length + 1) [] false b).isNone = true := by
  rw [Option.isNone_iff_eq_none]
  refine ⟨fun h => tbContent_eof h _ _ _ (Nat.le_succ _), fun h => ?_⟩
  rcases tbBody_parse b with hb | ⟨x, tm, rest, hx, he, rfl⟩
  · exact hb
  · rw [tbContent_body hx tm he rest _ _ _ (by simp only [List.length_append]; omega)] at h
    cases h

instance (b : Bytes) : Decidable (TbBody b) := decidable_of_iff _ (tbBody_iff_scan b).symm

theorem span_blank (ind x : Bytes) (hi : ∀ c ∈ ind, isBlank c = true)
    (hx : ∀ c, x.head? = some c → isBlank c = false) :
    (ind ++ x).takeWhile isBlank = ind ∧ (ind ++ x).dropWhile isBlank = x := by
  induction ind with
  | nil =>
    cases x with
    | nil => simp
    | cons c x => simp [hx c rfl]
  | cons a ind ih =>
    have ha : isBlank a = true := hi a (by simp)
    have := ih (fun c hc => hi c (by simp [hc]))
    simp [ha, this]

theorem tbLine_enc (l : SrcLine) (hl : l.WF) (tm : Bool) (he : tm = true → EndOK l.body) (rest : Bytes) :
    tbLine (l.indent ++ l.body ++ tbTerm tm ++ rest) =
      some ({ indent := l.indent, content := l.body, hasNewline := !tm, needsEsc := hasEsc l.body,
              terminal := tm }, rest) := by
  have hx : ∀ c, (l.body ++ tbTerm tm ++ rest).head? = some c → isBlank c = false := by
    cases hb : l.body with
    | nil => cases tm <;> (intro c hc; cases hc; decide)
    | cons b body => simpa [hb] using hl.2.1
  obtain ⟨h1, h2⟩ := span_blank l.indent (l.body ++ tbTerm tm ++ rest) hl.1 hx
  unfold tbLine
  rw [List.append_assoc, List.append_assoc, ← List.append_assoc l.body, h1, h2]
  simp only []
  rw [tbContent_body hl.2.2 tm he rest _ _ _ (by simp only [List.length_append]; omega)]
  rfl

theorem tbLine_eof (s : Bytes) (h : TbBody (s.dropWhile isBlank)) : tbLine s = none := by
  unfold tbLine
  simp only []
  rw [tbContent_eof h _ _ _ (Nat.le_succ _)]

theorem dropWhile_head (s : Bytes) : ∀ c, (s.dropWhile isBlank).head? = some c → isBlank c = false := by
  intro c hc
  have := List.head?_dropWhile_not isBlank s
  rw [hc] at this
  simpa using this

theorem tbLine_parse (s : Bytes) : TbBody (s.dropWhile isBlank) ∨
    ∃ (l : SrcLine) (tm : Bool) (rest : Bytes), l.WF ∧ (tm = true → EndOK l.body) ∧
      s = l.indent ++ l.body ++ tbTerm tm ++ rest := by
  rcases tbBody_parse (s.dropWhile isBlank) with h | ⟨b, tm, rest, hb, he, hs⟩
  · exact .inl h
  · refine .inr ⟨⟨s.takeWhile isBlank, b⟩, tm, rest, ⟨List.all_eq_true.mp List.all_takeWhile, fun c hc => ?_, hb⟩, he, ?_⟩
    · apply dropWhile_head s c
      rw [hs]
      cases b with
      | nil => cases hc
      | cons a t => simpa using hc
    · rw [List.append_assoc, List.append_assoc, ← List.append_assoc b, ← hs, List.takeWhile_append_dropWhile]

theorem tbLine_some_iff (s : Bytes) (ln : TbLine) (rest : Bytes) :
    tbLine s = some (ln, rest) ↔ ∃ (l : SrcLine) (tm : Bool), l.WF ∧ (tm = true → EndOK l.body) ∧
      s = l.indent ++ l.body ++ tbTerm tm ++ rest ∧
      ln = { indent := l.indent, content := l.body, hasNewline := !tm, needsEsc := hasEsc l.body, terminal := tm } := by
  constructor
  · intro h
    rcases tbLine_parse s with hn | ⟨l, tm, rest', hl, he, rfl⟩
    · rw [tbLine_eof s hn] at h; cases h
    · rw [tbLine_enc l hl tm he] at h
      cases h
      exact ⟨l, tm, hl, he, rfl, rfl⟩
  · rintro ⟨l, tm, hl, he, rfl, rfl⟩
    exact tbLine_enc l hl tm he rest

theorem tbLine_none_iff (s : Bytes) : tbLine s = none ↔ TbBody (s.dropWhile isBlank) := by
  refine ⟨fun h => ?_, tbLine_eof s⟩
  rcases tbLine_parse s with hn | ⟨l, tm, rest', hl, he, rfl⟩
  · exact hn
  · rw [tbLine_enc l hl tm he] at h; cases h

theorem tbLine_rest (s : Bytes) (ln : TbLine) (rest : Bytes) (h : tbLine s = some (ln, rest)) :
    rest <:+ s ∧ rest.length < s.length := by
  obtain ⟨l, tm, -, -, rfl, -⟩ := (tbLine_some_iff s ln rest).mp h
  have hpos : 0 < (tbTerm tm).length := by cases tm <;> exact Nat.succ_pos _
  exact ⟨List.suffix_append _ _, by simp only [List.length_append]; omega⟩

theorem srcLine_wf_iff (l : SrcLine) :
    l.WF ↔ (∀ c ∈ l.indent, isBlank c = true) ∧ (l.body.head?.all fun c => !isBlank c) = true ∧ TbBody l.body := by
  unfold SrcLine.WF
  cases l.body.head? <;> simp

instance (l : SrcLine) : Decidable l.WF := decidable_of_iff _ (srcLine_wf_iff l).symm

/-- what `tbLine` returns on a source line followed by its line feed (`tbLine_lf`) -/
def toTb (l : SrcLine) : TbLine :=
  { indent := l.indent, content := l.body, hasNewline := true, needsEsc := hasEsc l.body, terminal := false }

/-- what `tbLine` returns on the line that the closing `"""` ends (`tbLine_close`) -/
def closeTb (ind body : Bytes) : TbLine :=
  { indent := ind, content := body, hasNewline := false, needsEsc := hasEsc body, terminal := true }

theorem tbLines_succ (f : Nat) (s : Bytes) (acc : List TbLine) :
    tbLines (f + 1) s acc =
      if s.isEmpty then .error .missingCloser
      else match tbLine s with
        | none => .error (.eofInLine s)
        | some (ln, rest) =>
          if ln.terminal then .ok ((ln :: acc).reverse, rest) else tbLines f rest (ln :: acc) := rfl

theorem tbLine_lf (l : SrcLine) (hl : l.WF) (t : Bytes) :
    tbLine (l.indent ++ l.body ++ [0x0A] ++ t) = some (toTb l, t) :=
  tbLine_enc l hl false nofun t

theorem tbLine_close (l : SrcLine) (hl : l.WF) (he : EndOK l.body) (rest : Bytes) :
    tbLine (l.indent ++ l.body ++ [0x22, 0x22, 0x22] ++ rest) = some (closeTb l.indent l.body, rest) :=
  tbLine_enc l hl true (fun _ => he) rest

theorem tbLines_enc (lines : List SrcLine) (hl : ∀ l ∈ lines, l.WF) :
    ∀ (f : Nat) (tail : Bytes) (acc : List TbLine),
      tbLines (f + lines.length) (encodeLines lines ++ tail) acc =
        tbLines f tail ((lines.map toTb).reverse ++ acc) := by
  induction lines with
  | nil => intro f tail acc; rfl
  | cons l ls ih =>
    intro f tail acc
    have hne : (l.indent ++ l.body ++ [0x0A] ++ (encodeLines ls ++ tail)).isEmpty = false := by simp
    rw [List.length_cons, ← Nat.add_assoc, tbLines_succ, encodeLines_cons, List.append_assoc,
      tbLine_lf l (hl l (List.mem_cons_self ..)), hne]
    simp only [Bool.false_eq_true, if_false, toTb]
    rw [ih (fun l h => hl l (List.mem_cons_of_mem _ h))]
    simp [toTb]

theorem enc_length (lines : List SrcLine) : lines.length ≤ (encodeLines lines).length := by
  induction lines with
  | nil => exact Nat.le_refl 0
  | cons l ls ih => rw [encodeLines_cons]; simp only [List.length_append, List.length_cons]; omega

theorem tbLines_start (lines : List SrcLine) (hl : ∀ l ∈ lines, l.WF) (tail s : Bytes)
    (hs : s = encodeLines lines ++ tail) :
    ∃ k, tbLines (s.length + 2) s [] = tbLines (k + 1) tail (lines.map toTb).reverse := by
  have hlen := enc_length lines
  refine ⟨s.length + 1 - lines.length, ?_⟩
  have hk : s.length + 2 = (s.length + 1 - lines.length + 1) + lines.length := by
    rw [hs, List.length_append]; omega
  rw [hk, hs, tbLines_enc lines hl, List.append_nil]

theorem tbLines_block (lines : List SrcLine) (hl : ∀ l ∈ lines, l.WF) (l : SrcLine) (hw : l.WF)
    (he : EndOK l.body) (rest s : Bytes)
    (hs : s = encodeLines lines ++ (l.indent ++ l.body ++ [0x22, 0x22, 0x22] ++ rest)) :
    tbLines (s.length + 2) s [] = .ok (lines.map toTb ++ [closeTb l.indent l.body], rest) := by
  obtain ⟨k, hk⟩ := tbLines_start lines hl _ s hs
  rw [hk, tbLines_succ, tbLine_close l hw he]
  simp [closeTb]

theorem tbLines_unclosed (lines : List SrcLine) (hl : ∀ l ∈ lines, l.WF) (s : Bytes)
    (hs : s = encodeLines lines) : tbLines (s.length + 2) s [] = .error .missingCloser := by
  obtain ⟨k, hk⟩ := tbLines_start lines hl [] s (by rw [hs, List.append_nil])
  rw [hk, tbLines_succ]
  rfl

theorem tbLines_cut (lines : List SrcLine) (hl : ∀ l ∈ lines, l.WF) (ls : Bytes) (hne : ls ≠ [])
    (hb : TbBody (ls.dropWhile isBlank)) (s : Bytes) (hs : s = encodeLines lines ++ ls) :
    tbLines (s.length + 2) s [] = .error (.eofInLine ls) := by
  obtain ⟨k, hk⟩ := tbLines_start lines hl ls s hs
  rw [hk, tbLines_succ, tbLine_eof ls hb, List.isEmpty_eq_false_iff.mpr hne]
  rfl

def TbOutcome {α : Type} (s : Bytes) : Except TbErr (α × Bytes) → Prop
  | .ok (_, rest) => ClosedAt s rest
  | .error .missingCloser => Unclosed s
  | .error (.eofInLine ls) => CutLine s ls

theorem tbOutcome_cons {α : Type} (l : SrcLine) (hl : l.WF) (s : Bytes) (r : Except TbErr (α × Bytes))
    (h : TbOutcome s r) : TbOutcome (l.indent ++ l.body ++ [0x0A] ++ s) r := by
  have hall : ∀ lines : List SrcLine, (∀ x ∈ lines, x.WF) → ∀ x ∈ l :: lines, x.WF :=
    fun lines h => List.forall_mem_cons.mpr ⟨hl, h⟩
  cases r with
  | ok x =>
    obtain ⟨lines, ind, b, h1, h2, h3, h4⟩ := h
    exact ⟨l :: lines, ind, b, hall lines h1, h2, h3, by rw [h4, encodeLines_cons]; simp only [List.append_assoc]⟩
  | error e =>
    cases e with
    | missingCloser =>
      obtain ⟨lines, h1, h2⟩ := h
      exact ⟨l :: lines, hall lines h1, by rw [h2, encodeLines_cons]⟩
    | eofInLine ls =>
      obtain ⟨lines, h1, h2, h3, h4⟩ := h
      exact ⟨l :: lines, hall lines h1, by rw [h2, encodeLines_cons]; simp only [List.append_assoc], h3, h4⟩

theorem tbLines_outcome (f : Nat) (s : Bytes) (acc : List TbLine) :
    s.length < f → TbOutcome s (tbLines f s acc) := by
  induction f, s, acc using tbLines.induct with
  | case1 => intro hf; exact absurd hf (Nat.not_lt_zero _)
  | case2 f s acc hs =>
    intro _
    rw [tbLines_succ, if_pos hs]
    exact ⟨[], nofun, List.isEmpty_iff.mp hs⟩
  | case3 f s acc hs hl =>
    intro _
    rw [tbLines_succ, if_neg hs, hl]
    exact ⟨[], nofun, rfl, fun h => hs (List.isEmpty_iff.mpr h), (tbLine_none_iff s).mp hl⟩
  | case4 f s acc hs ln rest hl ht =>
    intro _
    rw [tbLines_succ, if_neg hs, hl]
    simp only [ht, if_true]
    obtain ⟨l, tm, hw, he, rfl, rfl⟩ := (tbLine_some_iff s ln rest).mp hl
    cases (show tm = true from ht)
    exact ⟨[], l.indent, l.body, nofun, hw, he rfl, rfl⟩
  | case5 f s acc hs ln rest hl ht ih =>
    intro hf
    have hlt := (tbLine_rest s ln rest hl).2
    rw [tbLines_succ, if_neg hs, hl]
    simp only [ht]
    obtain ⟨l, tm, hw, -, rfl, rfl⟩ := (tbLine_some_iff s ln rest).mp hl
    cases tm with
    | true => exact absurd rfl ht
    | false => exact tbOutcome_cons l hw rest _ (ih (by omega))

theorem ClosedAt.suffix {s rest : Bytes} (h : ClosedAt s rest) : rest <:+ s := by
  obtain ⟨lines, ind, b, -, -, -, rfl⟩ := h
  exact List.suffix_append _ _

theorem CutLine.suffix {s ls : Bytes} (h : CutLine s ls) : ls <:+ s := by
  obtain ⟨lines, -, rfl, -, -⟩ := h
  exact List.suffix_append _ _

end Edn.Proofs
