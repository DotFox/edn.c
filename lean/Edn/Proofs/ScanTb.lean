/-
  The lemmas of C12 for the sixth vector scanner, the text-block line reader with its block pre-scans
  (`tbLineSimd`, following `simd_scan_line_content` and the indentation loop of
  `edn_parse_text_block_line`); that it equals the byte-at-a-time `tbLine` is put together from them in
  Edn.Properties.C12 (`text_block_line_scanner`).  The pre-scan skips only bytes the lane test rejects
  (`tbSkipBlocks_spec`, `tbSkipBlankBlocks_spec`), and over such a byte the scalar loop `tbContent` only
  moves it into the content and leaves the escape flag alone (`tbContent_skip`), whence
  `tbContentSimd_eq`.
-/
import Edn.Model.ScanTb
import Edn.Proofs.Scan

namespace Edn.Proofs
open Edn.Model

theorem tbLane_spec (c : UInt8) : tbLane c = (c == 0x0A || c == 0x22 || c == 0x5C) := rfl

theorem tbLane_false {c : UInt8} (h : tbLane c = false) : c ≠ 0x0A ∧ c ≠ 0x22 ∧ c ≠ 0x5C := by
  rw [tbLane_spec] at h
  simp only [Bool.or_eq_false_iff, beq_eq_false_iff_ne, ne_eq] at h
  exact ⟨h.1.1, h.1.2, h.2⟩

theorem tbContent_nil (f : Nat) (acc : Bytes) (esc : Bool) : tbContent f acc esc [] = none := by
  cases f <;> rfl

theorem tbContent_esc (f : Nat) (acc : Bytes) (esc : Bool) (r : Bytes) :
    tbContent (f + 1) acc esc (0x5C :: 0x22 :: 0x22 :: 0x22 :: r) =
      tbContent f (0x22 :: 0x22 :: 0x22 :: 0x5C :: acc) true r := rfl

theorem tbContent_close (f : Nat) (acc : Bytes) (esc : Bool) (r : Bytes) :
    tbContent (f + 1) acc esc (0x22 :: 0x22 :: 0x22 :: r) = some (acc.reverse, esc, true, r) := rfl

theorem tbContent_lf (f : Nat) (acc : Bytes) (esc : Bool) (r : Bytes) :
    tbContent (f + 1) acc esc (0x0A :: r) = some (acc.reverse, esc, false, r) := rfl

theorem tbContent_other (f : Nat) (acc : Bytes) (esc : Bool) (c : UInt8) (r : Bytes)
    (hlf : c ≠ 0x0A) (hq : ¬ [0x22, 0x22, 0x22] <+: c :: r)
    (he : ¬ [0x5C, 0x22, 0x22, 0x22] <+: c :: r) :
    tbContent (f + 1) acc esc (c :: r) = tbContent f (c :: acc) esc r := by
  conv => lhs; unfold tbContent
  split
  · exact absurd (by simp) he
  · exact absurd (by simp) hq
  · exact absurd rfl hlf
  · rfl

theorem tbContent_skip (f : Nat) (esc : Bool) (r : Bytes) : ∀ (pre acc : Bytes),
    pre.all (fun c => !tbLane c) = true →
    tbContent (f + pre.length) acc esc (pre ++ r) = tbContent f (pre.reverse ++ acc) esc r := by
  intro pre
  induction pre with
  | nil => intro acc _; rfl
  | cons c cs ih =>
    intro acc h
    simp only [List.all_cons, Bool.and_eq_true, Bool.not_eq_eq_eq_not, Bool.not_true] at h
    obtain ⟨h1, h2, h3⟩ := tbLane_false h.1
    rw [List.length_cons, ← Nat.add_assoc, List.cons_append,
      tbContent_other _ _ _ _ _ h1 (fun hp => h2 (List.cons_prefix_cons.mp hp).1.symm)
        (fun hp => h3 (List.cons_prefix_cons.mp hp).1.symm), ih _ h.2]
    simp

theorem tbSkipBlocks_spec : ∀ (f : Nat) (s : Bytes),
    ∃ pre, s = pre ++ tbSkipBlocks f s ∧ pre.all (fun c => !tbLane c) = true := by
  intro f
  induction f with
  | zero => intro s; exact ⟨[], rfl, rfl⟩
  | succ f ih =>
    intro s
    unfold tbSkipBlocks
    split
    · rename_i blk hb
      split
      · rename_i i hi
        obtain ⟨pre, d, r, hs, hd, ha, -⟩ := block16_split hb hi
        exact ⟨pre, by rw [hd]; exact hs, ha⟩
      · rename_i hn
        obtain ⟨pre, hp, hpa⟩ := ih (s.drop 16)
        refine ⟨s.take 16 ++ pre, ?_, ?_⟩
        · rw [List.append_assoc, ← hp, List.take_append_drop]
        · rw [List.all_append, hpa, ← (block16_some hb).1, all_not_of_findIdx_none hn]; rfl
    · exact ⟨[], rfl, rfl⟩

/-- with the fuel the reader gives it the pre-scan stops only where the C loop stops: fewer
    than 16 bytes remain, or the byte it stands on is a special lane -/
theorem tbSkipBlocks_stop : ∀ (f : Nat) (s : Bytes), s.length < f →
    (tbSkipBlocks f s).length < 16 ∨ ∃ d t, tbSkipBlocks f s = d :: t ∧ tbLane d = true := by
  intro f
  induction f with
  | zero => intro s h; exact absurd h (Nat.not_lt_zero _)
  | succ f ih =>
    intro s hf
    unfold tbSkipBlocks
    split
    · rename_i blk hb
      split
      · rename_i i hi
        obtain ⟨pre, d, r, -, hd, -, hpd⟩ := block16_split hb hi
        exact .inr ⟨d, r, hd, hpd⟩
      · exact ih (s.drop 16) (block16_drop_lt hb hf)
    · rename_i hb
      exact .inl (block16_none hb)

theorem tbContentSimd_eq (body : Bytes) :
    tbContentSimd body = tbContent (body.length + 1) [] false body := by
  unfold tbContentSimd
  obtain ⟨pre, hp, ha⟩ := tbSkipBlocks_spec (body.length + 1) body
  generalize tbSkipBlocks (body.length + 1) body = rest at hp
  subst hp
  simp only [List.length_append, Nat.add_sub_cancel, List.take_left']
  have := tbContent_skip (rest.length + 1) false rest pre [] ha
  rw [List.append_nil] at this
  rw [← this]
  congr 1
  omega

theorem tbSkipBlankBlocks_spec : ∀ (f : Nat) (s : Bytes),
    ∃ pre, s = pre ++ tbSkipBlankBlocks f s ∧ pre.all isBlank = true := by
  intro f
  induction f with
  | zero => intro s; exact ⟨[], rfl, rfl⟩
  | succ f ih =>
    intro s
    unfold tbSkipBlankBlocks
    split
    · rename_i blk hb
      split
      · rename_i hall
        obtain ⟨pre, hp, hpa⟩ := ih (s.drop 16)
        refine ⟨s.take 16 ++ pre, ?_, ?_⟩
        · rw [List.append_assoc, ← hp, List.take_append_drop]
        · rw [List.all_append, hpa, ← (block16_some hb).1, hall]; rfl
      · split
        · rename_i i hi
          obtain ⟨pre, d, r, hs, hd, ha, -⟩ := block16_split hb hi
          exact ⟨pre, by rw [hd]; exact hs, by simpa using ha⟩
        · exact ⟨[], rfl, rfl⟩
    · exact ⟨[], rfl, rfl⟩

/-- in a block that is not all blank the first non-blank lane exists: the `none` branch of
    `tbSkipBlankBlocks` (kept only to make the definition total) is never taken -/
theorem tbSkipBlankBlocks_lane (blk : Bytes) (h : ¬ blk.all isBlank = true) :
    ∃ i, blk.findIdx? (fun c => !isBlank c) = some i := by
  cases hi : blk.findIdx? (fun c => !isBlank c) with
  | some i => exact ⟨i, rfl⟩
  | none => exact absurd (by simpa using all_not_of_findIdx_none hi) h

theorem take_length_sub_dropWhile (q : UInt8 → Bool) (s : Bytes) :
    s.take (s.length - (s.dropWhile q).length) = s.takeWhile q := by
  have h := List.takeWhile_append_dropWhile (p := q) (l := s)
  have hl : s.length = (s.takeWhile q).length + (s.dropWhile q).length := by
    rw [← List.length_append, h]
  rw [hl, Nat.add_sub_cancel]
  conv => lhs; arg 2; rw [← h]
  exact List.take_left' rfl

end Edn.Proofs
