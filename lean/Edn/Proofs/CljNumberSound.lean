/-
  Exactness of the number reader with the Clojure flag (either setting of the experimental flag):
  started where the dispatcher sends a number, `edn_read_number` returns a payload and a
  continuation point **iff** the bytes consumed are a token of `Edn.Spec.CljNum` denoting that
  payload and the continuation is an admissible end (`Edn.Spec.CljNumEnd`).

  The end condition cannot be `TermStart rest` as in the core theorem (`readNumber_core_sound`): with
  the Clojure flag that is false.  A ratio that denotes an integer (`4/2`, `0/5`) makes
  `edn_read_number` return early (number.c, the two `return value;` in the ratio block and the
  `create_ratio_zero:` path), *without* `validate_number_delimiter`; the denominator scan only
  requires the next byte to be a delimiter of the identifier table, which contains two bytes that
  are not number terminators: `\` (0x5C) and DEL (0x7F).  Counterexample (checked below): `4/2\a`
  reads as the integer 2 with rest `\a`, although `2\a`, `1/2\a` and `4\a` are errors.  So the end
  condition is `CljNumEnd tok v rest`: `TermStart rest`, or — for a token containing `/` whose
  payload is an `int` — any delimiter start.  With that end condition the reader is sound and
  complete.
-/
import Edn.Spec.CljNumLit
import Edn.Proofs.NumberReader

namespace Edn.Proofs.CljN
open Edn.Model Edn.Spec Edn.Proofs Edn.Proofs.CNum

theorem peek_cons (c : UInt8) (t : Bytes) : peek (c :: t) = c := Edn.Proofs.peek_cons c t
theorem adv_cons (c : UInt8) (t : Bytes) : adv (c :: t) = t := Edn.Proofs.adv_cons c t
theorem peek_nil : peek ([] : Bytes) = 0 := Edn.Proofs.peek_nil

theorem peek_append_ne {a : Bytes} (h : a ≠ []) (b : Bytes) : peek (a ++ b) = peek a := by
  cases a with
  | nil => exact absurd rfl h
  | cons c t => rfl

theorem noTrail_of_flag {exp : Bool} {l : Bytes} (h1 : exp = true → NoTrailU l)
    (h2 : exp = false → (0x5F : UInt8) ∉ l) : NoTrailU l := by
  cases he : exp
  · exact noTrailU_of_not_mem (h2 he)
  · exact h1 he

theorem ratioDen_noSlash {dd : Bytes} (h : RatioDen dd) : ∀ c ∈ dd, OkB c :=
  fun c hc => okB_digit (h.2.1 c hc)

theorem ratioBranch_sound (cfg : Cfg) (neg : Bool) (nd Y : Bytes) (v : NumVal) (rest : Bytes)
    (hn : NzRun cfg.exp nd) (h : ratioBranch cfg neg nd Y = .ok v rest) :
    ∃ dd, Y = dd ++ rest ∧ RatioDen dd ∧ v = ratioValue cfg neg nd dd ∧
      (TermStart rest ∨ ((∃ i, v = .int i) ∧ DelimStart rest)) := by
  unfold ratioBranch at h
  cases hrd : ratioDenominator Y with
  | error cur =>
    rw [hrd] at h
    exact NumOut.noConfusion h
  | ok s' =>
    rw [hrd] at h
    simp only [] at h
    obtain ⟨dd, rfl, hdd, hdl⟩ := ratioDen_inv Y s' hrd
    rw [slice_append] at h
    have hpn : ∃ V, parseInt64 cfg nd 10 neg = inRange neg V :=
      ⟨_, parseInt64_run cfg 10 (by omega) nd neg (nzRun_digRun hn)⟩
    rcases ratioOut_eq cfg neg nd dd s' hpn hdd with ⟨i, hv, ho⟩ | ⟨-, ho⟩
    · rw [ho] at h
      injection h with h1 h2
      subst h1 h2
      exact ⟨dd, rfl, hdd, hv.symm, Or.inr ⟨⟨i, rfl⟩, hdl⟩⟩
    · rw [ho] at h
      obtain ⟨rfl, rfl, ht⟩ := CNum.finishNum_ok h
      exact ⟨dd, rfl, hdd, rfl, Or.inl ht⟩

theorem decimal_sound (cfg : Cfg) (sg : Bytes) (neg : Bool) (ip X : Bytes) (v : NumVal)
    (rest : Bytes) (hs : SignTok sg neg) (hip : CljInt cfg.exp ip)
    (hz : ZeroRun ip → (peek X == 0x2E || (peek X == 0x65 || peek X == 0x45)) = true)
    (h : afterIp cfg (sg ++ (ip ++ X)) neg (ip ++ X) X = .ok v rest) :
    ∃ tok, sg ++ (ip ++ X) = tok ++ rest ∧ CljNum cfg tok v ∧ CljNumEnd tok v rest := by
  obtain ⟨fr, ex, hfr, hex, hsep, hzero, hshape⟩ := afterIp_shapes cfg sg neg ip X v rest h
  have hm : CljMantissa cfg.exp ip fr ex := ⟨hip, hfr, hex, fun hne =>
    noTrail_of_flag (fun he => noTrailU_of_append (hsep hne he)) (fun he => cljFrac_noU he hfr)⟩
  have hnz : fr = [] → ex = [] → NzRun cfg.exp ip := by
    intro hf0 he0
    rcases hip with hzr | hn
    · rw [hzero hf0 he0] at hz
      exact Bool.noConfusion (hz hzr)
    · exact hn
  rcases hshape with ⟨rfl, rfl, rfl, rfl, ht, -⟩ | ⟨rfl, rfl, ht, hu⟩ | ⟨-, rfl, rfl, -, Y, rfl, hr⟩ |
    ⟨hne, rfl, rfl, ht⟩ | ⟨rfl, rfl, rfl, rfl, ht⟩
  · -- `N`
    refine ⟨sg ++ ip ++ [0x4E], by simp, ?_, Or.inl ht⟩
    have := CljNum.decN (cfg := cfg) sg ip neg hs hip
    rwa [nz_zeroNorm (hnz rfl rfl)] at this
  · -- `M`
    refine ⟨sg ++ ip ++ fr ++ ex ++ [0x4D], by simp, ?_, Or.inl ht⟩
    have := CljNum.decM (cfg := cfg) sg ip fr ex neg hs hm (noTrail_of_flag hu fun he => mantissa_noU he hm)
    rwa [zeroNorm_body hfr hex hnz] at this
  · -- ratio
    have hn := hnz rfl rfl
    obtain ⟨dd, rfl, hdd, rfl, hend⟩ := ratioBranch_sound cfg neg ip Y v rest hn hr
    exact ⟨sg ++ ip ++ [0x2F] ++ dd, by simp, CljNum.ratio sg ip dd neg hs hn hdd,
      hend.imp_right fun ⟨hi, hdl⟩ => ⟨by simp, hi, hdl⟩⟩
  · -- float
    exact ⟨sg ++ ip ++ fr ++ ex, by simp, CljNum.float sg ip fr ex neg hs hm hne, Or.inl ht⟩
  · -- integer
    rw [intOrBig_run cfg 10 (by omega) ip neg (nzRun_digRun (hnz rfl rfl))]
    exact ⟨sg ++ ip, by simp, CljNum.dec sg ip neg hs hip, Or.inl ht⟩

theorem zeroRest_sound (cfg : Cfg) (hc : cfg.clj = true) (sg : Bytes) (neg : Bool) (zs X : Bytes) (v : NumVal)
    (rest : Bytes) (hs : SignTok sg neg) (hz : ZeroRun zs)
    (h : zeroRest cfg (sg ++ (zs ++ X)) neg (zs ++ X) X = .ok v rest) :
    ∃ tok, sg ++ (zs ++ X) = tok ++ rest ∧ CljNum cfg tok v ∧ CljNumEnd tok v rest := by
  have hzi : CljInt cfg.exp zs := Or.inl hz
  by_cases hD : (peek X == 0x2E || (peek X == 0x65 || peek X == 0x45)) = true
  · rw [zeroRest_afterIp cfg _ neg zs X hz hD] at h
    exact decimal_sound cfg sg neg zs X v rest hs hzi (fun _ => hD) h
  by_cases hN : peek X = 0x4E
  · obtain ⟨t, rfl⟩ := CNum.of_peek hN (by decide)
    rw [zeroRest_N] at h
    obtain ⟨rfl, rfl, ht⟩ := CNum.finishNum_ok h
    refine ⟨sg ++ zs ++ [0x4E], by simp, ?_, Or.inl ht⟩
    have := CljNum.decN (cfg := cfg) sg zs neg hs hzi
    rwa [zeroNorm_zeros hz] at this
  by_cases hM : peek X = 0x4D
  · obtain ⟨t, rfl⟩ := CNum.of_peek hM (by decide)
    rw [zeroRest_M] at h
    obtain ⟨rfl, rfl, ht⟩ := CNum.finishNum_ok h
    refine ⟨sg ++ zs ++ [0x4D], by simp, ?_, Or.inl ht⟩
    have := CljNum.decM (cfg := cfg) sg zs [] [] neg hs
      ⟨hzi, Or.inl rfl, Or.inl rfl, fun _ => noTrailU_nil⟩ (by simpa using cljInt_noTrail hzi)
    simp only [List.append_nil] at this
    rwa [zeroNorm_zeros hz] at this
  by_cases hR : peek X = 0x2F
  · obtain ⟨Y, rfl⟩ := CNum.of_peek hR (by decide)
    rw [zeroRest_slash cfg hc] at h
    cases hrd : ratioDenominator Y with
    | error cur =>
      rw [hrd] at h
      exact NumOut.noConfusion h
    | ok s' =>
      rw [hrd] at h
      injection h with h1 h2
      subst h1 h2
      obtain ⟨dd, rfl, hdd, hdl⟩ := ratioDen_inv _ _ hrd
      exact ⟨sg ++ zs ++ [0x2F] ++ dd, by simp, CljNum.zeroRatio sg zs dd neg hs hz hdd,
        Or.inr ⟨by simp, ⟨0, rfl⟩, hdl⟩⟩
  · rw [zeroRest_int cfg _ neg _ (Bool.not_eq_true _ |>.mp hD) hN hM (fun _ => hR)] at h
    obtain ⟨rfl, rfl, ht⟩ := CNum.finishNum_ok h
    refine ⟨sg ++ zs, by simp, ?_, Or.inl ht⟩
    have := CljNum.dec (cfg := cfg) sg zs neg hs hzi
    rwa [intPayload_zeros neg zs hz] at this

theorem numBody_sound (cfg : Cfg) (hc : cfg.clj = true) (sg : Bytes) (neg : Bool) (body : Bytes) (v : NumVal)
    (rest : Bytes) (hs : SignTok sg neg) (hb : is09 (peek body) = true)
    (h : numBody cfg (sg ++ body) neg body = .ok v rest) :
    ∃ tok, sg ++ body = tok ++ rest ∧ CljNum cfg tok v ∧ CljNumEnd tok v rest := by
  rw [numBody] at h
  obtain ⟨rp, X, hbody, hne, hall, hX⟩ := run_split is09 (by decide) hb
  by_cases hr : (peek X == 0x72 || peek X == 0x52) = true
  · -- radix form
    obtain ⟨r, Y, rfl, hrr⟩ := of_peek_or (by decide) (by decide) hr
    subst hbody
    rw [radixPart_some cfg hc neg rp r Y hne hall hrr] at h
    obtain ⟨hrange, h⟩ := ite_ok_err h
    have hrv : radixPrefixValue 0 rp = natOfDigits rp := CNum.radixPrefixValue_eq rp 0 (Or.inl hrange.2)
    rw [hrv] at h hrange
    obtain ⟨hdg, h⟩ := ite_ok_err h
    obtain ⟨run, suf, rfl, hdr, hnt, ht, hsN, hsM, rfl⟩ :=
      loopTail_inv cfg neg (natOfDigits rp) hrange true false [] Y v rest nofun hdg h
    refine ⟨sg ++ rp ++ [r] ++ run ++ suf.bytes, by simp,
      CljNum.radix sg rp run r neg suf hs ⟨hne, hall⟩ hrange hrr hdr (hnt rfl) ?_, Or.inl ht⟩
    cases suf with
    | none => exact Or.inl rfl
    | N => exact absurd (hsN rfl) (by decide)
    | M => exact Or.inr ⟨rfl, hsM rfl⟩
  have hnone : radixPart cfg neg body = none := by
    rw [hbody]
    exact radixPart_none cfg neg rp X hall hX (by simpa using hr)
  rw [hnone] at h
  rcases ite_eq_elim h with ⟨h0, h⟩ | ⟨h0, h⟩
  · -- zero path
    obtain ⟨zs, X', rfl, hne0, hzs, hX'⟩ := run_split (· == 0x30) (by decide) h0
    have hz : ZeroRun zs := ⟨hne0, fun c hc => by simpa using hzs c hc⟩
    rw [zeroPart_eq cfg hc _ neg zs X' hz hX'] at h
    rcases ite_eq_elim h with ⟨hx, h⟩ | ⟨-, h⟩
    · -- hexadecimal
      obtain ⟨x, Y, rfl, hx'⟩ := of_peek_or (by decide) (by decide) hx
      obtain ⟨hdg, h⟩ := ite_ok_err h
      obtain ⟨run, suf, rfl, hdr, -, ht, -, -, rfl⟩ :=
        loopTail_inv cfg neg 16 (by omega) false true [] Y v rest nofun hdg h
      exact ⟨sg ++ zs ++ [x] ++ run ++ suf.bytes, by simp,
        CljNum.hex sg zs run x neg suf hs hz hx' hdr, Or.inl ht⟩
    rcases ite_eq_elim h with ⟨ho, h⟩ | ⟨-, h⟩
    · -- octal
      have hof := CNum.octal_of_17 ho
      obtain ⟨run, suf, rfl, hdr, -, ht, -, -, rfl⟩ :=
        loopTail_inv cfg neg 8 (by omega) false true zs X' v rest
          (fun c hc => by rw [hz.2 c hc]; decide) hof.1 h
      have hfirst : run.head? ≠ some 0x30 := by
        obtain ⟨d, t, rfl, -, -⟩ := hdr
        intro hd
        simp only [List.head?_cons, Option.some.injEq] at hd
        subst hd
        exact hof.2 rfl
      exact ⟨sg ++ zs ++ run ++ suf.bytes, by simp,
        CljNum.octal sg zs run neg suf hs hz hdr hfirst, Or.inl ht⟩
    exact zeroRest_sound cfg hc sg neg zs X' v rest hs hz (ite_err_ok h).2
  · -- non-zero path
    obtain ⟨ip, X', rfl, hn, h⟩ := nonzeroPart_inv cfg _ neg body v rest hb h0 h
    exact decimal_sound cfg sg neg ip X' v rest hs (Or.inr hn) (fun hz => (nz_not_zero hn hz).elim) h

theorem digRunRadix_noU {exp : Bool} {radix : Nat} {l : Bytes} (hr : radix ≤ 36) (he : exp = false)
    (h : DigRun exp (isRadixDigit radix) l) : (0x5F : UInt8) ∉ l := by
  subst he
  exact uRun_false_noU (underscore_no_digit hr) (digRun_uRun h)

theorem suffix_noU (suf : NumSuffix) : (0x5F : UInt8) ∉ suf.bytes := by
  cases suf <;> simp [NumSuffix.bytes]

theorem uRun_transfer {e1 e2 : Bool} {p : UInt8 → Bool} {l : Bytes} (h : URun e1 p l)
    (hn : (0x5F : UInt8) ∉ l) : URun e2 p l := by
  intro c hc
  rcases h c hc with h | ⟨-, rfl⟩
  · exact Or.inl h
  · exact absurd hc hn

theorem digRun_transfer {e1 e2 : Bool} {p : UInt8 → Bool} {l : Bytes} (h : DigRun e1 p l)
    (hn : (0x5F : UInt8) ∉ l) : DigRun e2 p l := by
  obtain ⟨d, t, rfl, hd, ht⟩ := h
  exact ⟨d, t, rfl, hd, uRun_transfer ht (fun h => hn (List.mem_cons_of_mem _ h))⟩

theorem cljInt_transfer {e1 e2 : Bool} {ip : Bytes} (h : CljInt e1 ip) (hn : (0x5F : UInt8) ∉ ip) :
    CljInt e2 ip := by
  rcases h with h | ⟨h1, h2, h3⟩
  · exact Or.inl h
  · exact Or.inr ⟨digRun_transfer h1 hn, h2, h3⟩

theorem cljFrac_transfer {e1 e2 : Bool} {fr : Bytes} (h : CljFrac e1 fr) (hn : (0x5F : UInt8) ∉ fr) :
    CljFrac e2 fr := by
  rcases h with rfl | ⟨fd, rfl, hfd, hh⟩
  · exact Or.inl rfl
  · exact Or.inr ⟨fd, rfl, uRun_transfer hfd (fun h => hn (List.mem_cons_of_mem _ h)), hh⟩

theorem cljExp_transfer {e1 e2 : Bool} {ex : Bytes} (h : CljExp e1 ex) (hn : (0x5F : UInt8) ∉ ex) :
    CljExp e2 ex := by
  rcases h with rfl | ⟨e, es, ed, rfl, he, hes, hed⟩
  · exact Or.inl rfl
  · refine Or.inr ⟨e, es, ed, rfl, he, hes, digRun_transfer hed ?_⟩
    intro h
    exact hn (List.mem_cons_of_mem _ (List.mem_append_right _ h))

theorem parseDouble_flag (cfg1 cfg2 : Cfg) (tok : Bytes) (hn : (0x5F : UInt8) ∉ tok) :
    parseDouble cfg1 tok = parseDouble cfg2 tok := by
  rw [DoubleSpecAux.parseDouble_of_noUnderscore cfg1 tok (fun _ => hn),
    DoubleSpecAux.parseDouble_of_noUnderscore cfg2 tok (fun _ => hn)]

theorem ratioValue_flag (cfg1 cfg2 : Cfg) (neg : Bool) (nd dd : Bytes) (hn : NzRun cfg1.exp nd)
    (hnu : (0x5F : UInt8) ∉ nd) (hd : RatioDen dd) :
    ratioValue cfg1 neg nd dd = ratioValue cfg2 neg nd dd := by
  have hn2 : NzRun cfg2.exp nd := ⟨digRun_transfer hn.1 hnu, hn.2.1, hn.2.2⟩
  unfold ratioValue
  rw [parseInt64_run cfg1 10 (by omega) nd neg (nzRun_digRun hn),
    parseInt64_run cfg2 10 (by omega) nd neg (nzRun_digRun hn2),
    CNum.parseInt64_digits cfg1 dd false hd.2.1, CNum.parseInt64_digits cfg2 dd false hd.2.1]

theorem cljNum_flag (cfg1 cfg2 : Cfg) {tok : Bytes} {v : NumVal} (hn : (0x5F : UInt8) ∉ tok)
    (h : CljNum cfg1 tok v) : CljNum cfg2 tok v := by
  cases h with
  | dec sg ip neg hs hip =>
    simp only [List.mem_append, not_or] at hn
    exact CljNum.dec sg ip neg hs (cljInt_transfer hip hn.2)
  | decN sg ip neg hs hip =>
    simp only [List.mem_append, not_or] at hn
    exact CljNum.decN sg ip neg hs (cljInt_transfer hip hn.1.2)
  | float sg ip fr ex neg hs hm hne =>
    rw [parseDouble_flag cfg1 cfg2 _ hn]
    simp only [List.mem_append, not_or] at hn
    exact CljNum.float sg ip fr ex neg hs ⟨cljInt_transfer hm.hip hn.1.1.2, cljFrac_transfer hm.hfr hn.1.2,
      cljExp_transfer hm.hex hn.2, hm.hsep⟩ hne
  | decM sg ip fr ex neg hs hm hu =>
    simp only [List.mem_append, not_or] at hn
    exact CljNum.decM sg ip fr ex neg hs ⟨cljInt_transfer hm.hip hn.1.1.1.2, cljFrac_transfer hm.hfr hn.1.1.2,
      cljExp_transfer hm.hex hn.1.2, hm.hsep⟩ hu
  | ratio sg nd dd neg hs hn' hd =>
    simp only [List.mem_append, not_or] at hn
    rw [ratioValue_flag cfg1 cfg2 neg nd dd hn' hn.1.1.2 hd]
    exact CljNum.ratio sg nd dd neg hs ⟨digRun_transfer hn'.1 hn.1.1.2, hn'.2.1, hn'.2.2⟩ hd
  | zeroRatio sg zs dd neg hs hz hd => exact CljNum.zeroRatio sg zs dd neg hs hz hd
  | hex sg zs hs x neg suf hs' hz hx hh =>
    simp only [List.mem_append, not_or] at hn
    exact CljNum.hex sg zs hs x neg suf hs' hz hx (digRun_transfer hh hn.1.2)
  | octal sg zs os neg suf hs hz ho hfirst =>
    simp only [List.mem_append, not_or] at hn
    exact CljNum.octal sg zs os neg suf hs hz (digRun_transfer ho hn.1.2) hfirst
  | radix sg rp ds r neg suf hs hrp hrv hr hd hu hsuf =>
    simp only [List.mem_append, not_or] at hn
    exact CljNum.radix sg rp ds r neg suf hs hrp hrv hr (digRun_transfer hd hn.1.2) hu hsuf

end Edn.Proofs.CljN

namespace Edn.Proofs
open Edn.Model Edn.Spec

/-- the counterexample to `TermStart rest` (Clojure flag; run here without the experimental flag) -/
example : readNumber ⟨true, false⟩ "4/2\\a".toUTF8.toList = .ok (.int 2) "\\a".toUTF8.toList := by
  decide +kernel
example : readNumber ⟨true, false⟩ "0/5\\a".toUTF8.toList = .ok (.int 0) "\\a".toUTF8.toList := by
  decide +kernel
example : readNumber ⟨true, false⟩ "2\\a".toUTF8.toList = .err "\\a".toUTF8.toList := by
  decide +kernel
example : readNumber ⟨true, false⟩ "1/2\\a".toUTF8.toList = .err "\\a".toUTF8.toList := by
  decide +kernel
example : isNumTerm 0x5C = false ∧ isDelim 0x5C = true := by decide +kernel

/-- `hstart`: `s` starts where the dispatcher sends a number (a digit, or a sign followed by a digit) -/
theorem readNumber_clj_sound (cfg : Cfg) (hc : cfg.clj = true) (s rest : Bytes) (v : NumVal)
    (hstart : ∃ c t, s = c :: t ∧ (is09 c = true ∨ ((c = 0x2B ∨ c = 0x2D) ∧ ∃ nx t', t = nx :: t' ∧ is09 nx = true)))
    (h : readNumber cfg s = .ok v rest) :
    ∃ tok, s = tok ++ rest ∧ CljNum cfg tok v ∧ CljNumEnd tok v rest := by
  obtain ⟨sg, body, neg, rfl, hs, hb⟩ := CNum.start_split hstart
  rw [CNum.readNumber_sign cfg sg body neg hs hb] at h
  exact CljN.numBody_sound cfg hc sg neg body v rest hs hb h

theorem CljN.term_of_end {tok : Bytes} {v : NumVal} {rest : Bytes} (hns : (0x2F : UInt8) ∉ tok)
    (ht : CljNumEnd tok v rest) : TermStart rest :=
  ht.elim id (fun h => absurd h.1 hns)

open CljN CNum in
theorem readNumber_clj_complete_end (cfg : Cfg) (hc : cfg.clj = true) (tok rest : Bytes) (v : NumVal)
    (h : CljNum cfg tok v) (ht : CljNumEnd tok v rest) : readNumber cfg (tok ++ rest) = .ok v rest := by
  cases h with
  | dec sg ip neg hs hip =>
    exact read_dec cfg sg ip rest neg hs hip (Or.inl hc)
      (term_of_end (noSlash_of_okB (okB_append (sign_okB hs) (cljInt_okB hip))) ht)
  | decN sg ip neg hs hip =>
    exact read_decN cfg sg ip rest neg hs hip (Or.inl hc) (term_of_end
      (noSlash_of_okB (okB_append (okB_append (sign_okB hs) (cljInt_okB hip)) (by decide))) ht)
  | float sg ip fr ex neg hs hm hne =>
    exact read_float cfg sg ip fr ex rest neg hs hm (Or.inl hc) hne
      (term_of_end (noSlash_of_okB (okB_append (okB_append (okB_append (sign_okB hs)
        (cljInt_okB hm.hip)) (cljFrac_okB hm.hfr)) (cljExp_okB hm.hex))) ht)
  | decM sg ip fr ex neg hs hm hu =>
    exact read_decM cfg sg ip fr ex rest neg hs hm (Or.inl hc) hu
      (term_of_end (noSlash_of_okB (okB_append (okB_append (okB_append (okB_append (sign_okB hs)
        (cljInt_okB hm.hip)) (cljFrac_okB hm.hfr)) (cljExp_okB hm.hex)) (by decide))) ht)
  | ratio sg nd dd neg hs hn hd => exact read_ratio cfg hc sg nd dd rest neg hs hn hd (ht.imp_right And.right)
  | zeroRatio sg zs dd neg hs hz hd =>
    exact read_zeroRatio cfg hc sg zs dd rest neg hs hz hd (ht.elim TermStart.delimStart (fun h => h.2.2))
  | hex sg zs hs x neg suf hs' hz hx hh =>
    have hx' : ∀ c ∈ [x], OkB c := by rcases hx with rfl | rfl <;> decide
    exact read_hex cfg hc sg zs hs x neg suf rest hs' hz hx hh
      (term_of_end (noSlash_of_okB (okB_append (okB_append (okB_append (okB_append (sign_okB hs')
        (cljInt_okB (exp := cfg.exp) (Or.inl hz))) hx') (hexRun_okB (digRun_uRun hh))) (suffix_okB suf))) ht)
  | octal sg zs os neg suf hs hz ho hfirst =>
    exact read_octal cfg hc sg zs os neg suf rest hs hz ho hfirst
      (term_of_end (noSlash_of_okB (okB_append (okB_append (okB_append (sign_okB hs)
        (cljInt_okB (exp := cfg.exp) (Or.inl hz))) (hexRun_okB (octRun_hex (digRun_uRun ho))))
        (suffix_okB suf))) ht)
  | radix sg rp ds r neg suf hs hrp hrv hr hd hu hsuf =>
    have hr' : (0x2F : UInt8) ∉ [r] := by rcases hr with rfl | rfl <;> decide
    exact read_radix cfg hc sg rp ds r neg suf rest hs hrp hrv hr hd hu hsuf
      (term_of_end (List.not_mem_append (List.not_mem_append (List.not_mem_append (List.not_mem_append
        (noSlash_of_okB (sign_okB hs)) (noSlash_of_okB (fun c hc => okB_digit (hrp.2 c hc)))) hr')
        (radixRun_noSlash hrv.2 (digRun_uRun hd))) (noSlash_of_okB (suffix_okB suf))) ht)

theorem readNumber_clj_complete (cfg : Cfg) (hc : cfg.clj = true) (tok rest : Bytes) (v : NumVal)
    (h : CljNum cfg tok v) (ht : TermStart rest) : readNumber cfg (tok ++ rest) = .ok v rest :=
  readNumber_clj_complete_end cfg hc tok rest v h (Or.inl ht)

theorem readNumber_clj_iff (cfg : Cfg) (hc : cfg.clj = true) (s rest : Bytes) (v : NumVal)
    (hstart : ∃ c t, s = c :: t ∧ (is09 c = true ∨ ((c = 0x2B ∨ c = 0x2D) ∧ ∃ nx t', t = nx :: t' ∧ is09 nx = true))) :
    readNumber cfg s = .ok v rest ↔ ∃ tok, s = tok ++ rest ∧ CljNum cfg tok v ∧ CljNumEnd tok v rest := by
  constructor
  · exact readNumber_clj_sound cfg hc s rest v hstart
  · rintro ⟨tok, rfl, hn, ht⟩
    exact readNumber_clj_complete_end cfg hc tok rest v hn ht

open CljN CNum in
theorem cljNum_no_separator (cfg : Cfg) (he : cfg.exp = false) (tok : Bytes) (v : NumVal)
    (h : CljNum cfg tok v) : (0x5F : UInt8) ∉ tok := by
  have happ {a b : Bytes} (ha : (0x5F : UInt8) ∉ a) (hb : (0x5F : UInt8) ∉ b) : (0x5F : UInt8) ∉ a ++ b :=
    List.not_mem_append ha hb
  cases h with
  | dec sg ip neg hs hip => exact happ (CNum.signTok_no_underscore hs) (cljInt_noU he hip)
  | decN sg ip neg hs hip => exact happ (happ (CNum.signTok_no_underscore hs) (cljInt_noU he hip)) (by decide)
  | float sg ip fr ex neg hs hm hne =>
    exact happ (happ (happ (CNum.signTok_no_underscore hs) (cljInt_noU he hm.hip)) (cljFrac_noU he hm.hfr)) (cljExp_noU he hm.hex)
  | decM sg ip fr ex neg hs hm hu =>
    exact happ (happ (happ (happ (CNum.signTok_no_underscore hs) (cljInt_noU he hm.hip)) (cljFrac_noU he hm.hfr))
      (cljExp_noU he hm.hex)) (by decide)
  | ratio sg nd dd neg hs hn hd =>
    exact happ (happ (happ (CNum.signTok_no_underscore hs) (cljInt_noU he (Or.inr hn))) (by decide))
      (CNum.allDigits_no_underscore hd.2.1)
  | zeroRatio sg zs dd neg hs hz hd =>
    exact happ (happ (happ (CNum.signTok_no_underscore hs) (zeroRun_noU hz)) (by decide)) (CNum.allDigits_no_underscore hd.2.1)
  | hex sg zs hs x neg suf hs' hz hx hh =>
    refine happ (happ (happ (happ (CNum.signTok_no_underscore hs') (zeroRun_noU hz)) ?_) (digRunRadix_noU (by omega) he hh))
      (suffix_noU suf)
    rcases hx with rfl | rfl <;> decide
  | octal sg zs os neg suf hs hz ho hfirst =>
    exact happ (happ (happ (CNum.signTok_no_underscore hs) (zeroRun_noU hz)) (digRunRadix_noU (by omega) he ho)) (suffix_noU suf)
  | radix sg rp ds r neg suf hs hrp hrv hr hd hu hsuf =>
    refine happ (happ (happ (happ (CNum.signTok_no_underscore hs) (CNum.allDigits_no_underscore hrp.2)) ?_)
      (digRunRadix_noU hrv.2 he hd)) (suffix_noU suf)
    rcases hr with rfl | rfl <;> decide

theorem cljNum_flag_irrelevant (cfg1 cfg2 : Cfg) (tok : Bytes) (v : NumVal) (hn : (0x5F : UInt8) ∉ tok) :
    CljNum cfg1 tok v ↔ CljNum cfg2 tok v :=
  ⟨CljN.cljNum_flag cfg1 cfg2 hn, CljN.cljNum_flag cfg2 cfg1 hn⟩

theorem readNumber_clj_exp_irrelevant (e1 e2 : Bool) (s rest : Bytes) (v : NumVal)
    (hstart : ∃ c t, s = c :: t ∧ (is09 c = true ∨ ((c = 0x2B ∨ c = 0x2D) ∧ ∃ nx t', t = nx :: t' ∧ is09 nx = true)))
    (hn : (0x5F : UInt8) ∉ slice s rest)
    (h : readNumber ⟨true, e1⟩ s = .ok v rest) : readNumber ⟨true, e2⟩ s = .ok v rest := by
  obtain ⟨tok, rfl, hc, hend⟩ := readNumber_clj_sound ⟨true, e1⟩ rfl s rest v hstart h
  rw [slice_append] at hn
  exact readNumber_clj_complete_end ⟨true, e2⟩ rfl tok rest v (CljN.cljNum_flag _ _ hn hc) hend

theorem cljNum_float_value (cfg : Cfg) (sg ip fr ex : Bytes) (neg : Bool) (hs : SignTok sg neg)
    (hm : CljMantissa cfg.exp ip fr ex) :
    parseDouble cfg (sg ++ ip ++ fr ++ ex) =
      (let p := decimalParts (sg ++ ip ++ fr ++ ex); withSign p.1 (ofDec p.2.1 p.2.2)) :=
  DoubleSpecAux.parseDouble_of_noUnderscore cfg _ fun he =>
    List.not_mem_append (List.not_mem_append (List.not_mem_append (CNum.signTok_no_underscore hs) (CNum.cljInt_noU he hm.hip))
      (CNum.cljFrac_noU he hm.hfr)) (CNum.cljExp_noU he hm.hex)

/-! ## boundary cases, evaluated by the kernel (Clojure flag; `F` = experimental flag off, `T` = on) -/

section examples
private def b (s : String) : Bytes := s.toUTF8.toList
private abbrev F : Cfg := ⟨true, false⟩
private abbrev T : Cfg := ⟨true, true⟩

example : readNumber F (b "0x") = .err [] := by decide +kernel
example : readNumber F (b "0xG") = .err (b "G") := by decide +kernel
example : readNumber F (b "0x1F") = .ok (.int 31) [] := by decide +kernel
example : readNumber F (b "00x1F") = .ok (.int 31) [] := by decide +kernel
example : readNumber F (b "-0x8000000000000000") = .ok (.int (-9223372036854775808)) [] := by decide +kernel
example : readNumber F (b "-0x8000000000000001") = .ok (.bigint true 16 (b "8000000000000001")) [] := by
  -- the input is evaluated first: comparing the digits the reader kept with `b "8000000000000001"` is slow in
  -- the kernel as long as they are unevaluated pieces of `b "-0x8000000000000001"`
  have e : b "-0x8000000000000001" = 0x2D :: 0x30 :: 0x78 :: 0x38 :: (List.replicate 14 0x30 ++ [0x31]) := by
    decide +kernel
  rw [e]
  decide +kernel
example : readNumber F (b "0x1FN") = .ok (.bigint false 16 (b "1F")) [] := by decide +kernel
example : readNumber F (b "0x1FM") = .ok (.bigdec false (b "1F")) [] := by decide +kernel
example : readNumber F (b "0x1_F") = .err (b "_F") := by decide +kernel
example : readNumber T (b "0x1_F") = .ok (.int 31) [] := by decide +kernel
example : readNumber T (b "0x1_") = .ok (.int 1) [] := by decide +kernel
example : readNumber T (b "0x1_N") = .ok (.bigint false 16 (b "1_")) [] := by decide +kernel
example : readNumber T (b "0x_1") = .err (b "_1") := by decide +kernel
example : readNumber F (b "07") = .ok (.int 7) [] := by decide +kernel
example : readNumber F (b "007") = .ok (.int 7) [] := by decide +kernel
example : readNumber F (b "08") = .err (b "8") := by decide +kernel
example : readNumber T (b "0_7") = .err (b "_7") := by decide +kernel
example : readNumber F (b "07N") = .ok (.bigint false 8 (b "07")) [] := by decide +kernel
example : readNumber F (b "0777777777777777777777777") =
    .ok (.bigint false 8 (b "0777777777777777777777777")) [] := by decide +kernel
example : readNumber F (b "000") = .ok (.int 0) [] := by decide +kernel
example : readNumber F (b "00N") = .ok (.bigint false 10 (b "0")) [] := by decide +kernel
example : readNumber F (b "00.5M") = .ok (.bigdec false (b "00.5")) [] := by decide +kernel
example : readNumber F (b "36rZ") = .ok (.int 35) [] := by decide +kernel
example : readNumber F (b "37r1") = .err (b "37r1") := by decide +kernel
example : readNumber F (b "1r0") = .err (b "1r0") := by decide +kernel
example : readNumber F (b "2r102") = .err (b "2") := by decide +kernel
example : readNumber F (b "010r19") = .ok (.int 19) [] := by decide +kernel
example : readNumber F (b "2r101M") = .ok (.bigdec false (b "101")) [] := by decide +kernel
example : readNumber F (b "2r101N") = .err (b "N") := by decide +kernel
example : readNumber F (b "24r1N") = .ok (.int 47) [] := by decide +kernel
example : readNumber T (b "2r1__0") = .ok (.int 2) [] := by decide +kernel
example : readNumber T (b "2r1_") = .err [] := by decide +kernel
example : readNumber F (b "2/4") = .ok (.ratio 1 2) [] := by decide +kernel
example : readNumber F (b "-1/2") = .ok (.ratio (-1) 2) [] := by decide +kernel
example : readNumber F (b "0/5") = .ok (.int 0) [] := by decide +kernel
example : readNumber F (b "1/0") = .err [] := by decide +kernel
example : readNumber F (b "1/-2") = .err (b "-2") := by decide +kernel
example : readNumber T (b "1_0/2") = .ok (.int 5) [] := by decide +kernel
example : readNumber T (b "1/2_0") = .err (b "_0") := by decide +kernel
example : readNumber T (b "1__0") = .ok (.int 10) [] := by decide +kernel
example : readNumber T (b "1_") = .err [] := by decide +kernel
example : readNumber T (b "1_N") = .err (b "N") := by decide +kernel
example : readNumber T (b "1_0N") = .ok (.bigint false 10 (b "1_0")) [] := by decide +kernel
example : readNumber T (b "1._5") = .err (b "_5") := by decide +kernel
example : readNumber T (b "1.5_M") = .err (b "M") := by decide +kernel
example : readNumber T (b "1.5_e5") = .err (b "e5") := by decide +kernel
example : readNumber T (b "1e_5") = .err (b "_5") := by decide +kernel
example : readNumber F (b "1.5N") = .err (b "N") := by decide +kernel
example : readNumber F (b "1.") = .ok (.float 4607182418800017408) [] := by decide +kernel
example : readNumber F (b "00.5") = .ok (.float 4602678819172646912) [] := by decide +kernel
example : readNumber T (b "1.5_") = .ok (.float 4609434218613702656) [] := by decide +kernel
example : readNumber T (b "1e1_0") = .ok (.float 4756540486875873280) [] := by decide +kernel
example : readNumber F (b "1.5_") = .err (b "_") := by decide +kernel

end examples

end Edn.Proofs
