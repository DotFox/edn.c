/-
  C14 at whole-document level for every configuration (Clojure flag
  included): an input that reads without a registry has a syntax tree `t` (`Edn.Spec.Syn`),
  independent of the options, such that
    * the registry-free reading of `t` (`plainS`) is the value the input reads to, without calls;
    * under any options `o1` (any registry or none, any default mode) `read` returns exactly
      `dispatchS cfg o1.registry o1.mode t`: the same value (cache cells included) and the same
      call log, or the same error code with the same range and the calls made until then.
  No hypothesis on the handlers is needed: the dispatch is stated on the syntax tree, whose
  leaves are the scalars as the reader returns them, so both sides hand the handlers the very
  same operands.  The general form `read_has_tree` takes any run that returns a value
  as the witness that the input has a tree (`^#id {:a 1} [2]` reads only with a registry: a
  tagged element is not an annotation, the map a handler returns for it is).

  The proof is a simulation by induction on the fuel (`DClj.Sim`, `Sim.step`, `run_sim`): a run that
  returns a value drives the construction of the tree, by cases on the rule (`StepRel`) each of its
  steps took, and every run under any options fires the same rule on its own call log (`route` sees
  neither options nor call log), or the error rule beside it where a handler made its sub-run fail:
  it returns the dispatch of that tree.  Without the Clojure flag the tree is `Flat` (scalars at the
  leaves, no namespace prefix, no annotation), which is what `Edn.Proofs.Dispatch` needs to replay the
  dispatch on the registry-free value.

  Why not the statement of `read_with_registry` (dispatch replayed on the registry-free tree
  `v0`) with `cfg.clj = true`: it is false, `v0` does not determine the registry run.  The
  first two pairs are theorems of `Edn.Proofs.DispatchCljAux6`; the other three are not proved, `#eval`
  on the model shows them (configuration `⟨true, false⟩`, mode 0, `id` the identity handler,
  `ka` the handler returning the keyword `:a`; "same tree" = same canonical dump, ranges
  included):
    * `#:p{#id :a 1}` / `#:q{#id :a 1}`: same `v0` (map 0 13 (tagged 4 10 id (kw 8 10 a)) (int 11 12 1));
      with the registry `{:p/a 1}` / `{:q/a 1}`.
    * `^{#id :a 1,,,#ka :b 2} [3]` / `^{#id :a 1}^{#ka :b 2} [3]`: same `v0`; with the registry
      DUPLICATE_KEY (offsets 1 … 22) / the vector with metadata `{:a 1}`, both with the calls
      id@6:8 ka@17:19.
    * `^{:a #id 1} ^{:a #id 2} [3]`: `v0` has dropped the inner entry, the registry run calls
      `id` at 9:10 and at 21:22.
    * `^:a #fail [1]`: registry run INVALID_SYNTAX 4 … 13; `v0` only has the range 0 … 13.
    * `^ ^{:x #id 1} {:a 1} [2]`: call id@11:12, no trace of `{:x …}` in `v0`.
-/
import Edn.Spec.DispatchClj
import Edn.Proofs.DispatchDiscard
import Edn.Proofs.Interleave
namespace Edn.Proofs
open Edn.Model Edn.Spec Edn.Generated
open RejectDocClj (xctx)

theorem seqR_cons_err (c : List Call) (e : DErr) (rest : List DOne) :
    seqR ((c, .error e) :: rest) = (c, .error e) := by
  rw [seqR]

theorem seqR_cons_ok (c1 : List Call) (x : Val) (l : List DOne) :
    seqR ((c1, .ok x) :: l) = (c1 ++ (seqR l).1, (seqR l).2.map (x :: ·)) := by
  rw [seqR]
  rcases seqR l with ⟨c2, e | xs⟩ <;> rfl

theorem seqR_cons_ok_inv {c1 c : List Call} {x : Val} {ys : List Val} {l1 : List DOne}
    (h : seqR ((c1, .ok x) :: l1) = (c, .ok ys)) :
    ∃ c2 xs, seqR l1 = (c2, .ok xs) ∧ c = c1 ++ c2 ∧ ys = x :: xs := by
  rw [seqR_cons_ok] at h
  rcases h1 : seqR l1 with ⟨c2, e | xs⟩
  · rw [h1] at h; cases h
  · rw [h1] at h; cases h; exact ⟨_, _, rfl, rfl, rfl⟩

theorem uninterleave_interleave2 {α : Type} : ∀ (a b : List α), a.length = b.length →
    uninterleave (interleave2 a b) = (a, b)
  | [], [], _ => rfl
  | [], _ :: _, h => nomatch h
  | _ :: _, [], h => nomatch h
  | x :: a, y :: b, h => by
    rw [interleave2, uninterleave, uninterleave_interleave2 a b (Nat.succ.inj h)]

section
variable (cfg : Cfg) (reg : Option (Bytes → Option Handler)) (mode : Nat)

theorem dispatchS_leaf (v : Val) : dispatchS cfg reg mode (.leaf v) = ([], .ok v) := by
  rw [dispatchS]
theorem dispatchS_seq (kind s e : Nat) (xs : List Syn) :
    dispatchS cfg reg mode (.seq kind s e xs) = closeSeq cfg kind s e (seqR (dispatchEachS cfg reg mode xs)) := by
  rw [dispatchS]
theorem dispatchS_map (s e : Nat) (ns : Option Bytes) (ks vs : List Syn) :
    dispatchS cfg reg mode (.map s e ns ks vs) = closeMap cfg s e
      (seqR (interleave2 ((dispatchEachS cfg reg mode ks).map (qualD ns)) (dispatchEachS cfg reg mode vs))) := by
  rw [dispatchS]
theorem dispatchS_tagged (s e : Nat) (tag : Bytes) (x : Syn) :
    dispatchS cfg reg mode (.tagged s e tag x) = tagResult reg mode s e tag (dispatchS cfg reg mode x) := by
  rw [dispatchS]
theorem dispatchS_ann (s me e : Nat) (m form : Syn) :
    dispatchS cfg reg mode (.ann s me e m form) =
      metaResult cfg s me e (dispatchS cfg reg mode m) (dispatchS cfg reg mode form) := by
  rw [dispatchS]

theorem dispatchEachS_cons (x : Syn) (xs : List Syn) :
    dispatchEachS cfg reg mode (x :: xs) = dispatchS cfg reg mode x :: dispatchEachS cfg reg mode xs := by
  rw [dispatchEachS]
theorem dispatchEachS_nil : dispatchEachS cfg reg mode [] = [] := by
  rw [dispatchEachS]

theorem dispatchEachS_length : ∀ (xs : List Syn), (dispatchEachS cfg reg mode xs).length = xs.length
  | [] => by rw [dispatchEachS_nil]; rfl
  | x :: xs => by rw [dispatchEachS_cons, List.length_cons, List.length_cons, dispatchEachS_length xs]

def entriesS (ns : Option Bytes) (ks vs : List Syn) : List DOne :=
  interleave2 ((dispatchEachS cfg reg mode ks).map (qualD ns)) (dispatchEachS cfg reg mode vs)

theorem entriesS_cons (ns : Option Bytes) (k v : Syn) (ks vs : List Syn) :
    entriesS cfg reg mode ns (k :: ks) (v :: vs) =
      qualD ns (dispatchS cfg reg mode k) :: dispatchS cfg reg mode v :: entriesS cfg reg mode ns ks vs := by
  unfold entriesS
  rw [dispatchEachS_cons, dispatchEachS_cons, List.map_cons, interleave2]

theorem entriesS_nil (ns : Option Bytes) : entriesS cfg reg mode ns [] [] = [] := by
  unfold entriesS
  rw [dispatchEachS_nil]
  rfl

theorem dispatchS_map_entries (s e : Nat) (ns : Option Bytes) (ks vs : List Syn) :
    dispatchS cfg reg mode (.map s e ns ks vs) = closeMap cfg s e (seqR (entriesS cfg reg mode ns ks vs)) :=
  dispatchS_map cfg reg mode s e ns ks vs

end

theorem closeSeq_err (cfg : Cfg) (kind s e : Nat) (c : List Call) (er : DErr) :
    closeSeq cfg kind s e (c, .error er) = (c, .error er) := rfl

theorem closeSeq_ok (cfg : Cfg) (kind s e : Nat) (c : List Call) (xs : List Val) :
    closeSeq cfg kind s e (c, .ok xs) =
      if kind == 0 then (c, .ok (.list (mkHdr s e) none xs))
      else if kind == 1 then (c, .ok (.vec (mkHdr s e) none xs))
      else if (hasDuplicates cfg xs).1 then (c, .error (.duplicateElement, s, e))
      else (c, .ok (.set (mkHdr s e) none (hasDuplicates cfg xs).2)) := rfl

theorem closeMap_err (cfg : Cfg) (s e : Nat) (c : List Call) (er : DErr) :
    closeMap cfg s e (c, .error er) = (c, .error er) := rfl

theorem closeMap_ok (cfg : Cfg) (s e : Nat) (c : List Call) (ks vs : List Val) (hl : ks.length = vs.length) :
    closeMap cfg s e (c, .ok (interleave2 ks vs)) =
      if (hasDuplicates cfg ks).1 then (c, .error (.duplicateKey, s, e))
      else (c, .ok (.map (mkHdr s e) none (hasDuplicates cfg ks).2 vs)) := by
  unfold closeMap
  dsimp only
  rw [uninterleave_interleave2 ks vs hl]

theorem tagResult_err (reg : Option (Bytes → Option Handler)) (mode s e : Nat) (tag : Bytes) (c : List Call)
    (er : DErr) : tagResult reg mode s e tag (c, .error er) = (c, .error er) := rfl

theorem metaResult_errM (cfg : Cfg) (s me e : Nat) (c : List Call) (er : DErr) (df : DOne) :
    metaResult cfg s me e (c, .error er) df = (c, .error er) := rfl

/-- what the closing functions of the collections have in common: an error of the elements is the outcome,
    and the calls of the elements are passed on -/
structure Closes (close : List Call × Except DErr (List Val) → DOne) : Prop where
  err : ∀ c er, close (c, .error er) = (c, .error er)
  calls : ∀ c r, close (c, r) = (c, (close ([], r)).2)

theorem Closes.fst {close : List Call × Except DErr (List Val) → DOne} (h : Closes close)
    (p : List Call × Except DErr (List Val)) : (close p).1 = p.1 :=
  congrArg Prod.fst (h.calls p.1 p.2)

theorem closeSeq_closes (cfg : Cfg) (kind s e : Nat) : Closes (closeSeq cfg kind s e) where
  err := closeSeq_err cfg kind s e
  calls c r := by
    cases r with
    | error er => rfl
    | ok xs =>
      rw [closeSeq_ok, closeSeq_ok]
      have br {p : Prop} [Decidable p] {a b a' b' : DOne} (ha : a = (c, a'.2)) (hb : b = (c, b'.2)) :
          (if p then a else b) = (c, (if p then a' else b').2) :=
        ite_rel (R := fun x y : DOne => x = (c, y.2)) (fun _ => ha) fun _ => hb
      exact br rfl (br rfl (br rfl rfl))

theorem closeMap_closes (cfg : Cfg) (s e : Nat) : Closes (closeMap cfg s e) where
  err := closeMap_err cfg s e
  calls c r := by
    cases r with
    | error er => rfl
    | ok zs =>
      unfold closeMap
      dsimp only
      split <;> rfl

/-- The loop invariants of the collections: the outcome of a collection of which the elements `pre` have been
    read, `p` = the outcome of the remaining ones (`restOf close pre (seqR l)` is `close` of `seqR` of the
    outcomes `([], .ok x)` for `x` in `pre`, followed by `l`). -/
def restOf (close : List Call × Except DErr (List Val) → DOne) (pre : List Val)
    (p : List Call × Except DErr (List Val)) : DOne :=
  close (p.1, p.2.map (pre ++ ·))

section
variable {close : List Call × Except DErr (List Val) → DOne}

theorem restOf_nil (close : List Call × Except DErr (List Val) → DOne) (p : List Call × Except DErr (List Val)) :
    restOf close [] p = close p := by
  obtain ⟨c, er | xs⟩ := p <;> rfl

theorem restOf_end (close : List Call × Except DErr (List Val) → DOne) (pre : List Val) :
    restOf close pre (seqR []) = close ([], .ok pre) := by
  rw [seqR]
  show close ([], .ok (pre ++ [])) = _
  rw [List.append_nil]

theorem restOf_err (h : Closes close) (pre : List Val) (c1 : List Call) (er : DErr) (l : List DOne) :
    restOf close pre (seqR ((c1, .error er) :: l)) = (c1, .error er) := by
  rw [seqR_cons_err]
  exact h.err c1 er

theorem restOf_ok (h : Closes close) (pre : List Val) (c1 : List Call) (x : Val) (l : List DOne) :
    restOf close pre (seqR ((c1, .ok x) :: l))
      = (c1 ++ (restOf close (pre ++ [x]) (seqR l)).1, (restOf close (pre ++ [x]) (seqR l)).2) := by
  rw [seqR_cons_ok]
  obtain ⟨c2, r⟩ := seqR l
  have hr : (r.map (x :: ·)).map (pre ++ ·) = r.map (pre ++ [x] ++ ·) := by
    cases r with
    | error er => rfl
    | ok ys => exact congrArg Except.ok (List.append_assoc pre [x] ys).symm
  show close (c1 ++ c2, (r.map (x :: ·)).map (pre ++ ·)) = (c1 ++ (close (c2, _)).1, (close (c2, _)).2)
  rw [hr, h.calls (c1 ++ c2), h.calls c2]

end

/-- the accumulators of a map (newest first), in source order, with one more entry -/
theorem interleave2_reverse_cons {ks vs : List Val} (hl : ks.length = vs.length) (k x : Val) :
    interleave2 (k :: ks).reverse (x :: vs).reverse = interleave2 ks.reverse vs.reverse ++ [k] ++ [x] := by
  rw [List.reverse_cons, List.reverse_cons,
    interleave2_append _ _ _ _ (by rw [List.length_reverse, List.length_reverse, hl]), List.append_assoc]
  rfl

namespace DClj

mutual
/-- the trees of forms read when the Clojure flag is off: the leaves are scalars without metadata and
    with an empty cache cell, no map has a namespace prefix, nothing is annotated -/
def Flat : Syn → Prop
  | .leaf v => isLeaf v = true ∧ v.hdr.hc = 0
  | .seq _ _ _ xs => FlatL xs
  | .map _ _ ns ks vs => ns = none ∧ ks.length = vs.length ∧ FlatL ks ∧ FlatL vs
  | .tagged _ _ _ x => Flat x
  | .ann .. => False
def FlatL : List Syn → Prop
  | [] => True
  | x :: xs => Flat x ∧ FlatL xs
end

section
variable (cfg : Cfg)

/-- what a run `r1` started on the call log `cl` must be, given the outcome of the
    declarative dispatch; `rest'` = rest of the input after the form -/
def PostS (cl : List Call) (rest' : Bytes) (r1 : Res) : DOne → Prop
  | (calls, .ok v) => r1 = .ok v { rest := rest', calls := cl ++ calls }
  | (calls, .error (code, s, e)) => code ≠ .unexpectedEof ∧
      ∃ st', r1 = .err (mkErr code (some s) (some e)) st' ∧ st'.calls = cl ++ calls

theorem PostS.cases {cl : List Call} {rest' : Bytes} {r1 : Res} {dr : DOne} (h : PostS cl rest' r1 dr) :
    (∃ c v, dr = (c, .ok v) ∧ r1 = .ok v { rest := rest', calls := cl ++ c }) ∨
    (∃ c code s e st', dr = (c, .error (code, s, e)) ∧ code ≠ .unexpectedEof ∧
      r1 = .err (mkErr code (some s) (some e)) st' ∧ st'.calls = cl ++ c) := by
  obtain ⟨c, ⟨code, s, e⟩ | v⟩ := dr
  · obtain ⟨hne, st', hr1, hc⟩ := h
    exact .inr ⟨c, code, s, e, st', rfl, hne, hr1, hc⟩
  · exact .inl ⟨c, v, rfl, h⟩

theorem PostS.ok_nil (cl : List Call) (rest' : Bytes) (v : Val) :
    PostS cl rest' (.ok v { rest := rest', calls := cl }) ([], .ok v) := by
  show _ = Res.ok v { rest := rest', calls := cl ++ [] }
  rw [List.append_nil]

theorem PostS.err_nil {code : Err} (hne : code ≠ .unexpectedEof) (cl : List Call) (rest' r : Bytes) (s e : Nat) :
    PostS cl rest' (.err (mkErr code (some s) (some e)) { rest := r, calls := cl }) ([], .error (code, s, e)) :=
  ⟨hne, _, rfl, (List.append_nil _).symm⟩

theorem PostS.shift {cl c1 : List Call} {rest' : Bytes} {r1 : Res} {p : DOne}
    (h : PostS (cl ++ c1) rest' r1 p) : PostS cl rest' r1 (c1 ++ p.1, p.2) := by
  obtain ⟨c2, ⟨code, s, e⟩ | v⟩ := p
  · obtain ⟨hne, st', hr, hc⟩ := h
    exact ⟨hne, st', hr, by rw [hc, List.append_assoc]⟩
  · show r1 = _
    rw [← List.append_assoc]
    exact h

def Shape (t : Syn) : Prop := cfg.clj = false → Flat t

def ShapeL (ts : List Syn) : Prop := cfg.clj = false → FlatL ts

def FormOK (rest' : Bytes) (run : Opts → List Call → Res) : Prop :=
  ∃ t : Syn, Shape cfg t ∧
    ∀ (o1 : Opts) (cl : List Call), PostS cl rest' (run o1 cl) (dispatchS cfg o1.registry o1.mode t)

/-- `r0` = the answer of the driving run (any options; it matters only whether it is a value, a closing
    delimiter or an error), `run` = the runs of the same call under all options and on all call logs -/
def SimF (r0 : Res) (run : Opts → List Call → Res) : Prop :=
  match r0 with
  | .ok _ st0 => FormOK cfg st0.rest run
  | .closer st0 => ∀ o1 cl, run o1 cl = .closer { rest := st0.rest, calls := cl }
  | .err _ _ => True

/-- the driving run is one of the runs -/
theorem SimF_of_FormOK {rest' : Bytes} {run : Opts → List Call → Res} (h : FormOK cfg rest' run)
    (o0 : Opts) (c0 : List Call) {r0 : Res} (hr0 : r0 = run o0 c0) : SimF cfg r0 run := by
  obtain ⟨t, hp, ht⟩ := h
  rcases (ht o0 c0).cases with ⟨c, v, -, hr⟩ | ⟨c, code, s, e, st', -, -, hr, -⟩
  · rw [hr0, hr]; exact ⟨t, hp, ht⟩
  · rw [hr0, hr]; trivial

def runs (f : Nat) (c : Call6) (o1 : Opts) (cl : List Call) : Res := run (xctx cfg o1) f (c.withCalls cl)

theorem SimF.over {r0 : Res} {f : Nat} {c c' : Call6}
    (he : ∀ o1 cl, StepRel (xctx cfg o1) (run (xctx cfg o1) f) (c.withCalls cl) (runs cfg f c' o1 cl))
    (h : SimF cfg r0 (runs cfg f c')) : SimF cfg r0 (runs cfg (f + 1) c) := by
  rw [show runs cfg (f + 1) c = runs cfg f c' from funext fun o1 => funext fun cl => run_of_rule (he o1 cl)]
  exact h

/-- for the answer of a loop, which is never a closing delimiter -/
def OnOk (r0 : Res) (P : Bytes → Prop) : Prop :=
  match r0 with
  | .ok _ st0 => P st0.rest
  | .closer _ => False
  | .err _ _ => True

/-- the remaining elements `more` (and the end `e`) of a sequence: every run that has read the
    values `acc` (newest first) returns the close of `acc` and the outcome of `more` -/
def SeqOK (f d : Nat) (dm : Bool) (kind start : Nat) (rest : Bytes) (rest' : Bytes) : Prop :=
  ∃ (more : List Syn) (e : Nat), ShapeL cfg more ∧
    ∀ (o1 : Opts) (cl : List Call) (acc : List Val),
    PostS cl rest' (run (xctx cfg o1) f (.s d dm kind start { rest := rest, calls := cl } acc))
      (restOf (closeSeq cfg kind start e) acc.reverse (seqR (dispatchEachS cfg o1.registry o1.mode more)))

def MapOK (f d : Nat) (dm : Bool) (start : Nat) (ns : Option Bytes) (rest : Bytes) (rest' : Bytes) : Prop :=
  ∃ (mk mv : List Syn) (e : Nat), mk.length = mv.length ∧ ShapeL cfg mk ∧ ShapeL cfg mv ∧
    ∀ (o1 : Opts) (cl : List Call) (ks vs : List Val), ks.length = vs.length →
    PostS cl rest' (run (xctx cfg o1) f (.m d dm start ns { rest := rest, calls := cl } ks vs))
      (restOf (closeMap cfg start e) (interleave2 ks.reverse vs.reverse) (seqR (entriesS cfg o1.registry o1.mode ns mk mv)))

/-- The simulation: what the answer `r0` of the driving run to a call says of the runs of that call with
    fuel `f` under all options and on all call logs (for a loop: with all accumulators; what the driving
    run has accumulated is irrelevant).  `readNsMap` is entered on the `:` of the prefix; it and `readMeta`
    are entered under the Clojure flag only. -/
def Sim (f : Nat) : Call6 → Res → Prop
  | .v d dm st, r0 => SimF cfg r0 (runs cfg f (.v d dm st))
  | .s d dm kind start st _, r0 => OnOk r0 (SeqOK cfg f d dm kind start st.rest)
  | .m d dm start ns st _ _, r0 => OnOk r0 (MapOK cfg f d dm start ns st.rest)
  | .n d dm start st, r0 => cfg.clj = true → ∀ cs, st.rest = 0x3A :: cs → SimF cfg r0 (runs cfg f (.n d dm start st))
  | .t d dm start st, r0 => SimF cfg r0 (runs cfg f (.t d dm start st))
  | .me d dm start st, r0 => cfg.clj = true → SimF cfg r0 (runs cfg f (.me d dm start st))

theorem Sim.err (f : Nat) (c : Call6) (e : ErrInfo) (st : St) : Sim cfg f c (.err e st) := by
  cases c with
  | n => exact fun _ _ _ => trivial
  | me => exact fun _ => trivial
  | _ => trivial

/-- an answer that is the same on every call log, with that call log (a leaf reader's, a run's in discard mode) -/
theorem setCalls_ok {r r1 : Res} {cl : List Call} {v : Val} {st' : St} (h1 : r1 = r.setCalls cl) (h : r = .ok v st') :
    r1 = .ok v { rest := st'.rest, calls := cl } :=
  h1.trans (congrArg (Res.setCalls cl) h)

theorem tagResult_ok (reg : Option (Bytes → Option Handler)) (mode s e : Nat) (tag : Bytes) (c1 : List Call)
    (v : Val) : tagResult reg mode s e tag (c1, .ok v) =
      match reg with
      | none => (c1, .ok (.tagged (mkHdr s e) none tag v))
      | some rg =>
        match rg tag with
        | some hd =>
          match hd.run v with
          | none => (c1 ++ [⟨hd.name, v.hdr.s, v.hdr.e⟩], .error (.invalidSyntax, s, e))
          | some r => (c1 ++ [⟨hd.name, v.hdr.s, v.hdr.e⟩], .ok (r.setHdr { r.hdr with s := s, e := e }))
        | none =>
          if mode == 1 then (c1, .ok v)
          else if mode == 2 then (c1, .error (.unknownTag, s, e))
          else (c1, .ok (.tagged (mkHdr s e) none tag v)) := rfl

/-! One step of one run (any options) in the terms of the specification: given the outcomes of its sub-runs
(`PostS`), the run answers the specification's combinator of those outcomes. -/

theorem tagOut_tagResult (o1 : Opts) (start : Nat) (tag : Bytes) (cl c1 : List Call) (v : Val) (rest : Bytes) :
    PostS cl rest (tagOut (xctx cfg o1) false start tag v { rest := rest, calls := cl ++ c1 })
      (tagResult o1.registry o1.mode start rest.length tag (c1, .ok v)) := by
  rw [tagResult_ok]
  unfold tagOut
  dsimp only
  cases o1.registry with
  | none => rfl
  | some rg =>
    dsimp only
    rw [if_neg Bool.false_ne_true]
    cases rg tag with
    | some hd =>
      dsimp only
      cases hd.run v with
      | none => exact ⟨by decide, _, rfl, by simp only [List.append_assoc]⟩
      | some r =>
        dsimp only
        show _ = _
        simp only [List.append_assoc]
        rfl
    | none =>
      dsimp only
      by_cases hm1 : (o1.mode == 1) = true
      · rw [if_pos hm1, if_pos hm1]; rfl
      rw [if_neg hm1, if_neg hm1]
      by_cases hm2 : (o1.mode == 2) = true
      · rw [if_pos hm2, if_pos hm2]; exact ⟨by decide, _, rfl, rfl⟩
      rw [if_neg hm2, if_neg hm2]
      rfl

theorem seq_close_run (o1 : Opts) {f d : Nat} {dm : Bool} {kind start : Nat} {rest rest1 r : Bytes} {cl : List Call}
    (acc : List Val)
    (hv : run (xctx cfg o1) f (.v (d + 1) dm { rest := rest, calls := cl }) = .closer { rest := rest1, calls := cl })
    (hs : rest1 = closerByte kind :: r) :
    PostS cl r (run (xctx cfg o1) (f + 1) (.s d dm kind start { rest := rest, calls := cl } acc))
      (restOf (closeSeq cfg kind start r.length) acc.reverse (seqR (dispatchEachS cfg o1.registry o1.mode []))) := by
  rw [dispatchEachS_nil, restOf_end, closeSeq_ok]
  by_cases hk0 : kind = 0
  · rw [run_of_rule (.sList hv hs hk0), if_pos (by simpa using hk0)]; exact PostS.ok_nil ..
  rw [if_neg (by simpa using hk0)]
  by_cases hk1 : kind = 1
  · rw [run_of_rule (.sVec hv hs hk1), if_pos (by simpa using hk1)]; exact PostS.ok_nil ..
  rw [if_neg (by simpa using hk1)]
  cases hdup : (hasDuplicates cfg acc.reverse).1 with
  | true => rw [run_of_rule (.sDup hv hs hk0 hk1 hdup), if_pos rfl]; exact PostS.err_nil (by decide) ..
  | false => rw [run_of_rule (.sSet hv hs hk0 hk1 hdup), if_neg Bool.false_ne_true]; exact PostS.ok_nil ..

theorem map_close_run (o1 : Opts) {f d : Nat} {dm : Bool} {start : Nat} {ns : Option Bytes} {rest rest1 r : Bytes}
    {cl : List Call} (ks vs : List Val) (hl : ks.length = vs.length)
    (hv : run (xctx cfg o1) f (.v (d + 1) dm { rest := rest, calls := cl }) = .closer { rest := rest1, calls := cl })
    (hs : rest1 = 0x7D :: r) :
    PostS cl r (run (xctx cfg o1) (f + 1) (.m d dm start ns { rest := rest, calls := cl } ks vs))
      (restOf (closeMap cfg start r.length) (interleave2 ks.reverse vs.reverse)
        (seqR (entriesS cfg o1.registry o1.mode ns [] []))) := by
  rw [entriesS_nil, restOf_end, closeMap_ok _ _ _ _ _ _ (by rw [List.length_reverse, List.length_reverse, hl])]
  cases hdup : (hasDuplicates cfg ks.reverse).1 with
  | true => rw [run_of_rule (.mDup hv hs hdup), if_pos rfl]; exact PostS.err_nil (by decide) ..
  | false => rw [run_of_rule (.mOk hv hs hdup), if_neg Bool.false_ne_true]; exact PostS.ok_nil ..

/-- `#tag x`, `dx` = the outcome of `x` -/
theorem tagged_run (o1 : Opts) {f d start : Nat} {st st1 : St} {c : UInt8} {t : Bytes} {h : Hdr} {md : Option Val}
    {ns : Option Bytes} {nm rest' : Bytes} {dx : DOne} (hs : st.rest = c :: t) (hc : tagWs c = false)
    (hid : readIdentifier (xctx cfg o1) st = .ok (.sym h md ns nm) st1)
    (hx : PostS st1.calls rest' (run (xctx cfg o1) f (.v (d + 1) false st1)) dx) :
    PostS st1.calls rest' (run (xctx cfg o1) (f + 1) (.t d false start st))
      (tagResult o1.registry o1.mode start rest'.length (slice st.rest st1.rest) dx) := by
  rcases hx.cases with ⟨c1, x, rfl, hr1⟩ | ⟨c1, code, s, e, st2, rfl, hne, hr1, hcalls⟩
  · rw [run_of_rule (.tOk hs hc hid hr1)]
    exact tagOut_tagResult cfg o1 start _ st1.calls c1 x rest'
  · rw [run_of_rule (.tErr hs hc hid hr1), tagResult_err]
    exact ⟨hne, st2, rfl, hcalls⟩

/-- `^m form`, `dmeta`, `dform` = the outcomes of `m` and `form` -/
theorem meta_run (o1 : Opts) {f d : Nat} {dm : Bool} {start : Nat} {rest rest1 rest2 : Bytes} {cl : List Call}
    {dmeta dform : DOne}
    (hm : PostS cl rest1 (run (xctx cfg o1) f (.v (d + 1) dm { rest := rest, calls := cl })) dmeta)
    (hf : ∀ c1, PostS (cl ++ c1) rest2 (run (xctx cfg o1) f (.v (d + 1) dm { rest := rest1, calls := cl ++ c1 }))
      dform) :
    PostS cl rest2 (run (xctx cfg o1) (f + 1) (.me d dm start { rest := rest, calls := cl }))
      (metaResult cfg start rest1.length rest2.length dmeta dform) := by
  rcases hm.cases with ⟨c1, m, rfl, hr1⟩ | ⟨c1, code, s, e, st1, rfl, hne, hr1, hcalls⟩
  · unfold metaResult
    dsimp only
    cases hme : metaEntries m with
    | none => rw [run_of_rule (.meNoEntries hr1 hme)]; exact ⟨by decide, _, rfl, rfl⟩
    | some p =>
      obtain ⟨nks, nvs⟩ := p
      dsimp only
      rcases (hf c1).cases with ⟨c2, form, rfl, hr2⟩ | ⟨c2, code, s, e, st2, rfl, hne, hr2, hcalls⟩
      · dsimp only
        cases hmt : form.metaTarget with
        | false =>
          rw [run_of_rule (.meNoTarget hr1 hme hr2 hmt), if_pos (show (!false) = true from rfl)]
          exact ⟨by decide, _, rfl, List.append_assoc ..⟩
        | true =>
          rw [run_of_rule (.meOk hr1 hme hr2 hmt), if_neg (show ¬ (!true) = true from nofun)]
          show _ = Res.ok _ { rest := rest2, calls := cl ++ (c1 ++ c2) }
          rw [List.append_assoc]
      · rw [run_of_rule (.meErr₂ hr1 hme hr2)]
        exact ⟨hne, st2, rfl, by rw [hcalls, List.append_assoc]⟩
  · rw [metaResult_errM, run_of_rule (.meErr hr1)]
    exact ⟨hne, st1, rfl, hcalls⟩

/-- a sequence that has read `acc`: `dx` = the outcome of the next element, `l` = those of the elements after it -/
theorem seq_next_run (o1 : Opts) {f d : Nat} {dm : Bool} {kind start e : Nat} {rest rest1 rest' : Bytes}
    {cl : List Call} {acc : List Val} {dx : DOne} {l : List DOne}
    (hx : PostS cl rest1 (run (xctx cfg o1) f (.v (d + 1) dm { rest := rest, calls := cl })) dx)
    (hrec : ∀ c1 x, PostS (cl ++ c1) rest'
      (run (xctx cfg o1) f (.s d dm kind start { rest := rest1, calls := cl ++ c1 } (x :: acc)))
      (restOf (closeSeq cfg kind start e) (x :: acc).reverse (seqR l))) :
    PostS cl rest' (run (xctx cfg o1) (f + 1) (.s d dm kind start { rest := rest, calls := cl } acc))
      (restOf (closeSeq cfg kind start e) acc.reverse (seqR (dx :: l))) := by
  rcases hx.cases with ⟨c1, x, rfl, hr1⟩ | ⟨c1, code, s, e', st1, rfl, hne, hr1, hcalls⟩
  · rw [run_of_rule (.sNext hr1 rfl), restOf_ok (closeSeq_closes ..), ← List.reverse_cons]
    exact (hrec c1 x).shift
  · rw [run_of_rule (.sErr hr1), loopErr_hard hne, restOf_err (closeSeq_closes ..)]
    exact ⟨hne, st1, rfl, hcalls⟩

/-- a map that has read `ks`, `vs`: `dk`, `dv` = the outcomes of the next key and value -/
theorem map_next_run (o1 : Opts) {f d : Nat} {dm : Bool} {start e : Nat} {ns : Option Bytes}
    {rest rest1 rest2 rest' : Bytes} {cl : List Call} {ks vs : List Val} {dk dv : DOne} {l : List DOne}
    (hl : ks.length = vs.length)
    (hk : PostS cl rest1 (run (xctx cfg o1) f (.v (d + 1) dm { rest := rest, calls := cl })) dk)
    (hv : ∀ c1, PostS (cl ++ c1) rest2 (run (xctx cfg o1) f (.v (d + 1) dm { rest := rest1, calls := cl ++ c1 })) dv)
    (hrec : ∀ c1 c2 k x, PostS (cl ++ c1 ++ c2) rest'
      (run (xctx cfg o1) f (.m d dm start ns { rest := rest2, calls := cl ++ c1 ++ c2 } (qualifyNs ns k :: ks) (x :: vs)))
      (restOf (closeMap cfg start e) (interleave2 (qualifyNs ns k :: ks).reverse (x :: vs).reverse) (seqR l))) :
    PostS cl rest' (run (xctx cfg o1) (f + 1) (.m d dm start ns { rest := rest, calls := cl } ks vs))
      (restOf (closeMap cfg start e) (interleave2 ks.reverse vs.reverse) (seqR (qualD ns dk :: dv :: l))) := by
  have hcl := closeMap_closes cfg start e
  rcases hk.cases with ⟨c1, k, rfl, hr1⟩ | ⟨c1, code, s, e', st1, rfl, hne, hr1, hcalls⟩
  · rcases (hv c1).cases with ⟨c2, x, rfl, hr2⟩ | ⟨c2, code, s, e', st1, rfl, hne, hr2, hcalls⟩
    · rw [run_of_rule (.mNext hr1 hr2 rfl)]
      show PostS cl rest' _ (restOf _ _ (seqR ((c1, .ok (qualifyNs ns k)) :: (c2, .ok x) :: _)))
      rw [restOf_ok hcl, restOf_ok hcl, ← interleave2_reverse_cons hl]
      exact (hrec c1 c2 k x).shift.shift
    · rw [run_of_rule (.mErr₂ hr1 hr2), loopErr_hard hne]
      show PostS cl rest' _ (restOf _ _ (seqR ((c1, .ok (qualifyNs ns k)) :: (c2, .error _) :: _)))
      rw [restOf_ok hcl, restOf_err hcl]
      exact ⟨hne, st1, rfl, by rw [hcalls, List.append_assoc]⟩
  · rw [run_of_rule (.mErr hr1), loopErr_hard hne]
    show PostS cl rest' _ (restOf _ _ (seqR ((c1, .error _) :: _)))
    rw [restOf_err hcl]
    exact ⟨hne, st1, rfl, hcalls⟩

theorem OnOk.imp {r0 : Res} {P Q : Bytes → Prop} (h : OnOk r0 P) (hpq : ∀ rest', P rest' → Q rest') :
    OnOk r0 Q := by
  cases r0 with
  | ok v st0 => exact hpq _ h
  | closer st0 => exact h
  | err e st0 => trivial

theorem SimF_leaf {st : St} {r0 : Res} (hl : LeafPost st r0) (hc : r0.isCloser = false) {run : Opts → List Call → Res}
    (hrun : ∀ o1 cl, run o1 cl = r0.setCalls cl) : SimF cfg r0 run := by
  cases r0 with
  | closer st0 => cases hc
  | err e st0 => trivial
  | ok v0 st0 =>
    refine ⟨.leaf v0, fun _ => ⟨hl.1, congrArg Hdr.hc hl.2⟩, fun o1 cl => ?_⟩
    rw [hrun, dispatchS_leaf]
    exact PostS.ok_nil ..

theorem SimF_of_seq {f d : Nat} {dm : Bool} {kind start : Nat} {st : St} {r0 : Res}
    (h : OnOk r0 (SeqOK cfg f d dm kind start st.rest)) :
    SimF cfg r0 (runs cfg f (.s d dm kind start st [])) := by
  cases r0 with
  | err e st0 => trivial
  | closer st0 => exact h.elim
  | ok v0 st0 =>
    obtain ⟨more, e, hsm, hm⟩ := h
    refine ⟨.seq kind start e more, hsm, fun o1 cl => ?_⟩
    rw [dispatchS_seq, ← restOf_nil (closeSeq cfg kind start e)]
    exact hm o1 cl []

theorem SimF_of_map {f d : Nat} {dm : Bool} {start : Nat} {ns : Option Bytes} {st : St} {r0 : Res}
    (hn : cfg.clj = false → ns = none) (h : OnOk r0 (MapOK cfg f d dm start ns st.rest)) :
    SimF cfg r0 (runs cfg f (.m d dm start ns st [] [])) := by
  cases r0 with
  | err e st0 => trivial
  | closer st0 => exact h.elim
  | ok v0 st0 =>
    obtain ⟨mk, mv, e, hl, hsk, hsv, hm⟩ := h
    refine ⟨.map start e ns mk mv, fun hc => ⟨hn hc, hl, hsk hc, hsv hc⟩, fun o1 cl => ?_⟩
    rw [dispatchS_map_entries, ← restOf_nil (closeMap cfg start e)]
    exact hm o1 cl [] [] rfl

/-- a form that starts with `:` is read by `readIdentifier`, whatever the options -/
theorem run_colon (o0 o1 : Opts) {f d : Nat} {dm : Bool} {cs : Bytes} {c0 : List Call} (cl : List Call) {v : Val}
    {st' : St} (hv : run (xctx cfg o0) f (.v d dm { rest := 0x3A :: cs, calls := c0 }) = .ok v st') :
    run (xctx cfg o1) f (.v d dm { rest := 0x3A :: cs, calls := cl }) = .ok v { rest := st'.rest, calls := cl } := by
  cases f with
  | zero => rw [run_zero] at hv; cases hv
  | succ f =>
    exact (readValue_colon (xctx cfg o1) f d dm cs cl).trans
      (setCalls_ok (readIdentifier_calls cfg o0 o1 { rest := 0x3A :: cs, calls := c0 } cl)
        ((readValue_colon (xctx cfg o0) f d dm cs c0).symm.trans hv))

variable (o0 : Opts)

/-- One step of the simulation, by the rule of the driving run.  Where that run erred there is nothing to
    show; where it handed over or returned a value, every other run fires the same rule, or, where its
    sub-run or a handler failed, the error rule beside it: `route` sees neither options nor call log. -/
theorem Sim.step {f : Nat} (ih : ∀ c, c.dm = false → Sim cfg f c (run (xctx cfg o0) f c)) {c : Call6} {r : Res}
    (h : StepRel (xctx cfg o0) (run (xctx cfg o0) f) c r) (hdm : c.dm = false) : Sim cfg (f + 1) c r := by
  have hI {c r} (h : run (xctx cfg o0) f c = r) (hd : c.dm = false) : Sim cfg f c r := h ▸ ih c hd
  cases h with
  | vEof | vDeep | vStray | vSkipCloser | vSkipErr | sErr | sStray | sDup | mErr | mErr₂ | mOdd | mEof | mStray | mDup
  | tEof | tWs | tIdErr | tNotSym | tCloser | tErr | meCloser | meErr | meNoEntries | meCloser₂ | meErr₂
  | meNoTarget | nErr | nBad | nNoBrace => exact Sim.err ..
  | @vLeaf d dm st c cs k hw hrt =>
    obtain ⟨_, -, hl⟩ := ((route_bytes hrt).leafCall (xctx cfg o0) st.calls).leaf
    exact SimF_leaf cfg hl.post hl.closer fun o1 cl =>
      Eq.trans (b := k.read (xctx cfg o1) { rest := c :: cs, calls := cl }) (run_of_rule (.vLeaf hw hrt))
        (Leaf.read_calls cfg o0 o1 { rest := c :: cs, calls := st.calls } cl k)
  | vCloser hw hrt => exact fun o1 cl => run_of_rule (.vCloser hw hrt)
  | vSeq hw hrt hr =>
    exact (SimF_of_seq cfg (hI hr hdm)).over cfg fun o1 cl =>
      .vSeq hw hrt rfl
  | vMap hw hrt hr =>
    exact (SimF_of_map cfg (fun _ => rfl) (hI hr hdm)).over cfg fun o1 cl =>
      .vMap hw hrt rfl
  | vNsmap hw hrt hr =>
    obtain ⟨-, -, -, t, rfl⟩ := route_bytes hrt
    exact (hI hr hdm (route_clj (.inl hrt)) t rfl).over cfg fun o1 cl => .vNsmap hw hrt rfl
  | vTagged hw hrt hr => exact (hI hr hdm).over cfg fun o1 cl => .vTagged hw hrt rfl
  | vMeta hw hrt hr =>
    exact (hI hr hdm (route_clj (.inr hrt))).over cfg fun o1 cl => .vMeta hw hrt rfl
  | @vSkipOk d dm st c cs s v st1 r hw hrt hv hr =>
    exact (hI hr hdm).over cfg fun o1 cl => .vSkipOk hw hrt
      (setCalls_ok (run_discard cfg o0 o1 f (.v (d + 1) true { rest := s, calls := st.calls }) cl rfl) hv) rfl
  | sNext hv hr =>
    obtain ⟨tx, hsx, htx⟩ := hI hv hdm
    refine (hI hr hdm).imp fun rest' ⟨more, e, hsm, hmore⟩ =>
      ⟨tx :: more, e, fun hc => ⟨hsx hc, hsm hc⟩, fun o1 cl acc => ?_⟩
    rw [dispatchEachS_cons]
    exact seq_next_run cfg o1 (htx o1 cl) fun c1 x => hmore o1 (cl ++ c1) (x :: acc)
  | sList hv hs | sVec hv hs | sSet hv hs =>
    exact ⟨[], _, fun _ => trivial, fun o1 cl acc => seq_close_run cfg o1 acc (hI hv hdm o1 cl) hs⟩
  | mNext hv hv2 hr =>
    obtain ⟨tk, hsk, htk⟩ := hI hv hdm
    obtain ⟨tv, hsv, htv⟩ := hI hv2 hdm
    refine (hI hr hdm).imp fun rest' ⟨mk, mv, e, hlm, hsmk, hsmv, hmore⟩ =>
      ⟨tk :: mk, tv :: mv, e, by simp [hlm], fun hc => ⟨hsk hc, hsmk hc⟩,
        fun hc => ⟨hsv hc, hsmv hc⟩, fun o1 cl ks vs hl => ?_⟩
    rw [entriesS_cons]
    exact map_next_run cfg o1 hl (htk o1 cl) (fun c1 => htv o1 (cl ++ c1)) fun c1 c2 k x =>
      hmore o1 (cl ++ c1 ++ c2) _ _ (by simp [hl])
  | mOk hv hs =>
    exact ⟨[], [], _, rfl, fun _ => trivial, fun _ => trivial, fun o1 cl ks vs hl =>
      map_close_run cfg o1 ks vs hl (hI hv hdm o1 cl) hs⟩
  | nCloser hv => exact fun _ _ _ o1 cl => run_of_rule (.nCloser (hI hv hdm o1 cl))
  | @nNext d dm start st hh name st' r res hv hw hr =>
    intro hclj cs hcs
    obtain ⟨rest, c0⟩ := st
    obtain rfl : rest = 0x3A :: cs := hcs
    exact (SimF_of_map cfg (fun hc => absurd (hclj.symm.trans hc) nofun) (hI hr hdm)).over cfg fun o1 cl =>
      .nNext (run_colon cfg o0 o1 cl hv) hw rfl
  | tIdCloser hs hc hr => exact absurd ((congrArg Res.isCloser hr).symm.trans (readIdentifier_leafRes ..).closer) nofun
  | @tOk d dm start st c t hh md ns nm st' v st'' hs hc hr hv =>
    obtain rfl : dm = false := hdm
    obtain ⟨tx, hsx, htx⟩ := hI hv rfl
    refine SimF_of_FormOK cfg (rest' := st''.rest) ?_ o0 st.calls (run_of_rule (.tOk hs hc hr hv)).symm
    refine ⟨.tagged start st''.rest.length (slice st.rest st'.rest) tx, hsx, fun o1 cl => ?_⟩
    rw [dispatchS_tagged]
    exact tagged_run cfg o1 (st := { rest := st.rest, calls := cl }) hs hc
      (setCalls_ok (readIdentifier_calls cfg o0 o1 st cl) hr) (htx o1 cl)
  | @meOk d dm start st m st' p form st'' hv hm hv2 ht =>
    obtain ⟨tm, -, htm⟩ := hI hv hdm
    obtain ⟨tf, -, htf⟩ := hI hv2 hdm
    refine fun hclj => ⟨.ann start st'.rest.length st''.rest.length tm tf, fun hc => absurd (hclj.symm.trans hc) nofun,
      fun o1 cl => ?_⟩
    rw [dispatchS_ann]
    exact meta_run cfg o1 (htm o1 cl) fun c1 => htf o1 (cl ++ c1)

theorem run_sim (f : Nat) : ∀ c, c.dm = false → Sim cfg f c (run (xctx cfg o0) f c) :=
  run_ind (xctx cfg o0) (P := fun f R => ∀ c, c.dm = false → Sim cfg f c (R c)) (fun _ _ => Sim.err ..)
    (fun _ ih c hdm => Sim.step cfg o0 ih (step_rel c) hdm) f

end
end DClj

theorem seqR_calls_nil : ∀ (l : List DOne), (∀ d ∈ l, d.1 = []) → (seqR l).1 = []
  | [], _ => by rw [seqR]
  | (c, .error e) :: rest, h => by
    rw [seqR_cons_err]
    exact h (c, .error e) List.mem_cons_self
  | (c, .ok x) :: rest, h => by
    rw [seqR_cons_ok]
    show c ++ (seqR rest).1 = []
    rw [show c = [] from h (c, .ok x) List.mem_cons_self,
      seqR_calls_nil rest fun d hd => h d (List.mem_cons_of_mem _ hd)]
    rfl

theorem qualD_calls (ns : Option Bytes) (d : DOne) : (qualD ns d).1 = d.1 := by
  obtain ⟨c, er | k⟩ := d <;> rfl

theorem tagResult_none (mode s e : Nat) (tag : Bytes) (d : DOne) :
    tagResult none mode s e tag d = tagResult none 0 s e tag d ∧ (tagResult none mode s e tag d).1 = d.1 := by
  obtain ⟨c, er | v⟩ := d <;> exact ⟨rfl, rfl⟩

theorem metaResult_calls (cfg : Cfg) (s me e : Nat) (dm df : DOne) (h1 : dm.1 = []) (h2 : df.1 = []) :
    (metaResult cfg s me e dm df).1 = [] := by
  obtain ⟨c1, er | m⟩ := dm
  · exact h1
  obtain ⟨c2, r2⟩ := df
  have h1' : c1 = [] := h1
  have h2' : c2 = [] := h2
  subst h1' h2'
  unfold metaResult
  dsimp only
  split
  · rfl
  · cases r2 with
    | error er => rfl
    | ok form =>
      dsimp only
      split <;> rfl

section
variable (cfg : Cfg) (mode : Nat)

mutual
theorem dispatchS_none : ∀ t : Syn,
    dispatchS cfg none mode t = dispatchS cfg none 0 t ∧ (dispatchS cfg none mode t).1 = []
  | .leaf v => by
    rw [dispatchS_leaf, dispatchS_leaf]; exact ⟨rfl, rfl⟩
  | .seq kind s e xs => by
    obtain ⟨h1, h2⟩ := dispatchEachS_none xs
    rw [dispatchS_seq, dispatchS_seq, h1]
    refine ⟨rfl, ?_⟩
    rw [(closeSeq_closes ..).fst]
    exact seqR_calls_nil _ (by rw [← h1]; exact h2)
  | .map s e ns ks vs => by
    obtain ⟨h1, h2⟩ := dispatchEachS_none ks
    obtain ⟨h3, h4⟩ := dispatchEachS_none vs
    rw [dispatchS_map, dispatchS_map, h1, h3]
    refine ⟨rfl, ?_⟩
    rw [(closeMap_closes ..).fst]
    refine seqR_calls_nil _ fun d hd => ?_
    rcases mem_interleave2 _ _ d hd with hd | hd
    · obtain ⟨d', hd', rfl⟩ := List.mem_map.mp hd
      rw [qualD_calls]
      exact h2 d' (by rw [h1]; exact hd')
    · exact h4 d (by rw [h3]; exact hd)
  | .tagged s e tag x => by
    obtain ⟨h1, h2⟩ := dispatchS_none x
    rw [dispatchS_tagged, dispatchS_tagged, h1]
    refine ⟨(tagResult_none mode s e tag _).1, ?_⟩
    rw [(tagResult_none mode s e tag _).2, ← h1]
    exact h2
  | .ann s me e m form => by
    obtain ⟨h1, h2⟩ := dispatchS_none m
    obtain ⟨h3, h4⟩ := dispatchS_none form
    rw [dispatchS_ann, dispatchS_ann, h1, h3]
    refine ⟨rfl, metaResult_calls cfg s me e _ _ ?_ ?_⟩
    · rw [← h1]; exact h2
    · rw [← h3]; exact h4
theorem dispatchEachS_none : ∀ ts : List Syn,
    dispatchEachS cfg none mode ts = dispatchEachS cfg none 0 ts ∧
    ∀ d ∈ dispatchEachS cfg none mode ts, d.1 = []
  | [] => by
    rw [dispatchEachS_nil, dispatchEachS_nil]
    exact ⟨rfl, fun d hd => nomatch hd⟩
  | t :: ts => by
    obtain ⟨h1, h2⟩ := dispatchS_none t
    obtain ⟨h3, h4⟩ := dispatchEachS_none ts
    rw [dispatchEachS_cons, dispatchEachS_cons, h1, h3]
    refine ⟨rfl, fun d hd => ?_⟩
    rcases List.mem_cons.mp hd with rfl | hd
    · rw [← h1]; exact h2
    · exact h4 d (by rw [h3]; exact hd)
end

end

open DClj

theorem ReadIs_of_PostS (cfg : Cfg) (o1 : Opts) (input : Bytes) (rest' : Bytes) (dr : DOne)
    (h : PostS [] rest' (readValue { cfg := cfg, opts := o1 } (readFuel input) 0 false { rest := input }) dr) :
    ReadIs (read cfg o1 input) input.length dr := by
  obtain ⟨calls, ⟨code, s, e⟩ | v⟩ := dr
  · obtain ⟨hne, st', hr1, hcalls⟩ := h
    rw [read_of_err hr1, if_neg (by simp [mkErr])]
    exact ⟨⟨_, _, rfl, rfl, rfl⟩, hcalls⟩
  · rw [read_of_ok h]
    exact ⟨rfl, rfl⟩

theorem dispatch_of_ReadIs {r : Result} {n : Nat} {dr : DOne} {v0 : Val} (h : ReadIs r n dr)
    (hv : r.out = .value v0) : dr = (r.calls, .ok v0) := by
  obtain ⟨calls, ⟨code, s, e⟩ | v⟩ := dr
  · obtain ⟨⟨es, ee, ho, _, _⟩, _⟩ := h
    rw [hv] at ho
    cases ho
  · obtain ⟨ho, hc⟩ := h
    rw [hv] at ho
    cases ho
    rw [hc]

/-- An input that reads to a value under *some* options `o0` (with or without a registry) has
    a syntax tree whose dispatch is what `read` returns under *any* options; without the Clojure
    flag the tree is `Flat`. -/
theorem read_has_tree (cfg : Cfg) (o0 : Opts) (input : Bytes) (v0 : Val)
    (h0 : (read cfg o0 input).out = .value v0) :
    ∃ t : Syn, (cfg.clj = false → Flat t) ∧
      ∀ o1 : Opts, ReadIs (read cfg o1 input) input.length (dispatchS cfg o1.registry o1.mode t) := by
  obtain ⟨st0, hr⟩ := read_out_value h0
  obtain ⟨t, hs, ht⟩ := (hr ▸ run_sim cfg o0 (readFuel input) (.v 0 false { rest := input }) rfl :
    Sim cfg (readFuel input) (.v 0 false { rest := input }) (.ok v0 st0))
  exact ⟨t, hs, fun o1 => ReadIs_of_PostS cfg o1 input st0.rest _ (ht o1 [])⟩

theorem plainS_of_tree (cfg : Cfg) (opts : Opts) (input : Bytes) (v0 : Val) (t : Syn)
    (h0 : (read cfg { opts with registry := none } input).out = .value v0)
    (ht : ∀ o1 : Opts, ReadIs (read cfg o1 input) input.length (dispatchS cfg o1.registry o1.mode t)) :
    plainS cfg t = ([], .ok v0) := by
  have hd : dispatchS cfg none opts.mode t = (_, .ok v0) := dispatch_of_ReadIs (ht { opts with registry := none }) h0
  obtain ⟨hm, hc⟩ := dispatchS_none cfg opts.mode t
  unfold plainS
  rw [← hm]
  rw [hd] at hc
  have hc' : (read cfg { opts with registry := none } input).calls = [] := hc
  rw [hd, hc']

/-- Top level, every configuration: the driving run is the one without a registry, and the
    registry-free reading of the tree is its value. -/
theorem read_is_dispatchS (cfg : Cfg) (opts : Opts) (input : Bytes) (v0 : Val)
    (h0 : (read cfg { opts with registry := none } input).out = .value v0) :
    ∃ t : Syn, plainS cfg t = ([], .ok v0) ∧
      ∀ o1 : Opts, ReadIs (read cfg o1 input) input.length (dispatchS cfg o1.registry o1.mode t) := by
  obtain ⟨t, -, ht⟩ := read_has_tree cfg _ input v0 h0
  exact ⟨t, plainS_of_tree cfg opts input v0 t h0 ht, ht⟩

end Edn.Proofs
