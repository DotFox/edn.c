/-
  C03: every rendering of a value (Edn.Spec.Renders: all token spellings it lists, any
  blank/comment/discard trivia between forms, nesting within the reader's limit) is accepted, and
  the tree returned has exactly the rendered content.
  First (`RF`) `Renders cfg` is included in `FormX cfg N S` (for exact `N`, `S`): every well-separated
  rendering in front of a terminator is a form of the accepted language, with the same content and the
  same nesting bound (`RF.renders_formX_all`); no reader run and no fuel above the token level.  C03
  (`complete`, for the body of a collection `complete_s`, `Edn.Properties.C03.every_rendering_is_read`) is
  then completeness of the grammar (`formX_reads`, `formSeqX_reads`) along this inclusion, read through
  `strip`: what `Renders` names has no metadata.
-/
import Edn.Proofs.CompleteX
import Edn.Proofs.NumberExact
import Edn.Proofs.Str

namespace Edn.Proofs.RF
open Edn.Model Edn.Spec Edn.Generated Edn.Proofs Edn.Proofs.Cmpl

section
variable {cfg : Cfg} {N : NumJ} {S : StrJ}

theorem formSeqX_blank {k : Nat} {xs : List Val} {sep body after : Bytes} (hb : Blank sep)
    (h : FormSeqX cfg N S k xs body after) : FormSeqX cfg N S k xs (sep ++ body) after := by
  cases h with
  | nil _ tr _ ht => exact .nil k _ after (SndX.trailX_blank hb ht)
  | cons _ a xs tok body' _ h hr =>
    rw [← List.append_assoc]
    exact .cons k a xs (sep ++ tok) body' after (.blank k a sep tok _ hb h) hr

theorem identTok_nil : IdentTok "nil".toUTF8.toList :=
  nil_bytes ▸ identTok_of_checks _ _ (by decide +kernel) (by decide) (by decide)

theorem identTok_true : IdentTok "true".toUTF8.toList :=
  true_bytes ▸ identTok_of_checks _ _ (by decide +kernel) (by decide) (by decide)

theorem identTok_false : IdentTok "false".toUTF8.toList :=
  false_bytes ▸ identTok_of_checks _ _ (by decide +kernel) (by decide) (by decide)

theorem identStartX_ofTok {tok : Bytes} (h : IdentTok tok) : IdentStartX cfg tok :=
  ⟨fun c t e => (h.first c t e).2, fun _ e => by
    cases tok with
    | nil => cases e
    | cons c t => exact (h.first c t rfl).1 (Option.some.inj e)⟩

theorem formX_identTok (k : Nat) {tok : Bytes} {a : Val} (ht : IdentTok tok) (hd : IdentDenotes tok a) {rest : Bytes}
    (hr : TermStart rest) : FormX cfg N S k a tok rest :=
  .ident k tok rest a (IdentLex.ofTok ht) (identStartX_ofTok ht) hd (TermStart.delimStart hr)

/-- exactness read right to left: the judgement of a token the leaf reader accepts -/
theorem numJ_ofTok (hN : NumExact cfg N) {tok : Bytes} {nv : NumVal} (h : CNum.NumTok cfg tok nv) {rest : Bytes}
    (hr : TermStart rest) : N tok nv rest := by
  obtain ⟨tok', e, hn⟩ := (hN _ rest nv (h.start rest)).mp (h.2 rest hr)
  cases List.append_cancel_right e
  exact hn

theorem formX_numTok (hN : NumExact cfg N) (k : Nat) {tok : Bytes} {nv : NumVal} (h : CNum.NumTok cfg tok nv) {rest : Bytes}
    (hr : TermStart rest) : FormX cfg N S k (numToVal hdr0 nv) tok rest :=
  .number k tok rest nv (h.start rest) (numJ_ofTok hN h hr)

theorem strJ_ofContent (hS : StrExact cfg S) (sp dn : Bytes) (h : StrContent cfg sp dn)
    (hne : cfg.exp = true → sp ≠ []) (rest : Bytes) : S (0x22 :: (sp ++ [0x22])) sp (sp.contains 0x5C) rest := by
  have hnb : ¬ (cfg.exp = true ∧ ∃ t, (0x22 :: (sp ++ 0x22 :: rest)) = 0x22 :: 0x22 :: 0x22 :: 0x0A :: t) := by
    rintro ⟨he, t, ht⟩
    obtain ⟨c, u, rfl, hc⟩ := strContent_head_ne_quote cfg sp dn h (hne he)
    simp only [List.cons_append, List.cons.injEq, true_and] at ht
    exact hc ht.1
  obtain ⟨tok', e, hs⟩ := (hS { cfg := cfg, opts := {} } rfl (0x22 :: (sp ++ 0x22 :: rest)) rest [] sp (sp.contains 0x5C) rfl).mp
    ⟨_, readString_literal { cfg := cfg, opts := {} } sp dn rest [] h hnb⟩
  have e' : (0x22 :: (sp ++ [0x22])) ++ rest = tok' ++ rest := by rw [← e]; simp
  cases List.append_cancel_right e'
  exact hs

theorem formX_strTok (hS : StrExact cfg S) (k : Nat) (sp dn : Bytes) (h : StrContent cfg sp dn)
    (hne : cfg.exp = true → sp ≠ []) (rest : Bytes) :
    FormX cfg N S k (.str hdr0 sp (sp.contains 0x5C)) (0x22 :: (sp ++ [0x22])) rest :=
  .str k _ rest sp _ rfl (strJ_ofContent hS sp dn h hne rest)

theorem renders_formX_all (hN : NumExact cfg N) (hS : StrExact cfg S) :
    (∀ {k : Nat} {a : Val} {s : Bytes}, Renders cfg k a s →
      ∀ rest, TermStart rest → FormX cfg N S k a s rest) ∧
    (∀ {k : Nat} {xs : List Val} {body : Bytes}, RendersSeq cfg k xs body →
      ∀ (c : UInt8) (rest : Bytes), IsCloser c → FormSeqX cfg N S k xs body (c :: rest)) := by
  refine ⟨
    @Renders.rec cfg _ _ ?nil ?true_ ?false_ ?int ?bigOverflow ?bigN ?float ?bigdec ?str ?char ?kw ?sym ?list ?vec ?set
      ?map ?tagged ?blank ?discard ?snil ?last ?cons,
    @RendersSeq.rec cfg _ _ ?nil ?true_ ?false_ ?int ?bigOverflow ?bigN ?float ?bigdec ?str ?char ?kw ?sym ?list ?vec ?set
      ?map ?tagged ?blank ?discard ?snil ?last ?cons⟩
  case nil =>
    exact fun k rest hr => formX_identTok k identTok_nil (.inl ⟨rfl, rfl⟩) hr
  case true_ =>
    exact fun k rest hr => formX_identTok k identTok_true (.inr (.inl ⟨rfl, rfl⟩)) hr
  case false_ =>
    exact fun k rest hr => formX_identTok k identTok_false (.inr (.inr (.inl ⟨rfl, rfl⟩))) hr
  case int => exact fun k sg ds neg hs hd hr rest ht => formX_numTok hN k (CNum.numTok_of_coreNum (.int sg ds neg hs hd hr)) ht
  case bigOverflow =>
    exact fun k sg ds neg hs hd hr rest ht => formX_numTok hN k (CNum.numTok_of_coreNum (.big sg ds neg hs hd hr)) ht
  case bigN => exact fun k sg ds neg hs hd rest ht => formX_numTok hN k (CNum.numTok_of_coreNum (.bigN sg ds neg hs hd)) ht
  case float => exact fun k tok h rest ht => formX_numTok hN k (CNum.numTok_float cfg tok h) ht
  case bigdec =>
    exact fun k sg body neg hs hb hnosign rest ht => formX_numTok hN k (CNum.numTok_of_coreNum (.bigdec sg body neg hs hb hnosign)) ht
  case str => exact fun k sp dn h hne rest _ => formX_strTok hS k sp dn h hne rest
  case char =>
    exact fun k body cp h hcp rest hr => .char k body rest cp (charBody_toX cfg h) hcp (TermStart.delimStart hr)
  case kw =>
    exact fun k tok ns nm h hc hsp hne hsl rest hr =>
      formX_identTok k h (.inr (.inr (.inr (.inl ⟨tok, ns, nm, rfl, hne, hc, hsl, hsp, rfl⟩)))) hr
  case sym =>
    exact fun k tok ns nm h hc hsp hres rest hr =>
      formX_identTok k h (.inr (.inr (.inr (.inr ⟨hc, hres.1, hres.2.1, hres.2.2, ns, nm, hsp, rfl⟩)))) hr
  case list => exact fun k xs body _ ih rest _ => .list k xs body rest (ih 0x29 rest (.inl rfl))
  case vec => exact fun k xs body _ ih rest _ => .vec k xs body rest (ih 0x5D rest (.inr (.inl rfl)))
  case set => exact fun k xs body _ hpd ih rest _ => .set k xs body rest (ih 0x7D rest (.inr (.inr rfl))) hpd
  case map =>
    exact fun k ks vs body _ hl hpd ih rest _ => .map k ks vs body rest (ih 0x7D rest (.inr (.inr rfl))) hl hpd
  case tagged =>
    intro k tag ns nm a sep s ht hc hsp hres hu hsep hsne _ ih rest hr
    rw [List.append_assoc]
    refine .tagged k tag ns nm a (sep ++ s) rest (IdentLex.ofTok ht)
      (.inr (.inr (.inr (.inr ⟨hc, hres.1, hres.2.1, hres.2.2, ns, nm, hsp, rfl⟩)))) hu.1 ?_
      (.blank k a sep s rest hsep (ih rest hr))
    cases sep with
    | nil => exact absurd rfl hsne
    | cons c t => exact ⟨c, t ++ s, rfl, (blank_head_term hsep).2⟩
  case blank => exact fun k a tr s ht _ ih rest hr => .blank k a tr s rest ht (ih rest hr)
  case discard =>
    intro k a b sd sep s _ hsep hsne _ ihd ih rest hr
    rw [List.append_assoc]
    exact .discard k a b sd (sep ++ s) rest
      (ihd _ (by rw [List.append_assoc]; exact TermStart_blank _ hsep hsne)) (.blank (k + 1) a sep s rest hsep (ih rest hr))
  case snil => exact fun k tr ht c rest _ => .nil k tr _ (.blank k tr _ ht)
  case last =>
    exact fun k a s tr _ ht ih c rest hc =>
      .cons k a [] s tr _ (ih _ (TermStart_blank_closer rest ht hc)) (.nil k tr _ (.blank k tr _ ht))
  case cons =>
    intro k a xs s sep body _ hsep hsne _ _ ih ihr c rest hc
    rw [List.append_assoc]
    exact .cons k a xs s (sep ++ body) _ (ih _ (by rw [List.append_assoc]; exact TermStart_blank _ hsep hsne))
      (formSeqX_blank hsep (ihr c rest hc))

theorem renders_strip_all :
    (∀ {k : Nat} {a : Val} {s : Bytes}, Renders cfg k a s → strip a = a) ∧
    (∀ {k : Nat} {xs : List Val} {body : Bytes}, RendersSeq cfg k xs body → stripL xs = xs) := by
  refine ⟨
    @Renders.rec cfg _ _ ?nil ?true_ ?false_ ?int ?bigOverflow ?bigN ?float ?bigdec ?str ?char ?kw ?sym ?list ?vec ?set
      ?map ?tagged ?blank ?discard ?snil ?last ?cons,
    @RendersSeq.rec cfg _ _ ?nil ?true_ ?false_ ?int ?bigOverflow ?bigN ?float ?bigdec ?str ?char ?kw ?sym ?list ?vec ?set
      ?map ?tagged ?blank ?discard ?snil ?last ?cons⟩
  case nil | true_ | false_ | char | kw | sym | str | float => intros; rfl
  case int | bigOverflow | bigN | bigdec => intros; rfl
  case list | vec => intro k xs body _ ih; simp only [strip, ih]
  case set => intro k xs body _ _ ih; simp only [strip, ih]
  case map =>
    intro k ks vs body _ hl _ ih
    obtain ⟨hk, hv⟩ := Snd.stripL_interleaveKV ks vs hl ih
    simp only [strip, hk, hv]
  case tagged => intro k tag ns nm a sep s _ _ _ _ _ _ _ _ ih; simp only [strip, ih]
  case blank => exact fun _ _ _ _ _ _ ih => ih
  case discard => exact fun _ _ _ _ _ _ _ _ _ _ _ ih => ih
  case snil => intros; exact stripL_nil
  case last => intro k a s tr _ _ ih; rw [stripL_cons, stripL_nil, ih]
  case cons => intro k a xs s sep body _ _ _ _ _ ih ihr; rw [stripL_cons, ih, ihr]

end

end Edn.Proofs.RF

namespace Edn.Proofs
open Edn.Model Edn.Spec Edn.Generated Edn.Proofs.RejectDocX

/-! ### the tokens of `Renders`, in every context (any registry, any depth): instances of the token cases
  of grammar completeness -/

theorem Cmpl.reads_of_readsX {cfg : Cfg} {opts : Opts} {d : Nat} {a : Val} {tok : Bytes} (hs : strip a = a)
    (h : ∀ rest, TermStart rest → CmplX.ReadsX cfg opts d a tok rest) : Reads cfg opts d a tok := by
  intro dm rest cl f hT hf
  obtain ⟨v, hv, e⟩ := (h rest hT).run dm cl f hf
  exact ⟨v, hv, by rw [← SndX.strip_stripM, e, hs]⟩

theorem reads_ident (cfg : Cfg) (opts : Opts) (d : Nat) (a : Val) (tok : Bytes)
    (ht : IdentTok tok) (hd : IdentDenotes tok a) : Reads cfg opts d a tok :=
  Cmpl.reads_of_readsX (Snd.identDenotes_strip hd) fun rest hr =>
    CmplX.readsX_ident cfg opts d tok rest a (IdentLex.ofTok ht) (RF.identStartX_ofTok ht) hd (TermStart.delimStart hr)

theorem reads_nil (cfg : Cfg) (opts : Opts) (d : Nat) : Reads cfg opts d (.nil hdr0) "nil".toUTF8.toList :=
  reads_ident _ _ _ _ _ RF.identTok_nil (.inl ⟨rfl, rfl⟩)
theorem reads_true (cfg : Cfg) (opts : Opts) (d : Nat) : Reads cfg opts d (.bool hdr0 true) "true".toUTF8.toList :=
  reads_ident _ _ _ _ _ RF.identTok_true (.inr (.inl ⟨rfl, rfl⟩))
theorem reads_false (cfg : Cfg) (opts : Opts) (d : Nat) : Reads cfg opts d (.bool hdr0 false) "false".toUTF8.toList :=
  reads_ident _ _ _ _ _ RF.identTok_false (.inr (.inr (.inl ⟨rfl, rfl⟩)))

theorem reads_kw (cfg : Cfg) (opts : Opts) (d : Nat) (tok : Bytes) (ns : Option Bytes) (nm : Bytes)
    (h : IdentTok (0x3A :: tok)) (hc : tok.head? ≠ some 0x3A) (hsp : splitIdent tok = some (ns, nm))
    (hne : tok ≠ []) (hsl : tok ≠ [0x2F]) :
    Reads cfg opts d (.kw hdr0 ns nm) (0x3A :: tok) :=
  reads_ident _ _ _ _ _ h (.inr (.inr (.inr (.inl ⟨tok, ns, nm, rfl, hne, hc, hsl, hsp, rfl⟩))))

theorem reads_sym (cfg : Cfg) (opts : Opts) (d : Nat) (tok : Bytes) (ns : Option Bytes) (nm : Bytes)
    (h : IdentTok tok) (hc : tok.head? ≠ some 0x3A) (hsp : splitIdent tok = some (ns, nm))
    (hres : tok ≠ "nil".toUTF8.toList ∧ tok ≠ "true".toUTF8.toList ∧ tok ≠ "false".toUTF8.toList) :
    Reads cfg opts d (.sym hdr0 none ns nm) tok :=
  reads_ident _ _ _ _ _ h (.inr (.inr (.inr (.inr ⟨hc, hres.1, hres.2.1, hres.2.2, ns, nm, hsp, rfl⟩))))

theorem CNum.reads_number (cfg : Cfg) (opts : Opts) (d : Nat) {tok : Bytes} {nv : NumVal} (h : CNum.NumTok cfg tok nv) :
    Reads cfg opts d (numToVal hdr0 nv) tok :=
  Cmpl.reads_of_readsX (Snd.strip_numToVal hdr0 nv) fun rest hr =>
    CmplX.readsX_number (numExact_of cfg) opts d tok rest nv (h.start rest) (RF.numJ_ofTok (numExact_of cfg) h hr)

theorem reads_int (cfg : Cfg) (opts : Opts) (d : Nat) (sg ds : Bytes) (neg : Bool) (hs : SignTok sg neg) (hd : DecDigits ds)
    (hr : if neg then natOfDigits ds ≤ 9223372036854775808 else natOfDigits ds ≤ 9223372036854775807) :
    Reads cfg opts d (.int hdr0 (if neg then -(natOfDigits ds : Int) else (natOfDigits ds : Int))) (sg ++ ds) :=
  CNum.reads_number cfg opts d (CNum.numTok_of_coreNum (.int sg ds neg hs hd hr))

theorem reads_bigOverflow (cfg : Cfg) (opts : Opts) (d : Nat) (sg ds : Bytes) (neg : Bool) (hs : SignTok sg neg) (hd : DecDigits ds)
    (hr : ¬ (if neg then natOfDigits ds ≤ 9223372036854775808 else natOfDigits ds ≤ 9223372036854775807)) :
    Reads cfg opts d (.bigint hdr0 neg 10 ds) (sg ++ ds) :=
  CNum.reads_number cfg opts d (CNum.numTok_of_coreNum (.big sg ds neg hs hd hr))

theorem reads_bigN (cfg : Cfg) (opts : Opts) (d : Nat) (sg ds : Bytes) (neg : Bool) (hs : SignTok sg neg) (hd : DecDigits ds) :
    Reads cfg opts d (.bigint hdr0 neg 10 ds) (sg ++ ds ++ [0x4E]) :=
  CNum.reads_number cfg opts d (CNum.numTok_of_coreNum (.bigN sg ds neg hs hd))

theorem reads_float (cfg : Cfg) (opts : Opts) (d : Nat) (tok : Bytes) (h : FloatTok tok) :
    Reads cfg opts d (.float hdr0 (let p := decimalParts tok; withSign p.1 (ofDec p.2.1 p.2.2))) tok :=
  CNum.reads_number cfg opts d (CNum.numTok_float cfg tok h)

theorem reads_bigdec (cfg : Cfg) (opts : Opts) (d : Nat) (sg body : Bytes) (neg : Bool) (hs : SignTok sg neg)
    (hb : DecDigits body ∨ FloatTok body) (hnosign : ∀ c, body.head? = some c → c ≠ 0x2B ∧ c ≠ 0x2D) :
    Reads cfg opts d (.bigdec hdr0 neg body) (sg ++ body ++ [0x4D]) :=
  CNum.reads_number cfg opts d (CNum.numTok_of_coreNum (.bigdec sg body neg hs hb hnosign))

theorem reads_str (cfg : Cfg) (opts : Opts) (d : Nat) (sp dn : Bytes) (h : StrContent cfg sp dn)
    (hne : cfg.exp = true → sp ≠ []) :
    Reads cfg opts d (.str hdr0 sp (sp.contains 0x5C)) (0x22 :: (sp ++ [0x22])) :=
  Cmpl.reads_of_readsX rfl fun rest _ =>
    CmplX.readsX_str (strExact_of cfg) opts d _ rest sp _ rfl (RF.strJ_ofContent (strExact_of cfg) sp dn h hne rest)

theorem reads_char (cfg : Cfg) (opts : Opts) (d : Nat) (body : Bytes) (cp : Nat) (h : CharBody body cp) (hcp : cp ≤ 0x10FFFF) :
    Reads cfg opts d (.char hdr0 cp) (0x5C :: body) :=
  Cmpl.reads_of_readsX rfl fun rest hr =>
    CmplX.readsX_char cfg opts d body rest cp (charBody_toX cfg h) hcp (TermStart.delimStart hr)

theorem reads_blank (cfg : Cfg) (opts : Opts) (d : Nat) (a : Val) (tr s : Bytes) (ht : Blank tr)
    (h : Reads cfg opts d a s) : Reads cfg opts d a (tr ++ s) :=
  fun dm rest cl f hT hf =>
    (Cmpl.ReadsAs.blank (P := fun v => strip v = a) ht
      (.of_run fun dm cl => ⟨_, h dm rest cl _ hT (Nat.le_refl _)⟩)).run dm cl f hf

theorem complete_s (cfg : Cfg) (opts : Opts) (hreg : opts.registry = none) :
    ∀ {k : Nat} {xs : List Val} {body : Bytes}, RendersSeq cfg k xs body →
      ∀ d, d + 1 + k ≤ Tables.maxNestingDepth → Cmpl.SeqGoal cfg opts d xs body := by
  intro k xs body h d hd dm c rest cl hc
  obtain ⟨ws, hws, hr⟩ := formSeqX_reads opts hreg (numExact_of cfg) (strExact_of cfg)
    ((RF.renders_formX_all (numExact_of cfg) (strExact_of cfg)).2 h c rest hc) c rest rfl hc d hd dm cl
  exact ⟨ws, by rw [← SndX.stripL_stripML, hws, RF.renders_strip_all.2 h], hr⟩

theorem complete (cfg : Cfg) (opts : Opts) (hreg : opts.registry = none) :
    ∀ (k : Nat) (a : Val) (s : Bytes), Renders cfg k a s →
      ∀ d, d + k ≤ Tables.maxNestingDepth → Reads cfg opts d a s := by
  intro k a s h d hd dm rest cl f hT hf
  obtain ⟨v, hv, hs⟩ := formX_reads opts hreg (numExact_of cfg) (strExact_of cfg)
    ((RF.renders_formX_all (numExact_of cfg) (strExact_of cfg)).1 h rest hT) d hd |>.run dm cl f hf
  exact ⟨v, hv, by rw [← SndX.strip_stripM, hs, RF.renders_strip_all.1 h]⟩

end Edn.Proofs
