/-
  C18: feature flags only add syntax.  A document that the core
  configuration accepts and that contains none of the byte patterns the extensions claim
  for themselves reads to the same value under every combination of the flags.

  The two runs go call against call (`Twin`; the accumulators of the loops agree up to cache
  cells, `FlagAcc`).  A rule of the core run that answers an error claims nothing; for every
  other rule the same rule fires in the `cfg` run (`StepRel.flag`).  The two dispatchers take
  the same route except at `^`, which the hypothesis excludes, and at `#:`, which the core
  configuration rejects (`route_core`, `readTagged_colon`).

  Why `NoTriggers` has a fifth conjunct.  With the first four alone
  `readValue_flag_independent` and `Edn.Properties.C18.core_documents_read_identically` are false: `coreStrings v` speaks
  about the strings of the *result*, but a discarded form `#_ form` is read, checked for
  duplicates and dropped.  Two string literals that the core configuration cannot decode (and
  therefore compares by their raw text) may decode to the same bytes with the Clojure flag:

      #eval read ⟨false,false⟩ {} "#_ #{\"\\f\" \"\\u000c\"} 1".toUTF8.toList   -- value (int 1)
      #eval read ⟨true,false⟩  {} "#_ #{\"\\f\" \"\\u000c\"} 1".toUTF8.toList   -- error DUPLICATE_ELEMENT 3..19
      (also ⟨true,true⟩; the same with `"\7"` and `"\07"`)

  Hence the fifth conjunct: the input has no discard marker `#_`, *or* no backslash in it is
  followed by one of the extension escape letters `f b u 0..7` (`NoExt`; then every string
  literal, discarded or not, decodes identically in all configurations).
-/
import Edn.Proofs.DispatchDiscard
import Edn.Proofs.ReaderInv
import Edn.Proofs.FlagIndepLeaf
import Edn.Proofs.NumberExact
import Edn.Proofs.FlagIndepValue
import Edn.Proofs.IdentSound

namespace Edn.Proofs
open Edn.Model Edn.Spec Edn.Generated
open RejectDoc (cctx)
open RejectDocClj (xctx)

theorem flagOK_numToVal (cfg : Cfg) (h : Hdr) (n : NumVal) (hn : numNoUS n) : flagOK cfg (numToVal h n) := by
  cases n <;> first | exact hn | trivial

theorem readNumberRes_core_ok (cfg : Cfg) (o o' : Opts) (st st' : St) (v : Val) (hs : NumStart st.rest)
    (h : readNumberRes { cfg := Cfg.core, opts := o } st = .ok v st') :
    readNumberRes { cfg := cfg, opts := o' } st = .ok v st' ∧ flagOK cfg v := by
  unfold readNumberRes at h ⊢
  simp only [] at h ⊢
  cases hn : readNumber Cfg.core st.rest with
  | err cur => rw [hn] at h; cases h
  | ok n rest =>
    rw [hn] at h
    obtain ⟨h1, -, h3⟩ := readNumber_core_ok_start cfg _ hs _ _ hn
    rw [h1]
    simp only [] at h ⊢
    cases h
    exact ⟨rfl, flagOK_numToVal _ _ _ h3⟩

def Call6.accCore : Call6 → Prop
  | .s _ _ _ _ _ acc => coreStringsL acc = true
  | .m _ _ _ _ _ ks vs => coreStringsL ks = true ∧ coreStringsL vs = true
  | _ => True

/-- a loop returns its accumulators inside the value -/
theorem run_ok_acc (ctx : Ctx) (f : Nat) : ∀ (c : Call6) (v : Val) (st' : St),
    run ctx f c = .ok v st' → coreStrings v = true → c.accCore := by
  refine run_ind ctx (P := fun _ R => ∀ c v st', R c = .ok v st' → coreStrings v = true → c.accCore)
    (fun _ _ _ h => nomatch h) (fun f ih c v st' h hv => ?_) f
  have hrel := step_rel (ctx := ctx) (R := run ctx f) c
  rw [h] at hrel
  cases c with
  | s d dm kind start st acc =>
    cases hrel with
    | sNext _ hr => exact (coreStringsL_cons.mp (ih _ _ _ hr hv)).2
    | sList | sVec => exact coreStringsL_reverse.mp hv
    | sSet => exact coreStringsL_reverse.mp ((coreStringsL_hasDuplicates _ _).symm.trans hv)
  | m d dm start ns st ks vs =>
    cases hrel with
    | mNext _ _ hr => exact (ih _ _ _ hr hv).imp (coreStringsL_cons.mp · |>.2) (coreStringsL_cons.mp · |>.2)
    | mOk =>
      have hv' := (Bool.and_eq_true _ _).mp hv
      exact ⟨coreStringsL_reverse.mp ((coreStringsL_hasDuplicates _ _).symm.trans hv'.1),
        coreStringsL_reverse.mp hv'.2⟩
  | _ => trivial

/-- an identifier token that starts with `:` is a keyword (or an error), never a symbol, so the
    core configuration rejects `#:` -/
theorem readTagged_colon (ctx : Ctx) (f d : Nat) (dm : Bool) (start : Nat) (st : St) (t : Bytes)
    (hs : st.rest = 0x3A :: t) : ∃ e st', run ctx f (.t d dm start st) = .err e st' := by
  cases f with
  | zero => exact ⟨_, _, run_zero ctx _⟩
  | succ f =>
    rw [run_succ]
    refine step_cases (P := fun r => ∃ e st', r = .err e st') fun r h => ?_
    cases h with
    | tEof | tWs | tIdErr | tNotSym | tCloser | tErr => exact ⟨_, _, rfl⟩
    | tIdCloser _ _ hr => exact absurd (hr ▸ (readIdentifier_leafRes ctx st).closer) nofun
    | tOk _ _ hr =>
      rcases readIdentifier_ok hr with ⟨_, h⟩ | ⟨_, _, h⟩ | ⟨_, _, _, h⟩ | ⟨_, _, _, _, hc⟩
      · cases h
      · cases h
      · cases h
      · rw [hs] at hc; cases hc

/-- the core route is the route of every configuration, `^` and `#:` apart: the flags enter `route` through
    `dispatch` and at the test for `#:` -/
theorem route_core (cfg : Cfg) {d : Nat} {c : UInt8} {cs : Bytes} {rt : Route} (hc : c ≠ 0x5E)
    (h : route Cfg.core d c cs = rt) : route cfg d c cs = rt ∨ rt = .tagged ∧ ∃ t, cs = 0x3A :: t := by
  subst h
  unfold route
  dsimp only
  rw [dispatch_flag cfg hc]
  cases dispatch Cfg.core c with
  | hash =>
    cases cs with
    | nil => exact .inl rfl
    | cons nx cs' =>
      let R (a b : Route) : Prop := a = b ∨ b = .tagged ∧ ∃ t, nx :: cs' = 0x3A :: t
      refine ite_rel (R := R) (fun _ => .inl rfl) fun _ => ite_rel (R := R) (fun _ => .inl rfl) fun _ =>
        ite_rel (R := R) (fun _ => .inl rfl) fun _ => ite_rel (R := R) (fun _ => .inl rfl) fun _ => ?_
      exact ite_ind (P := fun a => R a .tagged)
        (fun h => .inr ⟨rfl, cs', by rw [eq_of_beq (Bool.and_eq_true_iff.mp h).2]⟩) fun _ => .inl rfl
  | _ => exact .inl rfl

/-- how the result `r1` of a configuration is related to the result `r0` of the core
    configuration on the same state: a value whose strings are core strings is matched by a
    value that differs in cache cells only, with the same state; "closer" is matched by
    "closer"; `s`: what the value was read from (that the rest is a suffix of it is `run_suffix`) -/
def RelV (cfg : Cfg) (s : Bytes) (r0 r1 : Res) : Prop :=
  match r0 with
  | .ok v st' => (NoExt s ∨ coreStrings v = true) →
      flagOK cfg v ∧ ∃ v', r1 = .ok v' st' ∧ eraseCache v' = eraseCache v
  | .closer st' => r1 = .closer st'
  | .err _ _ => True

theorem RelV_mono {cfg : Cfg} {s s' : Bytes} {r0 r1 : Res} (h : RelV cfg s r0 r1) (hs : s <:+ s') :
    RelV cfg s' r0 r1 := by
  cases r0 with
  | ok v st' => exact fun hv => h (hv.imp (fun hx => hx.suffix hs) id)
  | closer st' => exact h
  | err e st' => trivial

theorem RelV_of_ok {cfg : Cfg} {s : Bytes} {r0 r1 : Res} (hc : r0.isCloser = false)
    (h : ∀ v st', r0 = .ok v st' → (NoExt s ∨ coreStrings v = true) → RelV cfg s r0 r1) : RelV cfg s r0 r1 := by
  cases r0 with
  | ok v st' => exact fun hv => h v st' rfl hv hv
  | closer st' => cases hc
  | err e st' => trivial

theorem RelV_leaf {cfg : Cfg} {s : Bytes} {r0 r1 : Res} (hc : r0.isCloser = false)
    (h : ∀ v st', r0 = .ok v st' → (NoExt s ∨ coreStrings v = true) →
      r1 = .ok v st' ∧ flagOK cfg v) :
    RelV cfg s r0 r1 := by
  refine RelV_of_ok hc fun v st' e hv => ?_
  obtain ⟨h1, h3⟩ := h v st' e hv
  exact e ▸ fun _ => ⟨h3, v, h1, rfl⟩

theorem RelV_ok {cfg : Cfg} {s : Bytes} {v v' : Val} {st' : St}
    (hg : flagOK cfg v) (he : eraseCache v' = eraseCache v) : RelV cfg s (.ok v st') (.ok v' st') :=
  fun _ => ⟨hg, v', rfl, he⟩

/-- the accumulators of the two runs: equal up to cache cells, and what `hasDuplicates_flag` asks of them -/
structure FlagAcc (cfg : Cfg) (d : Nat) (xs xs' : List Val) : Prop where
  erase : eraseCacheL xs' = eraseCacheL xs
  flag : flagOKL cfg xs
  ok : ∀ x ∈ xs, VOK Cfg.core (d + 1) x
  ok' : ∀ x ∈ xs', VOK cfg (d + 1) x

theorem FlagAcc.nil {cfg : Cfg} {d : Nat} : FlagAcc cfg d [] [] := ⟨rfl, flagOKL_nil cfg, no_mem_nil, no_mem_nil⟩

theorem FlagAcc.cons {cfg : Cfg} {d : Nat} {x x' : Val} {xs xs' : List Val} (h : FlagAcc cfg d xs xs')
    (he : eraseCache x' = eraseCache x) (hg : flagOK cfg x) (hx : VOK Cfg.core (d + 1) x) (hx' : VOK cfg (d + 1) x') :
    FlagAcc cfg d (x :: xs) (x' :: xs') :=
  ⟨eraseCacheL_cons_congr he h.erase, flagOKL_cons cfg hg h.flag, mem_cons_all hx h.ok, mem_cons_all hx' h.ok'⟩

theorem FlagAcc.dup {cfg : Cfg} {d : Nat} {xs xs' : List Val} (h : FlagAcc cfg d xs xs') :
    (hasDuplicates cfg xs'.reverse).1 = (hasDuplicates Cfg.core xs.reverse).1 ∧
    eraseCacheL (hasDuplicates cfg xs'.reverse).2 = eraseCacheL (hasDuplicates Cfg.core xs.reverse).2 ∧
    flagOKL cfg (hasDuplicates Cfg.core xs.reverse).2 :=
  hasDuplicates_flag cfg _ _ (eraseCacheL_reverse_congr h.erase) (Elems_of_VOK (mem_reverse_all h.ok))
    (Elems_of_VOK (mem_reverse_all h.ok')) (flagOKL_reverse cfg h.flag)

/-- the call of the `cfg` run that stands against a call of the core run.  The core configuration enters neither
    `readNsMap` nor `readMeta` (they need the Clojure flag: `route_bytes`), nor `readMap` with a namespace. -/
inductive Twin (cfg : Cfg) : St → Call6 → Call6 → Prop
  | v {d dm st} : d ≤ Tables.maxNestingDepth → Twin cfg st (.v d dm st) (.v d dm st)
  | s {d dm kind start st acc acc'} : d < Tables.maxNestingDepth → FlagAcc cfg d acc acc' →
      Twin cfg st (.s d dm kind start st acc) (.s d dm kind start st acc')
  | m {d dm start st ks vs ks' vs'} : d < Tables.maxNestingDepth → FlagAcc cfg d ks ks' → FlagAcc cfg d vs vs' →
      Twin cfg st (.m d dm start none st ks vs) (.m d dm start none st ks' vs')
  | t {d dm start st} : (d < Tables.maxNestingDepth ∨ st.rest = []) →
      Twin cfg st (.t d dm start st) (.t d dm start st)

theorem Res.ne_closer {r : Res} (h : r.isCloser = false) (st' : St) : r ≠ .closer st' := fun e => by
  rw [e] at h; cases h

theorem readTagged_notCloser (ctx : Ctx) (f d : Nat) (dm : Bool) (start : Nat) (st : St)
    (st' : St) : readTagged ctx f d dm start st ≠ .closer st' :=
  Res.ne_closer (run_noCloser ctx f (c := .t d dm start st) id) st'

section
variable (cfg : Cfg) (o : Opts)

theorem Leaf.read_flag (k : Leaf) {d : Nat} {c : UInt8} {cs : Bytes} (calls : List Call)
    (hb : RouteBytes Cfg.core d c cs (.leaf k)) (hn : NoTrig (c :: cs)) :
    RelV cfg (c :: cs) (k.read (cctx o) { rest := c :: cs, calls := calls })
      (k.read (xctx cfg o) { rest := c :: cs, calls := calls }) := by
  obtain ⟨_, -, l⟩ := (hb.leafCall (cctx o) calls).leaf
  cases k <;> dsimp only [Leaf.read]
  case string =>
    refine RelV_leaf l.closer fun v st' hr hv => ?_
    obtain ⟨hh, dd, e, rfl, hinf⟩ := readString_core_ok o _ _ _ hr
    exact ⟨(readString_flag cfg o o _ hn.2.1).trans hr, flagOK_str cfg _ _ _ (hv.imp (·.infix hinf) id)⟩
  case character =>
    obtain rfl : c = 0x5C := hb
    exact RelV_leaf l.closer fun v st' hr _ => readCharacter_core_ok cfg o o _ _ _ cs rfl hn.2.2.1 hn.2.2.2.1 hr
  case symbolic => exact RelV_leaf l.closer fun v st' hr _ => ⟨hr, flagOK_of_tok cfg ((readSymbolic_spec _ _).kind v st' hr)⟩
  case number => exact RelV_leaf l.closer fun v st' hr _ => readNumberRes_core_ok cfg o o _ _ _ ⟨c, cs, rfl, hb⟩ hr
  case identifier => exact RelV_leaf l.closer fun v st' hr _ => ⟨hr, flagOK_of_tok cfg ((readIdentifier_spec _ _).kind v st' hr)⟩

theorem RelV_rule {cfg : Cfg} {s : Bytes} {r0 r1 : Res} {ctx : Ctx} {R : Call6 → Res} {c1 : Call6}
    (h1 : StepRel ctx R c1 r1) (h : RelV cfg s r0 r1) : RelV cfg s r0 (step ctx R c1) := h1.eq ▸ h

/-- what `run_flag` shows of the two oracles -/
def Fi (R0 R1 : Call6 → Res) : Prop :=
  ∀ st c0 c1, Twin cfg st c0 c1 → NoTrig st.rest → RelV cfg st.rest (R0 c0) (R1 c1)

theorem StepRel.flag (hreg : o.registry = none) {f : Nat} (ih : Fi cfg (run (cctx o) f) (run (xctx cfg o) f))
    {st : St} {c0 c1 : Call6} {r0 : Res} (htw : Twin cfg st c0 c1) (hn : NoTrig st.rest)
    (h : StepRel (cctx o) (run (cctx o) f) c0 r0) :
    RelV cfg st.rest r0 (step (xctx cfg o) (run (xctx cfg o) f) c1) := by
  -- the induction hypothesis as the arms use it: for a value of the core run, with what it brings (`val`), for a
  -- closing delimiter (`clo`), for the call a rule hands over (`hand`)
  have val {d dm st x st1} (hv : run (cctx o) f (.v d dm st) = .ok x st1) (hd : d ≤ Tables.maxNestingDepth)
      (hn : NoTrig st.rest) (hcs : NoExt st.rest ∨ coreStrings x = true) :
      st1.rest <:+ st.rest ∧ flagOK cfg x ∧ ∃ x', run (xctx cfg o) f (.v d dm st) = .ok x' st1 ∧
        eraseCache x' = eraseCache x ∧ VOK Cfg.core d x ∧ VOK cfg d x' := by
    obtain ⟨h2, x', h3, h4⟩ := (hv ▸ ih _ _ _ (.v hd) hn : RelV cfg st.rest (.ok x st1) _) hcs
    exact ⟨(hv ▸ run_suffix (cctx o) f (.v d dm st) :), h2, x', h3, h4, readValue_inv (cctx o) hreg f d dm st st1 x hd hv,
      readValue_inv (xctx cfg o) hreg f d dm st st1 x' hd h3⟩
  have clo {d dm st st1} (hv : run (cctx o) f (.v d dm st) = .closer st1) (hd : d ≤ Tables.maxNestingDepth)
      (hn : NoTrig st.rest) : run (xctx cfg o) f (.v d dm st) = .closer st1 :=
    (hv ▸ ih _ _ _ (.v hd) hn : RelV cfg st.rest (.closer st1) _)
  have hand {st c c' r s} (hr : run (cctx o) f c = r) (htw : Twin cfg st c c') (hn : NoTrig st.rest) (hs : st.rest <:+ s) :
      RelV cfg s r (run (xctx cfg o) f c') := hr ▸ RelV_mono (ih _ _ _ htw hn) hs
  cases htw with
  | @v d dm _ hd =>
    have pre {c cs rt} (hw : skipWs st.rest = c :: cs) (hrt : route Cfg.core d c cs = rt) :
        c :: cs <:+ st.rest ∧ NoTrig (c :: cs) ∧ RouteBytes Cfg.core d c cs rt ∧
          (route cfg d c cs = rt ∨ rt = .tagged ∧ ∃ t, cs = 0x3A :: t) := by
      have hsuf : c :: cs <:+ st.rest := hw ▸ skipWs_suffix st.rest
      have hn' := hn.suffix hsuf
      exact ⟨hsuf, hn', route_bytes hrt, route_core cfg (fun hc => hn'.1 (hc ▸ List.mem_cons_self)) hrt⟩
    cases h with
    | vEof | vDeep | vStray | vSkipCloser | vSkipErr => trivial
    | vLeaf hw hrt =>
      obtain ⟨hsuf, hn', hb, hrt1⟩ := pre hw hrt
      exact RelV_rule (.vLeaf hw (hrt1.resolve_right (nomatch ·.1)))
        (RelV_mono (Leaf.read_flag cfg o _ _ hb hn') hsuf)
    | vCloser hw hrt =>
      exact RelV_rule (.vCloser hw ((pre hw hrt).2.2.2.resolve_right (nomatch ·.1))) rfl
    | vSeq hw hrt hr =>
      obtain ⟨hsuf, -, ok, hrt1⟩ := pre hw hrt
      have hs := (ok.seq_le.trans (List.suffix_cons _ _)).trans hsuf
      exact RelV_rule (.vSeq hw (hrt1.resolve_right (nomatch ·.1)) rfl) (hand hr (.s ok.1 .nil) (hn.suffix hs) hs)
    | vMap hw hrt hr =>
      obtain ⟨hsuf, -, ok, hrt1⟩ := pre hw hrt
      have hs := (List.suffix_cons _ _).trans hsuf
      exact RelV_rule (.vMap hw (hrt1.resolve_right (nomatch ·.1)) rfl) (hand hr (.m ok.1 .nil .nil) (hn.suffix hs) hs)
    | vNsmap _ hrt | vMeta _ hrt => exact nomatch (route_bytes hrt).2.1
    | @vTagged _ _ _ c cs _ hw hrt hr =>
      obtain ⟨hsuf, -, ok, hrt1 | ⟨-, t, rfl⟩⟩ := pre hw hrt
      · have hs := (List.suffix_cons _ _).trans hsuf
        exact RelV_rule (.vTagged hw hrt1 rfl) (hand hr (.t ok.2.1) (hn.suffix hs) hs)
      · -- `#:` is a namespaced map with the Clojure flag and an error in the core configuration
        obtain ⟨e, st', he⟩ := readTagged_colon (cctx o) f d dm (c :: 0x3A :: t).length ⟨0x3A :: t, st.calls⟩ t rfl
        rw [← hr, he]
        trivial
    | @vSkipOk _ _ _ c cs s _ _ _ hw hrt hv hr =>
      -- `#_`: the discarded form may hold strings that only decode alike because of `NoExt`
      obtain ⟨hsuf, hn', ⟨hlt, rfl, rfl⟩, hrt1⟩ := pre hw hrt
      have hs : s <:+ 0x23 :: 0x5F :: s := (List.suffix_cons _ _).trans (List.suffix_cons _ _)
      have hne : NoExt (0x23 :: 0x5F :: s) := hn'.2.2.2.2.resolve_left fun h' => h' ⟨[], s, rfl⟩
      obtain ⟨hsuf1, -, x', hx', -⟩ := val hv hlt (hn'.suffix hs) (.inl (hne.suffix hs))
      have hs1 := (hsuf1.trans hs).trans hsuf
      exact RelV_rule (.vSkipOk hw (hrt1.resolve_right (nomatch ·.1)) hx' rfl) (hand hr (.v hd) (hn.suffix hs1) hs1)
  | @s d dm kind start _ acc acc' hd ha =>
    cases h with
    | sErr | sStray | sDup => trivial
    | sNext hv hr =>
      refine RelV_of_ok (by rw [← hr]; exact run_noCloser _ _ id) fun v st' e hcs => ?_
      obtain ⟨hsuf, hgx, x', hx', hex, h0, h1⟩ := val hv hd hn <| hcs.imp id fun hg =>
        (coreStringsL_cons.mp (run_ok_acc _ _ _ _ _ (hr.trans e) hg)).1
      exact RelV_rule (.sNext hx' rfl) (hand hr (.s hd (ha.cons hex hgx h0 h1)) (hn.suffix hsuf) hsuf)
    | sList hv hs hk =>
      exact RelV_rule (.sList (clo hv hd hn) hs hk) <| RelV_ok (flagOKL_reverse cfg ha.flag)
        (congrArg (Val.list _ _) (eraseCacheL_reverse_congr ha.erase))
    | sVec hv hs hk =>
      exact RelV_rule (.sVec (clo hv hd hn) hs hk) <| RelV_ok (flagOKL_reverse cfg ha.flag)
        (congrArg (Val.vec _ _) (eraseCacheL_reverse_congr ha.erase))
    | sSet hv hs hk0 hk1 hdup =>
      obtain ⟨hd1, hd2, hd3⟩ := ha.dup
      exact RelV_rule (.sSet (clo hv hd hn) hs hk0 hk1 (hd1.trans hdup)) <| RelV_ok hd3 (congrArg (Val.set _ _) hd2)
  | @m d dm start _ ks vs ks' vs' hd hak hav =>
    cases h with
    | mErr | mErr₂ | mOdd | mEof | mStray | mDup => trivial
    | @mNext _ _ _ _ _ _ _ k st1 x st2 _ hv hv2 hr =>
      refine RelV_of_ok (by rw [← hr]; exact run_noCloser _ _ id) fun v st' e hcs => ?_
      have hck : NoExt st.rest ∨ (coreStrings k = true ∧ coreStrings x = true) := hcs.imp id fun hg =>
        (run_ok_acc _ _ _ _ _ (hr.trans e) hg).imp (coreStringsL_cons.mp · |>.1) (coreStringsL_cons.mp · |>.1)
      obtain ⟨hsuf, hgk, k', hk', hek, hk0, hk1⟩ := val hv hd hn (hck.imp id (·.1))
      have hn1 := hn.suffix hsuf
      obtain ⟨hsuf2, hgx, x', hx', hex, hx0, hx1⟩ := val hv2 hd hn1 (hck.imp (·.suffix hsuf) (·.2))
      exact RelV_rule (.mNext hk' hx' rfl) (hand hr (.m hd (hak.cons hek hgk hk0 hk1) (hav.cons hex hgx hx0 hx1))
        (hn1.suffix hsuf2) (hsuf2.trans hsuf))
    | mOk hv hs hdup =>
      obtain ⟨hd1, hd2, hd3⟩ := hak.dup
      refine RelV_rule (.mOk (clo hv hd hn) hs (hd1.trans hdup)) <| RelV_ok ⟨hd3, flagOKL_reverse cfg hav.flag⟩ ?_
      show Val.map _ _ (eraseCacheL _) (eraseCacheL _) = Val.map _ _ (eraseCacheL _) (eraseCacheL _)
      rw [hd2, eraseCacheL_reverse_congr hav.erase]
  | @t d dm start _ hd =>
    cases h with
    | tEof | tWs | tIdErr | tNotSym | tCloser | tErr => trivial
    | tIdCloser _ _ hr => exact absurd (hr ▸ (readIdentifier_leafRes (cctx o) st).closer) nofun
    | tOk hs hc hr hv =>
      have hlt : d < Tables.maxNestingDepth := hd.resolve_right (hs ▸ List.cons_ne_nil _ _)
      have hsuf1 := readIdentifier_rest_suffix hr
      rw [tagOut_none hreg]
      refine fun hcs => ?_
      obtain ⟨-, hgv, v', hv', hev, -⟩ := val hv hlt (hn.suffix hsuf1) (hcs.imp (·.suffix hsuf1) id)
      rw [(StepRel.tOk (ctx := xctx cfg o) hs hc hr hv').eq, tagOut_none hreg]
      exact ⟨hgv, _, rfl, congrArg (Val.tagged _ _ _) hev⟩

theorem run_flag (hreg : o.registry = none) (f : Nat) : Fi cfg (run (cctx o) f) (run (xctx cfg o) f) := by
  induction f with
  | zero => intro _ c0 _ _ _; rw [run_zero]; trivial
  | succ f ih =>
    intro st c0 c1 htw hn
    rw [run_succ, run_succ]
    exact StepRel.flag cfg o hreg ih htw hn (step_rel c0)

end

/-- the simulation, for `readValue`: the strings of the result need not be core strings when
    the input has no extension escape at all; the rest is a suffix of the input and the
    value one that every configuration interprets alike -/
theorem readValue_flag (cfg : Cfg) (opts : Opts) (hreg : opts.registry = none)
    (f d : Nat) (dm : Bool) (st st' : St) (v : Val)
    (hd : d ≤ Tables.maxNestingDepth) (hn : NoTrig st.rest)
    (h : readValue { cfg := Cfg.core, opts := opts } f d dm st = .ok v st')
    (hs : NoExt st.rest ∨ coreStrings v = true) :
    st'.rest <:+ st.rest ∧ flagOK cfg v ∧
    ∃ v', readValue { cfg := cfg, opts := opts } f d dm st = .ok v' st' ∧ eraseCache v' = eraseCache v :=
  ⟨(readValue_rest_suffix _ hreg f d dm st st' v h).1, (h ▸ run_flag cfg opts hreg f _ _ _ (.v hd) hn : RelV cfg st.rest (.ok v st') _) hs⟩

/-- byte patterns that only an extension gives a meaning to and that core EDN nevertheless
    accepts in some other role: `^` (metadata marker vs. symbol constituent), the
    triple-quote-newline opener (text block vs. empty string followed by a string), and a
    backslash directly followed by a form feed or backspace byte (rejected as a character
    literal by the Clojure flag).  Every other extension syntax (`#:`, `0x`, leading zeros,
    `NrD`, `/` or `_` in numbers, `\formfeed`, `\oNNN`, long `\u` escapes) is *rejected* by the
    core configuration, so "the core configuration accepts the document" already excludes it.
    Fifth conjunct: see the head of the file (`NoExt s`: no backslash is followed by `f`, `b`,
    `u` or an octal digit, `extEscape`). -/
def NoTriggers (s : Bytes) : Prop :=
  0x5E ∉ s ∧ ¬ [0x22, 0x22, 0x22, 0x0A] <:+: s ∧ ¬ [0x5C, 0x0C] <:+: s ∧ ¬ [0x5C, 0x08] <:+: s ∧
  (¬ [0x23, 0x5F] <:+: s ∨ NoExt s)

theorem NoTriggers.suffix {s t : Bytes} (h : NoTriggers s) (hs : t <:+ s) : NoTriggers t :=
  NoTrig.suffix h hs

/-- C18.  If, in the core configuration, `edn_read_value` returns a value for a
    suffix without trigger patterns, and every string in that value uses only core escapes,
    then every configuration returns the same value up to cache cells (whose contents depend
    on the numbering of the type enumeration), the same remaining input and the same call
    log (same options, same depth, same discard mode; no handler registry, since handlers
    are arbitrary functions of the value incl. its cache cells). -/
theorem readValue_flag_independent (cfg : Cfg) (opts : Opts) (hreg : opts.registry = none)
    (f d : Nat) (dm : Bool) (st st' : St) (v : Val)
    (hd : d ≤ Edn.Generated.Tables.maxNestingDepth)
    (hn : NoTriggers st.rest)
    (h : readValue { cfg := Cfg.core, opts := opts } f d dm st = .ok v st')
    (hs : Edn.Spec.coreStrings v = true) :
    ∃ v', readValue { cfg := cfg, opts := opts } f d dm st = .ok v' st' ∧
      Edn.Spec.eraseCache v' = Edn.Spec.eraseCache v :=
  (readValue_flag cfg opts hreg f d dm st st' v hd hn h (.inr hs)).2.2

end Edn.Proofs
