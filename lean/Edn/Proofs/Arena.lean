/-
  C15 (allocator half): every region `edn_arena_alloc` hands out is
  8-aligned, at least as large as requested, inside its block, disjoint from every other
  region, and is never moved or shrunk by later requests; requests that cannot be met
  (including sizes whose rounding would wrap around) return NULL and change nothing.
-/
import Edn.Model.Arena

namespace Edn.Proofs
open Edn.Model Edn.Generated

theorem roundUp8_ge (n : Nat) : n ≤ roundUp8 n := by unfold roundUp8; omega
theorem roundUp8_mod (n : Nat) : roundUp8 n % 8 = 0 := Nat.mul_mod_left _ _
theorem roundUp8_lt (n : Nat) : roundUp8 n < n + 8 := by unfold roundUp8; omega

/-- the size test of `edn_arena_alloc` excludes every request whose rounded size plus the
    block header would not fit in a `size_t` -/
theorem no_wrap (n : Nat) (h : ¬ n > sizeMax - 7 - Tables.sizeofArenaBlock) :
    roundUp8 n + Tables.sizeofArenaBlock ≤ sizeMax := by
  have := roundUp8_lt n
  have hs : Tables.sizeofArenaBlock ≤ 4096 := by decide
  unfold sizeMax at h ⊢
  omega

def Inv (a : Arena) : Prop := ∀ b ∈ a.blocks, b.used ≤ b.cap ∧ b.used % 8 = 0

theorem create_inv : Inv Arena.create := by
  intro b hb
  simp [Arena.blocks, Arena.create] at hb
  subst hb
  exact ⟨by simp, by simp⟩

def RegionIn (a : Arena) (r : Region) : Prop :=
  ∃ b, a.blocks[r.blk]? = some b ∧ r.off + r.len ≤ b.used

def Disjoint (r s : Region) : Prop := r.blk ≠ s.blk ∨ r.off + r.len ≤ s.off ∨ s.off + s.len ≤ r.off

def Extends (a a' : Arena) : Prop :=
  a.blocks.length ≤ a'.blocks.length ∧
  ∀ (i : Nat) (b : Block), a.blocks[i]? = some b → ∃ b' : Block, a'.blocks[i]? = some b' ∧ b'.cap = b.cap ∧ b.used ≤ b'.used

theorem Extends.refl (a : Arena) : Extends a a := ⟨Nat.le_refl _, fun _ b h => ⟨b, h, rfl, Nat.le_refl _⟩⟩

theorem Extends.trans {a b c : Arena} (h1 : Extends a b) (h2 : Extends b c) : Extends a c := by
  refine ⟨Nat.le_trans h1.1 h2.1, ?_⟩
  intro i x hx
  obtain ⟨y, hy, hcy, huy⟩ := h1.2 i x hx
  obtain ⟨z, hz, hcz, huz⟩ := h2.2 i y hy
  exact ⟨z, hz, by rw [hcz, hcy], Nat.le_trans huy huz⟩

theorem RegionIn.mono {a a' : Arena} {r : Region} (h : RegionIn a r) (he : Extends a a') : RegionIn a' r := by
  obtain ⟨b, hb, hr⟩ := h
  obtain ⟨b', hb', _, hu⟩ := he.2 _ _ hb
  exact ⟨b', hb', Nat.le_trans hr hu⟩

theorem RegionIn.in_cap {a : Arena} {r : Region} (h : RegionIn a r) (hinv : Inv a) :
    ∃ b, a.blocks[r.blk]? = some b ∧ r.off + r.len ≤ b.cap := by
  obtain ⟨b, hb, hr⟩ := h
  exact ⟨b, hb, Nat.le_trans hr (hinv b (List.mem_of_getElem? hb)).1⟩

theorem blocks_cases (a : Arena) {i : Nat} {b : Block} (h : a.blocks[i]? = some b) :
    (i < a.prev.length ∧ a.prev[i]? = some b) ∨ (i = a.prev.length ∧ b = a.cur) := by
  rw [Arena.blocks, List.getElem?_append] at h
  split at h
  · exact .inl ⟨‹_›, h⟩
  · obtain ⟨hi, hb⟩ := List.getElem?_eq_some_iff.mp h
    rw [List.length_singleton] at hi
    exact .inr ⟨by omega, by simpa using hb.symm⟩

theorem blocks_some_le (a : Arena) {i : Nat} {b : Block} (h : a.blocks[i]? = some b) : i ≤ a.prev.length :=
  (blocks_cases a h).elim (fun h => Nat.le_of_lt h.1) (fun h => Nat.le_of_eq h.1)

theorem alloc_fast (m : Nat → Bool) (a : Arena) (n : Nat)
    (hbig : ¬ n > sizeMax - 7 - Tables.sizeofArenaBlock) (hfit : roundUp8 n ≤ a.cur.cap - a.cur.used) :
    a.alloc m n = (some ⟨a.prev.length, a.cur.used, roundUp8 n⟩,
      { a with cur := { a.cur with used := a.cur.used + roundUp8 n } }) := by
  unfold Arena.alloc; simp only [hbig, ↓reduceIte, hfit]

def slowBlockSize (a : Arena) (n : Nat) : Nat :=
  if roundUp8 n > a.nextBlockSize then roundUp8 n else a.nextBlockSize

def slowNext (a : Arena) : Nat :=
  if a.nextBlockSize < Tables.arenaLargeSize then
    (if a.nextBlockSize * 2 > Tables.arenaLargeSize then Tables.arenaLargeSize else a.nextBlockSize * 2)
  else a.nextBlockSize

theorem alloc_slow_ok (m : Nat → Bool) (a : Arena) (n : Nat)
    (hbig : ¬ n > sizeMax - 7 - Tables.sizeofArenaBlock) (hfit : ¬ roundUp8 n ≤ a.cur.cap - a.cur.used)
    (hm : m (Tables.sizeofArenaBlock + slowBlockSize a n) = true) :
    a.alloc m n = (some ⟨a.prev.length + 1, 0, roundUp8 n⟩,
      { prev := a.prev ++ [a.cur], cur := ⟨slowBlockSize a n, roundUp8 n⟩, nextBlockSize := slowNext a }) := by
  unfold Arena.alloc slowBlockSize slowNext at *
  simp only [hbig, ↓reduceIte, hfit, hm, Bool.not_true, Bool.false_eq_true]

theorem alloc_fail (m : Nat → Bool) (a : Arena) (n : Nat)
    (h : n > sizeMax - 7 - Tables.sizeofArenaBlock ∨
         (¬ roundUp8 n ≤ a.cur.cap - a.cur.used ∧ m (Tables.sizeofArenaBlock + slowBlockSize a n) = false)) :
    a.alloc m n = (none, a) := by
  unfold Arena.alloc slowBlockSize at *
  rcases h with h | ⟨h1, h2⟩
  · simp only [h, ↓reduceIte]
  · by_cases hbig : n > sizeMax - 7 - Tables.sizeofArenaBlock
    · simp only [hbig, ↓reduceIte]
    · simp only [hbig, ↓reduceIte, h1, h2, Bool.not_false]

theorem fast_spec (a : Arena) (hinv : Inv a) (sz : Nat) (h8 : sz % 8 = 0)
    (hfit : sz ≤ a.cur.cap - a.cur.used) (a' : Arena)
    (hprev : a'.prev = a.prev) (hcur : a'.cur = ⟨a.cur.cap, a.cur.used + sz⟩) :
    Inv a' ∧ Extends a a' ∧ a.cur.used % 8 = 0 ∧ RegionIn a' ⟨a.prev.length, a.cur.used, sz⟩ ∧
    ∀ s, RegionIn a s → Disjoint s ⟨a.prev.length, a.cur.used, sz⟩ := by
  obtain ⟨hcu, hcm⟩ := hinv a.cur (List.mem_append_right _ (List.mem_singleton_self _))
  have hbl : a'.blocks = a.prev ++ [⟨a.cur.cap, a.cur.used + sz⟩] := by rw [Arena.blocks, hprev, hcur]
  have hlast : a'.blocks[a.prev.length]? = some ⟨a.cur.cap, a.cur.used + sz⟩ := by rw [hbl]; simp
  have hle : a.cur.used + sz ≤ a.cur.cap := by rw [Nat.add_comm]; exact Nat.add_le_of_le_sub hcu hfit
  refine ⟨?_, ⟨?_, ?_⟩, hcm, ⟨_, hlast, Nat.le_refl _⟩, ?_⟩
  · intro b hb
    rw [hbl] at hb
    rcases List.mem_append.mp hb with hb | hb
    · exact hinv b (List.mem_append_left _ hb)
    · rw [List.mem_singleton.mp hb]
      exact ⟨hle, by show (a.cur.used + sz) % 8 = 0; rw [Nat.add_mod, hcm, h8]⟩
  · rw [hbl, Arena.blocks, List.length_append, List.length_append]; exact Nat.le_refl _
  · intro i b hb
    rcases blocks_cases a hb with ⟨hi, hp⟩ | ⟨rfl, rfl⟩
    · exact ⟨b, by rw [hbl, List.getElem?_append_left hi]; exact hp, rfl, Nat.le_refl _⟩
    · exact ⟨_, hlast, rfl, Nat.le_add_right _ _⟩
  · intro s ⟨b, hb, hs⟩
    rcases blocks_cases a hb with ⟨hi, _⟩ | ⟨_, rfl⟩
    · exact .inl (Nat.ne_of_lt hi)
    · exact .inr (.inl hs)

theorem slow_spec (a : Arena) (hinv : Inv a) (sz bs : Nat) (h8 : sz % 8 = 0) (hbs : sz ≤ bs) (a' : Arena)
    (hprev : a'.prev = a.prev ++ [a.cur]) (hcur : a'.cur = ⟨bs, sz⟩) :
    Inv a' ∧ Extends a a' ∧ RegionIn a' ⟨a.prev.length + 1, 0, sz⟩ ∧
    ∀ s, RegionIn a s → Disjoint s ⟨a.prev.length + 1, 0, sz⟩ := by
  have hbl : a'.blocks = a.blocks ++ [⟨bs, sz⟩] := by rw [Arena.blocks, hprev, hcur]; rfl
  have hlast : a'.blocks[a.prev.length + 1]? = some ⟨bs, sz⟩ := by rw [hbl]; simp [Arena.blocks]
  refine ⟨?_, ⟨by rw [hbl, List.length_append]; exact Nat.le_add_right _ _, ?_⟩,
    ⟨_, hlast, by rw [Nat.zero_add]; exact Nat.le_refl _⟩, ?_⟩
  · intro b hb
    rw [hbl] at hb
    rcases List.mem_append.mp hb with hb | hb
    · exact hinv b hb
    · rw [List.mem_singleton.mp hb]; exact ⟨hbs, h8⟩
  · intro i b hb
    exact ⟨b, by rw [hbl, List.getElem?_append_left (List.getElem?_eq_some_iff.mp hb).1]; exact hb, rfl, Nat.le_refl _⟩
  · intro s ⟨b, hb, _⟩
    exact .inl (Nat.ne_of_lt (Nat.lt_succ_of_le (blocks_some_le a hb)))

theorem alloc_spec (m : Nat → Bool) (a : Arena) (n : Nat) (hinv : Inv a) :
    Inv (a.alloc m n).2 ∧ Extends a (a.alloc m n).2 ∧
    ((a.alloc m n).1 = none → (a.alloc m n).2 = a) ∧
    (∀ g, (a.alloc m n).1 = some g →
        g.off % 8 = 0 ∧ n ≤ g.len ∧ RegionIn (a.alloc m n).2 g ∧
        (∃ b, (a.alloc m n).2.blocks[g.blk]? = some b ∧ g.off + g.len ≤ b.cap) ∧
        ∀ s, RegionIn a s → Disjoint s g) := by
  by_cases hbig : n > sizeMax - 7 - Tables.sizeofArenaBlock
  · rw [alloc_fail m a n (Or.inl hbig)]
    exact ⟨hinv, Extends.refl a, fun _ => rfl, nofun⟩
  · by_cases hfit : roundUp8 n ≤ a.cur.cap - a.cur.used
    · rw [alloc_fast m a n hbig hfit]
      obtain ⟨h1, h2, h3, h4, h6⟩ := fast_spec a hinv (roundUp8 n) (roundUp8_mod n) hfit
        { a with cur := { a.cur with used := a.cur.used + roundUp8 n } } rfl rfl
      exact ⟨h1, h2, nofun, fun g hg => by cases hg; exact ⟨h3, roundUp8_ge n, h4, h4.in_cap h1, h6⟩⟩
    · by_cases hm : m (Tables.sizeofArenaBlock + slowBlockSize a n) = true
      · rw [alloc_slow_ok m a n hbig hfit hm]
        obtain ⟨h1, h2, h4, h6⟩ := slow_spec a hinv (roundUp8 n) (slowBlockSize a n)
          (roundUp8_mod n) (by unfold slowBlockSize; split <;> omega)
          { prev := a.prev ++ [a.cur], cur := ⟨slowBlockSize a n, roundUp8 n⟩, nextBlockSize := slowNext a } rfl rfl
        exact ⟨h1, h2, nofun, fun g hg => by cases hg; exact ⟨rfl, roundUp8_ge n, h4, h4.in_cap h1, h6⟩⟩
      · rw [alloc_fail m a n (Or.inr ⟨hfit, by simpa using hm⟩)]
        exact ⟨hinv, Extends.refl a, fun _ => rfl, nofun⟩

/-- the ghost history of a run: regions handed out so far -/
def regionsOf (rs : List (Option Region)) : List Region := rs.filterMap id

theorem arenaRun_spec (m : Nat → Bool) : ∀ (ns : List Nat) (a : Arena) (old : List Region), Inv a →
    (∀ r ∈ old, RegionIn a r) → old.Pairwise Disjoint →
    let (rs, a') := Arena.run m a ns
    Inv a' ∧ Extends a a' ∧
    (∀ r ∈ old ++ regionsOf rs, RegionIn a' r) ∧
    (old ++ regionsOf rs).Pairwise Disjoint ∧
    (∀ r ∈ regionsOf rs, r.off % 8 = 0) ∧
    (rs.length = ns.length) ∧
    (∀ i (hi : i < ns.length) g, rs[i]? = some (some g) → ns[i] ≤ g.len) := by
  intro ns
  induction ns with
  | nil =>
    intro a old hinv hin hd
    simp only [Arena.run, regionsOf, List.filterMap_nil, List.append_nil]
    exact ⟨hinv, Extends.refl a, hin, hd, nofun, rfl, nofun⟩
  | cons n ns ih =>
    intro a old hinv hin hd
    simp only [Arena.run]
    have hs := alloc_spec m a n hinv
    generalize a.alloc m n = res at hs
    obtain ⟨r, a1⟩ := res
    obtain ⟨hinv1, hext1, -, hsome⟩ := hs
    -- the region of this request, if any, joins the earlier ones
    have hold1 : ∀ x ∈ old ++ regionsOf [r], RegionIn a1 x := by
      intro x hx
      rcases List.mem_append.mp hx with hx | hx
      · exact (hin x hx).mono hext1
      · cases r with
        | none => cases hx
        | some g => rw [List.mem_singleton.mp hx]; exact (hsome g rfl).2.2.1
    have hd1 : (old ++ regionsOf [r]).Pairwise Disjoint := by
      cases r with
      | none => rw [regionsOf, List.filterMap_cons_none rfl, List.filterMap_nil, List.append_nil]; exact hd
      | some g =>
        refine List.pairwise_append.mpr ⟨hd, List.pairwise_singleton _ _, fun x hx y hy => ?_⟩
        rw [List.mem_singleton.mp hy]
        exact (hsome g rfl).2.2.2.2 x (hin x hx)
    have := ih a1 (old ++ regionsOf [r]) hinv1 hold1 hd1
    generalize Arena.run m a1 ns = res2 at this
    obtain ⟨rs, a2⟩ := res2
    obtain ⟨i1, i2, i3, i4, i5, i6, i7⟩ := this
    have hcons : old ++ regionsOf (r :: rs) = old ++ regionsOf [r] ++ regionsOf rs := by
      cases r <;> simp [regionsOf]
    refine ⟨i1, hext1.trans i2, by rw [hcons]; exact i3, by rw [hcons]; exact i4, ?_, congrArg (· + 1) i6, ?_⟩
    · intro x hx
      cases r with
      | none => exact i5 x hx
      | some g =>
        rcases List.mem_cons.mp hx with rfl | hx
        · exact (hsome x rfl).1
        · exact i5 x hx
    · intro i hi g hg
      cases i with
      | zero => exact (hsome g (Option.some.inj hg)).2.1
      | succ k => exact i7 k (Nat.lt_of_succ_lt_succ hi) g hg

end Edn.Proofs
