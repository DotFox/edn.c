/-
  C16, the collection builder: under *every* schedule of failing allocation requests it hands back
  either NULL or a heap copy of exactly the elements added (never its own in-frame storage, never a
  partial array).
-/
import Edn.Model.Builder

namespace Edn.Proofs
open Edn.Model

theorem nextAlloc_fst {s : List Bool} (h : (nextAlloc s).1 = false) : false ∈ s := by
  cases s with
  | nil => simp [nextAlloc] at h
  | cons b r =>
    simp only [nextAlloc] at h
    subst h
    exact List.mem_cons_self

theorem nextAlloc_snd {s : List Bool} (h : false ∈ (nextAlloc s).2) : false ∈ s := by
  cases s with
  | nil => simp [nextAlloc] at h
  | cons b r =>
    simp only [nextAlloc] at h
    exact List.mem_cons_of_mem _ h

theorem nextAlloc_nofault {s : List Bool} (h : false ∉ s) : (nextAlloc s).1 = true := by
  cases hq : (nextAlloc s).1 with
  | true => rfl
  | false => exact absurd (nextAlloc_fst hq) h

variable {α : Type}

theorem add_spec (grow : Nat → Nat) (b : Builder α) (x : α) (s : List Bool) :
    match b.add grow x s with
    | (none, _) => false ∈ s
    | (some b', s') => b'.elems = b.elems ++ [x] ∧ (false ∈ s' → false ∈ s) := by
  unfold Builder.add
  by_cases hc : b.elems.length ≥ b.cap
  · rw [if_pos hc]
    rcases hq : nextAlloc s with ⟨ok, r⟩
    cases ok
    · exact nextAlloc_fst (by rw [hq])
    · exact ⟨rfl, fun hm => nextAlloc_snd (by rw [hq]; exact hm)⟩
  · rw [if_neg hc]
    exact ⟨rfl, id⟩

theorem addAll_spec (grow : Nat → Nat) : ∀ (ys : List α) (b : Builder α) (i : Nat) (s : List Bool),
    match Builder.addAll grow b ys i s with
    | (.inl j, _) => j < i + ys.length ∧ false ∈ s
    | (.inr b', s') => b'.elems = b.elems ++ ys ∧ (false ∈ s' → false ∈ s)
  | [], b, i, s => ⟨(List.append_nil _).symm, id⟩
  | x :: ys, b, i, s => by
    rw [Builder.addAll]
    have ha := add_spec grow b x s
    rcases hq : b.add grow x s with ⟨o, r⟩
    rw [hq] at ha
    cases o with
    | none => exact ⟨by simp, ha⟩
    | some b1 =>
      have ih := addAll_spec grow ys b1 (i + 1) r
      simp only
      rcases hall : Builder.addAll grow b1 ys (i + 1) r with ⟨o2, s2⟩
      rw [hall] at ih
      cases o2 with
      | inl j => exact ⟨by have := ih.1; simp only [List.length_cons]; omega, ha.2 ih.2⟩
      | inr b' => exact ⟨by rw [ih.1, ha.1]; simp, fun hm => ha.2 (ih.2 hm)⟩

theorem init_spec (initCap : Nat) (s : List Bool) :
    (Builder.init (α := α) initCap s).1.elems = [] ∧
    (false ∈ (Builder.init (α := α) initCap s).2 → false ∈ s) ∧
    (false ∉ s → (Builder.init (α := α) initCap s).1.store = if initCap ≤ 8 then .stack else .heap) := by
  unfold Builder.init
  by_cases hc : initCap ≤ 8
  · simp only [if_pos hc]
    exact ⟨by first | rfl | trivial, id, fun _ => by first | rfl | trivial⟩
  · simp only [if_neg hc]
    cases hq : nextAlloc s with
    | mk ok r =>
      cases ok with
      | true =>
        exact ⟨rfl, fun hm => nextAlloc_snd (by rw [hq]; exact hm), fun _ => rfl⟩
      | false =>
        exact ⟨rfl, fun hm => nextAlloc_snd (by rw [hq]; exact hm),
          fun hn => absurd (nextAlloc_fst (by rw [hq])) hn⟩

theorem finish_spec (b : Builder α) (s : List Bool) :
    (b.finish s).1 = b.elems.length ∧
    (∀ st zs, (b.finish s).2.1 = some (st, zs) → st = .heap ∧ zs = b.elems) ∧
    ((b.finish s).2.1 = none → b.elems = [] ∨ false ∈ s) ∧
    (false ∉ s → (b.finish s).2.1 =
      if b.elems = [] ∧ b.store = .stack then none else some (.heap, b.elems)) := by
  unfold Builder.finish
  cases hst : b.store with
  | heap =>
    simp only
    refine ⟨by first | rfl | trivial, ?_, ?_, ?_⟩
    · intro st zs h
      simp only [Option.some.injEq, Prod.mk.injEq] at h
      exact ⟨h.1.symm, h.2.symm⟩
    · intro h; simp at h
    · intro _; simp
  | stack =>
    simp only
    by_cases he : b.elems = []
    · simp [he]
    · have hl : (b.elems.length == 0) = false := by
        cases hb : b.elems with
        | nil => exact absurd hb he
        | cons _ _ => rfl
      simp only [hl, Bool.false_eq_true, if_false]
      cases hq : nextAlloc s with
      | mk ok r =>
        cases ok with
        | true =>
          simp only [if_true]
          refine ⟨by first | rfl | trivial, ?_, ?_, ?_⟩
          · intro st zs h
            simp only [Option.some.injEq, Prod.mk.injEq] at h
            exact ⟨h.1.symm, h.2.symm⟩
          · intro h; simp at h
          · intro _; simp [he]
        | false =>
          simp only [Bool.false_eq_true, if_false]
          refine ⟨by first | rfl | trivial, ?_, ?_, ?_⟩
          · intro st zs h; simp at h
          · intro _; exact Or.inr (nextAlloc_fst (by rw [hq]))
          · intro hn; exact absurd (nextAlloc_fst (by rw [hq])) hn

theorem builder_outcome {α : Type} (grow : Nat → Nat) (initCap : Nat) (xs : List α) (sched : List Bool) :
    match Builder.run grow initCap xs sched with
    | .addFailed i => i < xs.length ∧ false ∈ sched
    | .finished n none => n = xs.length ∧ (xs = [] ∨ false ∈ sched)
    | .finished n (some (st, ys)) => st = .heap ∧ ys = xs ∧ n = xs.length := by
  obtain ⟨hi1, hi2, -⟩ := init_spec (α := α) initCap sched
  unfold Builder.run
  cases hini : Builder.init (α := α) initCap sched with
  | mk b s1 =>
    rw [hini] at hi1 hi2
    simp only at hi1 hi2 ⊢
    have hadd := addAll_spec grow xs b 0 s1
    cases hall : Builder.addAll grow b xs 0 s1 with
    | mk o s2 =>
      rw [hall] at hadd
      cases o with
      | inl i =>
        obtain ⟨h1, h2⟩ := hadd
        simp only
        exact ⟨by omega, hi2 h2⟩
      | inr b' =>
        obtain ⟨h1, h2⟩ := hadd
        rw [hi1, List.nil_append] at h1
        obtain ⟨f1, f2, f3, -⟩ := finish_spec b' s2
        rw [h1] at f1 f2 f3
        simp only
        generalize (b'.finish s2).1 = n at f1 ⊢
        generalize (b'.finish s2).2.1 = arr at f2 f3 ⊢
        cases arr with
        | none =>
          refine ⟨f1, ?_⟩
          cases f3 rfl with
          | inl h => exact Or.inl h
          | inr h => exact Or.inr (hi2 (h2 h))
        | some p =>
          obtain ⟨st, zs⟩ := p
          obtain ⟨g1, g2⟩ := f2 st zs rfl
          exact ⟨g1, g2, f1⟩

theorem builder_no_faults {α : Type} (grow : Nat → Nat) (initCap : Nat) (xs : List α) (sched : List Bool) (hs : false ∉ sched) :
    Builder.run grow initCap xs sched =
      .finished xs.length (if xs = [] ∧ initCap ≤ 8 then none else some (.heap, xs)) := by
  obtain ⟨hi1, hi2, hi3⟩ := init_spec (α := α) initCap sched
  unfold Builder.run
  cases hini : Builder.init (α := α) initCap sched with
  | mk b s1 =>
    rw [hini] at hi1 hi2 hi3
    simp only at hi1 hi2 hi3 ⊢
    have hs1 : false ∉ s1 := fun hm => hs (hi2 hm)
    have hadd := addAll_spec grow xs b 0 s1
    cases hall : Builder.addAll grow b xs 0 s1 with
    | mk o s2 =>
      rw [hall] at hadd
      cases o with
      | inl i => exact absurd hadd.2 hs1
      | inr b' =>
        obtain ⟨h1, h2⟩ := hadd
        rw [hi1, List.nil_append] at h1
        have hs2 : false ∉ s2 := fun hm => hs1 (h2 hm)
        obtain ⟨f1, -, -, f4⟩ := finish_spec b' s2
        simp only
        rw [f1, f4 hs2, h1]
        congr 1
        cases xs with
        | nil =>
          simp only [Builder.addAll, Prod.mk.injEq, Sum.inr.injEq] at hall
          rw [← hall.1, hi3 hs]
          by_cases hc : initCap ≤ 8 <;> simp [hc]
        | cons x t => simp

end Edn.Proofs
