/-
  The stages of `edn_read_number` after the sign, for every configuration, from the last stage to the
  first: the suffix of the radix forms, the ratio, the ending of a decimal literal,
  exponent and fraction, the radix test, the zero path, the non-zero path, the body.  A stage that only
  branches on the next byte is inverted (`_inv`: what an `.ok` answer forces about the bytes consumed)
  and run forward (`_fwd`, or one equation per branch: what it answers on well-formed bytes); the
  scanners they call (digit loop, denominator, fraction digits) are stated once, as equations on
  split input (`radixLoop_eq`, `ratioDen_eq`, `fracDigits_run` with `uRun_split`), and both directions
  read them off.  The last section puts the forward runs together: `edn_read_number` on each class of
  number token, one theorem per constructor of `CljNum` (`read_dec` … `read_radix`).
-/
import Edn.Proofs.NumberParts
import Edn.Proofs.Follow
import Edn.Proofs.NumberEq
import Edn.Proofs.Ite

namespace Edn.Proofs.CNum
open Edn.Model Edn.Spec Edn.Proofs

theorem ite_err_ok {c : Prop} [Decidable c] {x : Bytes} {y : NumOut} {v : NumVal} {r : Bytes}
    (h : (if c then NumOut.err x else y) = .ok v r) : ¬ c ∧ y = .ok v r :=
  (ite_eq_elim h).elim (fun h => NumOut.noConfusion h.2) id

theorem ite_ok_err {c : Prop} [Decidable c] {x : Bytes} {y : NumOut} {v : NumVal} {r : Bytes}
    (h : (if c then y else NumOut.err x) = .ok v r) : c ∧ y = .ok v r :=
  (ite_eq_elim h).elim id (fun h => NumOut.noConfusion h.2)

def radixOut (cfg : Cfg) (suf : NumSuffix) (neg : Bool) (radix : Nat) (digits : Bytes) : NumVal :=
  match suf with
  | .none => intOrBig cfg digits radix neg
  | .N => .bigint neg radix digits
  | .M => .bigdec neg digits

theorem radixOut_run (cfg : Cfg) (suf : NumSuffix) (neg : Bool) (radix : Nat) (hr : 2 ≤ radix ∧ radix ≤ 36)
    (ds : Bytes) (h : DigRun cfg.exp (isRadixDigit radix) ds) :
    radixOut cfg suf neg radix ds = radixPayload suf neg radix ds := by
  cases suf
  · exact intOrBig_run cfg radix hr ds neg h
  · rfl
  · rfl

theorem radixTail_inv (cfg : Cfg) (neg : Bool) (radix : Nat) (allowN : Bool) (digits T : Bytes) (v : NumVal)
    (rest : Bytes) (h : radixTail cfg neg radix allowN (digits ++ T) T = .ok v rest) :
    ∃ suf : NumSuffix, T = suf.bytes ++ rest ∧ TermStart rest ∧ (suf = .N → allowN = true) ∧
      v = radixOut cfg suf neg radix digits := by
  unfold radixTail at h
  rw [slice_append] at h
  by_cases hN : (allowN && peek T == 0x4E) = true
  · simp only [hN, ↓reduceIte] at h
    simp only [Bool.and_eq_true, beq_iff_eq] at hN
    obtain ⟨t, rfl⟩ := of_peek hN.2 (by decide)
    have h := (ite_err_ok h).2
    obtain ⟨rfl, rfl, ht⟩ := finishNum_ok h
    exact ⟨.N, rfl, ht, fun _ => hN.1, rfl⟩
  · simp only [hN, Bool.false_eq_true, ↓reduceIte] at h
    by_cases hM : (peek T == 0x4D) = true
    · simp only [hM, ↓reduceIte] at h
      simp only [beq_iff_eq] at hM
      obtain ⟨t, rfl⟩ := of_peek hM (by decide)
      have h := (ite_err_ok h).2
      obtain ⟨rfl, rfl, ht⟩ := finishNum_ok h
      exact ⟨.M, rfl, ht, fun h => NumSuffix.noConfusion h, rfl⟩
    · simp only [hM, Bool.false_eq_true, ↓reduceIte] at h
      have h := (ite_err_ok h).2
      obtain ⟨rfl, rfl, ht⟩ := finishNum_ok h
      exact ⟨.none, rfl, ht, fun h => NumSuffix.noConfusion h, rfl⟩

theorem radixTail_fwd (cfg : Cfg) (neg : Bool) (radix : Nat) (allowN : Bool) (digits rest : Bytes)
    (suf : NumSuffix) (ht : TermStart rest) (hs : suf = .N → allowN = true) :
    radixTail cfg neg radix allowN (digits ++ (suf.bytes ++ rest)) (suf.bytes ++ rest) =
      .ok (radixOut cfg suf neg radix digits) rest := by
  have hst := term_props (peek_term ht)
  obtain ⟨-, kN, kM, kSl⟩ := stopProps2_unpack hst
  unfold radixTail
  rw [slice_append]
  cases suf with
  | none =>
    simp only [NumSuffix.bytes, List.nil_append, kN, kM, kSl, Bool.and_false,
      Bool.false_eq_true, ↓reduceIte, ite_self, radixOut]
    exact finishNum_term _ ht
  | N =>
    have hN := hs rfl
    have hpk : peek ([0x4E] ++ rest) = 0x4E := rfl
    have hadv : adv ([0x4E] ++ rest) = rest := rfl
    simp only [NumSuffix.bytes, hN, hpk, hadv, BEq.rfl, Bool.and_self, ↓reduceIte, kSl,
      Bool.false_eq_true, radixOut]
    exact finishNum_term _ ht
  | M =>
    have hpk : peek ([0x4D] ++ rest) = 0x4D := rfl
    have hadv : adv ([0x4D] ++ rest) = rest := rfl
    have e1 : ((0x4D : UInt8) == 0x4E) = false := by decide
    have e2 : ((0x4D : UInt8) == 0x2F) = false := by decide
    have e3 : ((if allowN = true then peek rest else 0x4D) == 0x2F) = false := by
      cases allowN
      · exact e2
      · exact kSl
    simp only [NumSuffix.bytes, hpk, hadv, e1, BEq.rfl, Bool.and_false, ↓reduceIte, e3,
      Bool.false_eq_true, radixOut]
    exact finishNum_term _ ht

def loopTail (cfg : Cfg) (neg : Bool) (radix : Nat) (strict allowN : Bool) (dS ds : Bytes) : NumOut :=
  match radixDigitsLoop cfg.exp radix strict (ds.length + 1) ds with
  | .error cur => .err cur
  | .ok s' => radixTail cfg neg radix allowN dS s'

/-- `pre` are digits in front of the run that belong to the digit text (the zeros of an octal literal) -/
theorem loopTail_inv (cfg : Cfg) (neg : Bool) (radix : Nat) (hr : 2 ≤ radix ∧ radix ≤ 36) (strict allowN : Bool)
    (pre ds : Bytes) (v : NumVal) (rest : Bytes) (hpre : ∀ c ∈ pre, isRadixDigit radix c = true)
    (hstart : isRadixDigit radix (peek ds) = true)
    (h : loopTail cfg neg radix strict allowN (pre ++ ds) ds = .ok v rest) :
    ∃ (run : Bytes) (suf : NumSuffix), ds = run ++ (suf.bytes ++ rest) ∧ DigRun cfg.exp (isRadixDigit radix) run ∧
      (strict = true → NoTrailU run) ∧ TermStart rest ∧ (suf = .N → allowN = true) ∧
      (suf = .M → isRadixDigit radix 0x4D = false) ∧ v = radixPayload suf neg radix (pre ++ run) := by
  unfold loopTail at h
  rcases radixLoop_split cfg.exp radix strict hr.2 ds (ds.length + 1) (Nat.le_refl _) with
    ⟨cur, he⟩ | ⟨run, T, rfl, hrun, hnt, hT, -, hl⟩
  · rw [he] at h
    exact NumOut.noConfusion h
  · rw [hl, ← List.append_assoc] at h
    obtain ⟨suf, rfl, ht, hs, rfl⟩ := radixTail_inv cfg neg radix allowN (pre ++ run) T v rest h
    have hdr := run_head hrun hT hstart
    refine ⟨run, suf, rfl, hdr, hnt, ht, hs, ?_, radixOut_run cfg suf neg radix hr _ (digRun_append hpre hdr)⟩
    rintro rfl
    exact hT

theorem loopTail_fwd (cfg : Cfg) (neg : Bool) (radix : Nat) (hr : 2 ≤ radix ∧ radix ≤ 36) (strict allowN : Bool)
    (pre run rest : Bytes) (suf : NumSuffix) (hpre : ∀ c ∈ pre, isRadixDigit radix c = true)
    (hrun : DigRun cfg.exp (isRadixDigit radix) run)
    (hnt : strict = true → NoTrailU run) (ht : TermStart rest) (hs : suf = .N → allowN = true)
    (hm : suf = .M → isRadixDigit radix 0x4D = false) (hn : suf = .N → isRadixDigit radix 0x4E = false) :
    loopTail cfg neg radix strict allowN (pre ++ (run ++ (suf.bytes ++ rest))) (run ++ (suf.bytes ++ rest)) =
      .ok (radixPayload suf neg radix (pre ++ run)) rest := by
  have hstop : isRadixDigit radix (peek (suf.bytes ++ rest)) = false ∧
      (peek (suf.bytes ++ rest) == 0x5F) = false := by
    cases suf with
    | none =>
      have hd := delim_props (c := peek rest) (by
        rcases peek_term ht with h | h
        · exact Or.inl h
        · right
          have := numTerm_isDelim (peek rest)
          simpa [numTermIsDelim, h] using this)
      exact ⟨not_radix_of_not36 hr.2 hd.1, by simpa [NumSuffix.bytes] using hd.2.2.1⟩
    | N => exact ⟨hn rfl, rfl⟩
    | M => exact ⟨hm rfl, rfl⟩
  unfold loopTail
  rw [radixLoop_run cfg.exp radix strict hr.2 _ hstop.1 (fun _ => hstop.2) run _ (digRun_uRun hrun) hnt (by simp)]
  have := radixTail_fwd cfg neg radix allowN (pre ++ run) rest suf ht hs
  rw [List.append_assoc, radixOut_run cfg suf neg radix hr _ (digRun_append hpre hrun)] at this
  exact this

/-- the two tests of `ratioDenominator` behind the digits pass at the end of the input and at a
    delimiter (`N`, `M`, `/` are none), and nowhere else -/
theorem delimStart_iff (T : Bytes) : DelimStart T ↔
    (peek T == 0x4E || peek T == 0x4D || peek T == 0x2F) = false ∧ (!T.isEmpty && !isDelim (peek T)) = false := by
  constructor
  · intro ht
    obtain ⟨-, -, -, hN, hM, hS⟩ := delim_props (DelimStart.peek ht)
    refine ⟨by simp [hN, hM, hS], ?_⟩
    rcases ht with rfl | ⟨c, t, rfl, hc⟩
    · rfl
    · simp [peek_cons, hc]
  · intro h
    cases T with
    | nil => exact Or.inl rfl
    | cons c t => exact Or.inr ⟨c, t, rfl, by simpa [peek_cons] using h.2⟩

theorem ratioDen_inv (Y s' : Bytes) (h : ratioDenominator Y = .ok s') :
    ∃ dd, Y = dd ++ s' ∧ RatioDen dd ∧ DelimStart s' := by
  obtain ⟨run, T, rfl, hrun, hT, -⟩ := dropWhile_split is09 (by decide) Y
  rw [ratioDen_eq run T hrun hT] at h
  rcases ite_eq_elim h with ⟨_, h⟩ | ⟨hne, h⟩
  · cases h
  rcases ite_eq_elim h with ⟨_, h⟩ | ⟨h0, h⟩
  · cases h
  rcases ite_eq_elim h with ⟨_, h⟩ | ⟨h1, h⟩
  · cases h
  rcases ite_eq_elim h with ⟨_, h⟩ | ⟨h2, h⟩
  · cases h
  cases h
  exact ⟨run, rfl, ⟨hne, hrun, h0⟩, (delimStart_iff _).mpr ⟨(Bool.not_eq_true _).mp h1, (Bool.not_eq_true _).mp h2⟩⟩

theorem ratioDen_fwd (dd rest : Bytes) (hd : RatioDen dd) (ht : DelimStart rest) :
    ratioDenominator (dd ++ rest) = .ok rest := by
  obtain ⟨h1, h2⟩ := (delimStart_iff rest).mp ht
  rw [ratioDen_eq dd rest hd.2.1 (delim_props (DelimStart.peek ht)).2.1, if_neg hd.1, if_neg hd.2.2, h1, h2]
  rfl

def ratioOut (cfg : Cfg) (neg : Bool) (digits den s' : Bytes) : NumOut :=
  let n? := parseInt64 cfg digits 10 neg
  let d? := parseInt64 cfg den 10 false
  match n?, d? with
  | some n, some d =>
    let g := ratioGcd n d
    let n' := if g > 1 then n / (g : Int) else n
    let d' := if g > 1 then d / (g : Int) else d
    if n' == 0 then .ok (.int 0) s'
    else if d' == 1 then .ok (.int n') s'
    else finishNum (.ratio n' d') s'
  | _, some d =>
    if d == 1 then finishNum (.bigint neg 10 digits) s' else finishNum (.bigratio neg digits den) s'
  | _, none => finishNum (.bigratio neg digits den) s'

def ratioBranch (cfg : Cfg) (neg : Bool) (digits Y : Bytes) : NumOut :=
  match ratioDenominator Y with
  | .error cur => .err cur
  | .ok s' => ratioOut cfg neg digits (slice Y s') s'

/-- `ratio_gcd` divides only by a gcd above 1; dividing by 1 changes nothing -/
theorem div_gcd_guard (x : Int) {g : Nat} (hg : 1 ≤ g) : (if g > 1 then x / (g : Int) else x) = x / (g : Int) := by
  by_cases h : g > 1
  · rw [if_pos h]
  · have : g = 1 := by omega
    simp [this]

/-- the value of a ratio: integer-valued ratios return at once, the others pass through the
    terminator test -/
theorem ratioOut_eq (cfg : Cfg) (neg : Bool) (nd dd s' : Bytes)
    (hn : ∃ V, parseInt64 cfg nd 10 neg = inRange neg V) (hd : RatioDen dd) :
    (∃ i, ratioValue cfg neg nd dd = .int i ∧ ratioOut cfg neg nd dd s' = .ok (.int i) s') ∨
    ((∀ i, ratioValue cfg neg nd dd ≠ .int i) ∧
      ratioOut cfg neg nd dd s' = finishNum (ratioValue cfg neg nd dd) s') := by
  obtain ⟨V, hnd⟩ := hn
  have hdd := parseInt64_digits cfg dd false hd.2.1
  have hpos := natOfDigits_pos hd
  unfold ratioOut ratioValue
  cases hn' : parseInt64 cfg nd 10 neg with
  | none =>
    cases hd' : parseInt64 cfg dd 10 false with
    | none => exact Or.inr ⟨nofun, rfl⟩
    | some d =>
      right
      simp only []
      by_cases h1 : (d == 1) = true
      · simp only [h1, ↓reduceIte]
        exact ⟨nofun, trivial⟩
      · simp only [h1, Bool.false_eq_true, ↓reduceIte]
        exact ⟨nofun, trivial⟩
  | some n =>
    cases hd' : parseInt64 cfg dd 10 false with
    | none => exact Or.inr ⟨nofun, rfl⟩
    | some d =>
      have hnb := inRange_bound (hnd ▸ hn')
      have hdb := inRange_bound (hdd ▸ hd')
      have hgpos : 1 ≤ Nat.gcd n.natAbs d.natAbs :=
        Nat.gcd_pos_of_pos_right _ (by rw [hdb.2]; omega)
      simp only [ratioGcd_eq n d hnb.1 hdb.1, div_gcd_guard n hgpos, div_gcd_guard d hgpos]
      by_cases h1 : (n / ((Nat.gcd n.natAbs d.natAbs : Nat) : Int) == 0) = true
      · simp only [h1, ↓reduceIte]
        exact Or.inl ⟨0, rfl, rfl⟩
      · simp only [h1, Bool.false_eq_true, ↓reduceIte]
        by_cases h2 : (d / ((Nat.gcd n.natAbs d.natAbs : Nat) : Int) == 1) = true
        · simp only [h2, ↓reduceIte]
          exact Or.inl ⟨_, rfl, rfl⟩
        · simp only [h2, Bool.false_eq_true, ↓reduceIte]
          exact Or.inr ⟨nofun, trivial⟩

theorem decimalTail_inv (cfg : Cfg) (start : Bytes) (neg hd he : Bool) (body T : Bytes)
    (v : NumVal) (rest : Bytes) (h : decimalTail cfg start neg hd he (body ++ T) T = .ok v rest) :
    (hd = false ∧ he = false ∧ T = 0x4E :: rest ∧ v = .bigint neg 10 body ∧ TermStart rest ∧
        (cfg.exp = true → NoTrailU body)) ∨
    (T = 0x4D :: rest ∧ v = .bigdec neg body ∧ TermStart rest ∧ (cfg.exp = true → NoTrailU body)) ∨
    (cfg.clj = true ∧ hd = false ∧ he = false ∧ (cfg.exp = true → NoTrailU body) ∧
        ∃ Y, T = 0x2F :: Y ∧ ratioBranch cfg neg body Y = .ok v rest) ∨
    ((hd || he) = true ∧ rest = T ∧ v = .float (parseDouble cfg (slice start T)) ∧ TermStart rest) ∨
    (hd = false ∧ he = false ∧ rest = T ∧ v = intOrBig cfg body 10 neg ∧ TermStart rest) := by
  unfold decimalTail at h
  rw [slice_append] at h
  obtain ⟨h0, h⟩ := ite_err_ok h
  have hsep : (peek T == 0x4E || peek T == 0x4D || peek T == 0x2F) = true → cfg.exp = true → NoTrailU body := by
    intro h1 h2
    rw [h1, h2] at h0
    exact (lastIsUnderscore_iff body T).mp (by simpa using h0)
  rcases ite_eq_elim h with ⟨hN, h⟩ | ⟨-, h⟩
  · simp only [Bool.and_eq_true, beq_iff_eq, Bool.not_eq_true'] at hN
    have hs := hsep (by simp [hN.1.1])
    obtain ⟨t, rfl⟩ := of_peek hN.1.1 (by decide)
    obtain ⟨rfl, rfl, ht⟩ := finishNum_ok h
    exact Or.inl ⟨hN.1.2, hN.2, rfl, rfl, ht, hs⟩
  rcases ite_eq_elim h with ⟨hM, h⟩ | ⟨-, h⟩
  · have hs := hsep (by simp [hM])
    obtain ⟨t, rfl⟩ := of_peek (beq_iff_eq.mp hM) (by decide)
    obtain ⟨rfl, rfl, ht⟩ := finishNum_ok h
    exact Or.inr (Or.inl ⟨rfl, rfl, ht, hs⟩)
  rcases ite_eq_elim h with ⟨hR, h⟩ | ⟨-, h⟩
  · simp only [Bool.and_eq_true, beq_iff_eq, Bool.not_eq_true'] at hR
    have hs := hsep (by simp [hR.1.1.2])
    obtain ⟨Y, rfl⟩ := of_peek hR.1.1.2 (by decide)
    exact Or.inr (Or.inr (Or.inl ⟨hR.1.1.1, hR.1.2, hR.2, hs, Y, rfl, h⟩))
  rcases ite_eq_elim h with ⟨hf, h⟩ | ⟨hf, h⟩
  · obtain ⟨rfl, rfl, ht⟩ := finishNum_ok h
    exact Or.inr (Or.inr (Or.inr (Or.inl ⟨hf, rfl, rfl, ht⟩)))
  · obtain ⟨rfl, rfl, ht⟩ := finishNum_ok h
    simp only [Bool.or_eq_true, not_or, Bool.not_eq_true] at hf
    exact Or.inr (Or.inr (Or.inr (Or.inr ⟨hf.1, hf.2, rfl, rfl, ht⟩)))

theorem decimalTail_N (cfg : Cfg) (start : Bytes) (neg : Bool) (body rest : Bytes) (hu : NoTrailU body) :
    decimalTail cfg start neg false false (body ++ 0x4E :: rest) (0x4E :: rest) =
      finishNum (.bigint neg 10 body) rest := by
  have hpk : peek (0x4E :: rest) = 0x4E := rfl
  have hadv : adv (0x4E :: rest) = rest := rfl
  have e3 : ((0x4E : UInt8) == 0x4E) = true := by decide
  have hl := (lastIsUnderscore_iff body (0x4E :: rest)).mpr hu
  unfold decimalTail
  simp only [hpk, hadv, e3, hl, Bool.and_false, Bool.false_eq_true, ↓reduceIte, Bool.not_false,
    Bool.and_self, slice_append]

theorem decimalTail_M (cfg : Cfg) (start : Bytes) (neg hd he : Bool) (body rest : Bytes) (hu : NoTrailU body) :
    decimalTail cfg start neg hd he (body ++ 0x4D :: rest) (0x4D :: rest) =
      finishNum (.bigdec neg body) rest := by
  have e1 : ((0x4D : UInt8) == 0x4E) = false := by decide
  have hl := (lastIsUnderscore_iff body (0x4D :: rest)).mpr hu
  unfold decimalTail
  simp only [peek_cons, adv_cons, e1, hl, BEq.rfl, Bool.and_false, Bool.false_and, Bool.false_eq_true,
    ↓reduceIte, slice_append]

theorem decimalTail_float (cfg : Cfg) (start : Bytes) (neg hd he : Bool) (dS T : Bytes)
    (hT : stopProps2 (peek T) = true) (h : (hd || he) = true) :
    decimalTail cfg start neg hd he dS T = finishNum (.float (parseDouble cfg (slice start T))) T := by
  obtain ⟨-, hN, hM, hS⟩ := stopProps2_unpack hT
  unfold decimalTail
  simp only [hN, hM, hS, Bool.or_self, Bool.false_and, Bool.and_false, Bool.false_eq_true, ↓reduceIte, h]

theorem decimalTail_int (cfg : Cfg) (start : Bytes) (neg : Bool) (body T : Bytes)
    (hT : stopProps2 (peek T) = true) :
    decimalTail cfg start neg false false (body ++ T) T = finishNum (intOrBig cfg body 10 neg) T := by
  obtain ⟨-, kN, kM, kSl⟩ := stopProps2_unpack hT
  unfold decimalTail
  simp only [kN, kM, kSl, Bool.or_self, Bool.false_and, Bool.and_false,
    Bool.false_eq_true, ↓reduceIte, slice_append]

theorem decimalTail_slash (cfg : Cfg) (hc : cfg.clj = true) (start : Bytes) (neg : Bool) (body Y : Bytes)
    (hu : NoTrailU body) :
    decimalTail cfg start neg false false (body ++ 0x2F :: Y) (0x2F :: Y) = ratioBranch cfg neg body Y := by
  have hpk : peek (0x2F :: Y) = 0x2F := rfl
  have hadv : adv (0x2F :: Y) = Y := rfl
  have e1 : ((0x2F : UInt8) == 0x4E) = false := by decide
  have e2 : ((0x2F : UInt8) == 0x4D) = false := by decide
  have hl := (lastIsUnderscore_iff body (0x2F :: Y)).mpr hu
  unfold decimalTail ratioBranch ratioOut
  simp only [hpk, hadv, e1, e2, hl, hc, BEq.rfl, Bool.and_false, Bool.false_eq_true, ↓reduceIte,
    Bool.not_false, Bool.and_self, Bool.false_and, slice_append]
  cases ratioDenominator Y <;> rfl

/-- `parse_exponent:` after the `e` and an optional sign -/
theorem exponentPart_eq (cfg : Cfg) (start : Bytes) (neg hasDec : Bool) (dS : Bytes) (e : UInt8) (es Y : Bytes)
    (hes : es = [] ∨ es = [0x2B] ∨ es = [0x2D]) (hY : es = [] → (peek Y == 0x2B || peek Y == 0x2D) = false) :
    exponentPart cfg start neg hasDec dS (e :: (es ++ Y)) =
      if !is09 (peek Y) then .err Y else decimalTail cfg start neg hasDec true dS (fracDigits cfg.exp Y) := by
  rcases hes with rfl | rfl | rfl
  · unfold exponentPart
    simp only [adv_cons, List.nil_append, hY rfl, Bool.false_eq_true, ↓reduceIte]
  · rfl
  · rfl

theorem exponentPart_inv (cfg : Cfg) (start : Bytes) (neg hasDec : Bool) (dS : Bytes) (e : UInt8) (Z1 : Bytes)
    (v : NumVal) (rest : Bytes)
    (h : exponentPart cfg start neg hasDec dS (e :: Z1) = .ok v rest) :
    ∃ es ed T, Z1 = es ++ ed ++ T ∧ (es = [] ∨ es = [0x2B] ∨ es = [0x2D]) ∧ DigRun cfg.exp is09 ed ∧
      decimalTail cfg start neg hasDec true dS T = .ok v rest := by
  have hsplit : ∃ es Z2, Z1 = es ++ Z2 ∧ (es = [] ∨ es = [0x2B] ∨ es = [0x2D]) ∧
      (es = [] → (peek Z2 == 0x2B || peek Z2 == 0x2D) = false) := by
    by_cases hs : (peek Z1 == 0x2B || peek Z1 == 0x2D) = true
    · obtain ⟨c, t, rfl, hc⟩ := of_peek_or (by decide) (by decide) hs
      rcases hc with rfl | rfl
      · exact ⟨[0x2B], t, rfl, Or.inr (Or.inl rfl), nofun⟩
      · exact ⟨[0x2D], t, rfl, Or.inr (Or.inr rfl), nofun⟩
    · exact ⟨[], Z1, rfl, Or.inl rfl, fun _ => (Bool.not_eq_true _).mp hs⟩
  obtain ⟨es, Z2, rfl, hes, hZ2⟩ := hsplit
  rw [exponentPart_eq cfg start neg hasDec dS e es Z2 hes hZ2] at h
  obtain ⟨hd, h⟩ := ite_err_ok h
  obtain ⟨run, T, rfl, hrun, hT, -, hfr⟩ := fracDigits_split cfg.exp Z2
  rw [hfr] at h
  exact ⟨es, run, T, (List.append_assoc _ _ _).symm, hes, run_head hrun hT (by simpa using hd), h⟩

theorem exponentPart_fwd (cfg : Cfg) (start : Bytes) (neg hasDec : Bool) (dS : Bytes)
    (e : UInt8) (es ed T : Bytes) (hes : es = [] ∨ es = [0x2B] ∨ es = [0x2D])
    (hed : DigRun cfg.exp is09 ed) (h1 : is09 (peek T) = false)
    (h2 : cfg.exp = true → (peek T == 0x5F) = false) :
    exponentPart cfg start neg hasDec dS (e :: (es ++ ed) ++ T) =
      decimalTail cfg start neg hasDec true dS T := by
  have hd := digRun_peek hed T
  obtain ⟨-, -, hm, hp, -⟩ := is09_props hd
  rw [List.cons_append, List.append_assoc, exponentPart_eq cfg start neg hasDec dS e es _ hes
    (fun _ => by simp [hm, hp]), hd, fracDigits_run cfg.exp ed T (digRun_uRun hed) h1 h2]
  rfl

theorem afterMantissa_inv (cfg : Cfg) (start : Bytes) (neg hasDec : Bool) (pre Z : Bytes) (v : NumVal)
    (rest : Bytes) (h : afterMantissa cfg start neg hasDec (pre ++ Z) Z = .ok v rest) :
    ∃ ex T, Z = ex ++ T ∧ CljExp cfg.exp ex ∧ (ex ≠ [] → cfg.exp = true → NoTrailU pre) ∧
      (ex = [] → (peek Z == 0x65 || peek Z == 0x45) = false) ∧
      decimalTail cfg start neg hasDec (!ex.isEmpty) (pre ++ Z) T = .ok v rest := by
  unfold afterMantissa at h
  by_cases he : (peek Z == 0x65 || peek Z == 0x45) = true
  · simp only [he, ↓reduceIte] at h
    by_cases hu : (cfg.exp && lastIsUnderscore (pre ++ Z) Z) = true
    · rw [if_pos hu] at h
      exact NumOut.noConfusion h
    · rw [if_neg hu] at h
      obtain ⟨e, Z1, rfl, hee⟩ := of_peek_or (by decide) (by decide) he
      obtain ⟨es, ed, T, rfl, hes, hed, ht⟩ := exponentPart_inv cfg start neg hasDec _ e Z1 v rest h
      refine ⟨e :: (es ++ ed), T, by simp, Or.inr ⟨e, es, ed, rfl, hee, hes, hed⟩, ?_,
        fun h => absurd h (by simp), by simpa using ht⟩
      intro _ hexp
      rw [hexp, Bool.true_and] at hu
      exact (lastIsUnderscore_iff pre _).mp (by simpa using hu)
  · simp only [he, Bool.false_eq_true, ↓reduceIte] at h
    exact ⟨[], Z, rfl, Or.inl rfl, fun h => absurd rfl h, fun _ => by simpa using he, by simpa using h⟩

theorem afterMantissa_fwd (cfg : Cfg) (start : Bytes) (neg hasDec : Bool) (pre ex T : Bytes)
    (hex : CljExp cfg.exp ex) (hsep : ex ≠ [] → NoTrailU pre) (hT : stopProps (peek T) = true) :
    afterMantissa cfg start neg hasDec (pre ++ (ex ++ T)) (ex ++ T) =
      decimalTail cfg start neg hasDec (!ex.isEmpty) (pre ++ (ex ++ T)) T := by
  obtain ⟨k09, kUs, -, -, -, ke, kE, -⟩ := stopProps_unpack hT
  rcases hex with rfl | ⟨e, es, ed, rfl, he, hes, hed⟩
  · unfold afterMantissa
    simp only [List.nil_append, ke, kE, Bool.or_self, Bool.false_eq_true,
      ↓reduceIte, List.isEmpty_nil, Bool.not_true]
  · unfold afterMantissa
    have hpk : peek (e :: (es ++ ed) ++ T) = e := rfl
    have hee : (e == 0x65 || e == 0x45) = true := by
      rcases he with rfl | rfl <;> decide
    have hl : lastIsUnderscore (pre ++ (e :: (es ++ ed) ++ T)) (e :: (es ++ ed) ++ T) = false :=
      (lastIsUnderscore_iff pre _).mpr (hsep (by simp))
    simp only [hpk, hee, ↓reduceIte, hl, Bool.and_false, Bool.false_eq_true]
    rw [exponentPart_fwd cfg start neg hasDec _ e es ed T hes hed k09 (fun _ => kUs)]
    rfl

theorem decimalPart_inv (cfg : Cfg) (start : Bytes) (neg : Bool) (dS Y : Bytes) (v : NumVal) (rest : Bytes)
    (h : decimalPart cfg start neg dS (0x2E :: Y) = .ok v rest) :
    ∃ fd Z, Y = fd ++ Z ∧ URun cfg.exp is09 fd ∧ fd.head? ≠ some 0x5F ∧
      afterMantissa cfg start neg true dS Z = .ok v rest := by
  have h : (if (cfg.exp && peek Y == 0x5F) = true then NumOut.err Y
      else afterMantissa cfg start neg true dS (fracDigits cfg.exp Y)) = .ok v rest := h
  by_cases hu : (cfg.exp && peek Y == 0x5F) = true
  · rw [if_pos hu] at h
    exact NumOut.noConfusion h
  · rw [if_neg hu] at h
    obtain ⟨fd, Z, rfl, hfd, -, -, hfr⟩ := fracDigits_split cfg.exp Y
    rw [hfr] at h
    refine ⟨fd, Z, rfl, hfd, ?_, h⟩
    cases fd with
    | nil => simp
    | cons c t =>
      intro hc
      simp only [List.head?_cons, Option.some.injEq] at hc
      subst hc
      rcases hfd 0x5F (by simp) with h1 | ⟨h1, -⟩
      · exact absurd h1 (by decide)
      · apply hu
        rw [h1]
        rfl

theorem decimalPart_fwd (cfg : Cfg) (start : Bytes) (neg : Bool) (dS fd Z : Bytes)
    (hfd : URun cfg.exp is09 fd) (hhd : fd.head? ≠ some 0x5F) (h1 : is09 (peek Z) = false)
    (h2 : cfg.exp = true → (peek Z == 0x5F) = false) :
    decimalPart cfg start neg dS (0x2E :: (fd ++ Z)) = afterMantissa cfg start neg true dS Z := by
  have hpk : (cfg.exp && peek (fd ++ Z) == 0x5F) = false := by
    cases fd with
    | nil =>
      cases he : cfg.exp
      · rfl
      · simpa using h2 he
    | cons c t =>
      have : c ≠ 0x5F := fun e => hhd (by simp [e])
      simp [peek_cons, this]
  have e : decimalPart cfg start neg dS (0x2E :: (fd ++ Z)) =
      (if (cfg.exp && peek (fd ++ Z) == 0x5F) = true then NumOut.err (fd ++ Z)
       else afterMantissa cfg start neg true dS (fracDigits cfg.exp (fd ++ Z))) := rfl
  rw [e]
  simp only [hpk, Bool.false_eq_true, ↓reduceIte, fracDigits_run cfg.exp fd Z hfd h1 h2]

theorem afterIp_inv (cfg : Cfg) (s0 : Bytes) (neg : Bool) (ip X : Bytes) (v : NumVal) (rest : Bytes)
    (h : afterIp cfg s0 neg (ip ++ X) X = .ok v rest) :
    ∃ fr ex T, X = fr ++ (ex ++ T) ∧ CljFrac cfg.exp fr ∧ CljExp cfg.exp ex ∧
      (ex ≠ [] → cfg.exp = true → NoTrailU (ip ++ fr)) ∧
      (fr = [] → (peek X == 0x2E) = false) ∧
      (ex = [] → (peek (ex ++ T) == 0x65 || peek (ex ++ T) == 0x45) = false) ∧
      decimalTail cfg s0 neg (!fr.isEmpty) (!ex.isEmpty) (ip ++ X) T = .ok v rest := by
  unfold afterIp at h
  by_cases hp : (peek X == 0x2E) = true
  · rw [if_pos hp] at h
    simp only [beq_iff_eq] at hp
    obtain ⟨Y, rfl⟩ := of_peek hp (by decide)
    obtain ⟨fd, Z, rfl, hfd, hhd, h1⟩ := decimalPart_inv cfg s0 neg _ Y v rest h
    have hassoc : ip ++ 0x2E :: (fd ++ Z) = (ip ++ 0x2E :: fd) ++ Z := by simp
    rw [hassoc] at h1
    obtain ⟨ex, T, rfl, hex, hsep, hne, h2⟩ := afterMantissa_inv cfg s0 neg true _ _ v rest h1
    refine ⟨0x2E :: fd, ex, T, by simp, Or.inr ⟨fd, rfl, hfd, hhd⟩, hex, hsep,
      fun h => absurd h (by simp), hne, ?_⟩
    rw [hassoc]
    simpa using h2
  · rw [if_neg hp] at h
    obtain ⟨ex, T, rfl, hex, hsep, hne, h2⟩ := afterMantissa_inv cfg s0 neg false ip _ v rest h
    refine ⟨[], ex, T, by simp, Or.inl rfl, hex, ?_, fun _ => by simpa using hp, hne, by simpa using h2⟩
    simpa using hsep

theorem afterIp_fwd (cfg : Cfg) (s0 : Bytes) (neg : Bool) (ip fr ex T : Bytes)
    (hfr : CljFrac cfg.exp fr) (hex : CljExp cfg.exp ex) (hsep : ex ≠ [] → NoTrailU (ip ++ fr))
    (hT : stopProps (peek T) = true) :
    afterIp cfg s0 neg (ip ++ (fr ++ (ex ++ T))) (fr ++ (ex ++ T)) =
      decimalTail cfg s0 neg (!fr.isEmpty) (!ex.isEmpty) (ip ++ (fr ++ (ex ++ T))) T := by
  obtain ⟨k09, kUs, -, -, kDot, -⟩ := stopProps_unpack hT
  have hexT : is09 (peek (ex ++ T)) = false ∧ (peek (ex ++ T) == 0x5F) = false ∧
      (peek (ex ++ T) == 0x2E) = false := by
    rcases hex with rfl | ⟨e, es, ed, rfl, he, -⟩
    · exact ⟨k09, kUs, kDot⟩
    · rcases he with rfl | rfl
      · exact ⟨(by decide : is09 0x65 = false), (by decide : ((0x65 : UInt8) == 0x5F) = false),
          (by decide : ((0x65 : UInt8) == 0x2E) = false)⟩
      · exact ⟨(by decide : is09 0x45 = false), (by decide : ((0x45 : UInt8) == 0x5F) = false),
          (by decide : ((0x45 : UInt8) == 0x2E) = false)⟩
  unfold afterIp
  rcases hfr with rfl | ⟨fd, rfl, hfd, hhd⟩
  · simp only [List.nil_append, hexT.2.2, Bool.false_eq_true, ↓reduceIte, List.isEmpty_nil, Bool.not_true]
    exact afterMantissa_fwd cfg s0 neg false ip ex T hex (by simpa using hsep) hT
  · have hpk : peek (0x2E :: fd ++ (ex ++ T)) = 0x2E := rfl
    simp only [hpk, BEq.rfl, ↓reduceIte]
    rw [List.cons_append, decimalPart_fwd cfg s0 neg _ fd (ex ++ T) hfd hhd hexT.1 (fun _ => hexT.2.1)]
    have hassoc : ip ++ 0x2E :: (fd ++ (ex ++ T)) = (ip ++ 0x2E :: fd) ++ (ex ++ T) := by simp
    rw [hassoc]
    exact afterMantissa_fwd cfg s0 neg true _ ex T hex hsep hT

theorem isEmpty_not_false {l : Bytes} (h : (!l.isEmpty) = false) : l = [] := by
  cases l with
  | nil => rfl
  | cons _ _ => exact Bool.noConfusion h

theorem flags_of_ne {fr ex : Bytes} (h : fr ≠ [] ∨ ex ≠ []) : (!fr.isEmpty || !ex.isEmpty) = true := by
  rcases h with h | h
  · cases fr with
    | nil => exact absurd rfl h
    | cons _ _ => rfl
  · cases ex with
    | nil => exact absurd rfl h
    | cons _ _ => simp

/-- what an `.ok` answer after the integer part `ip` forces: a fraction and an exponent of the
    grammar, and one of five endings, in this order wherever the result is taken apart: `N`, `M`,
    a ratio (Clojure flag), a float, a plain integer — with the payload of each -/
theorem afterIp_shapes (cfg : Cfg) (sg : Bytes) (neg : Bool) (ip X : Bytes) (v : NumVal) (rest : Bytes)
    (h : afterIp cfg (sg ++ (ip ++ X)) neg (ip ++ X) X = .ok v rest) :
    ∃ fr ex, CljFrac cfg.exp fr ∧ CljExp cfg.exp ex ∧ (ex ≠ [] → cfg.exp = true → NoTrailU (ip ++ fr)) ∧
      (fr = [] → ex = [] → (peek X == 0x2E || (peek X == 0x65 || peek X == 0x45)) = false) ∧
      (-- `N`
       (fr = [] ∧ ex = [] ∧ X = 0x4E :: rest ∧ v = .bigint neg 10 ip ∧ TermStart rest ∧
          (cfg.exp = true → NoTrailU ip)) ∨
       -- `M`
       (X = fr ++ (ex ++ 0x4D :: rest) ∧ v = .bigdec neg (ip ++ fr ++ ex) ∧ TermStart rest ∧
          (cfg.exp = true → NoTrailU (ip ++ fr ++ ex))) ∨
       -- ratio
       (cfg.clj = true ∧ fr = [] ∧ ex = [] ∧ (cfg.exp = true → NoTrailU ip) ∧
          ∃ Y, X = 0x2F :: Y ∧ ratioBranch cfg neg ip Y = .ok v rest) ∨
       -- float
       ((fr ≠ [] ∨ ex ≠ []) ∧ X = fr ++ (ex ++ rest) ∧
          v = .float (parseDouble cfg (sg ++ ip ++ fr ++ ex)) ∧ TermStart rest) ∨
       -- integer
       (fr = [] ∧ ex = [] ∧ X = rest ∧ v = intOrBig cfg ip 10 neg ∧ TermStart rest)) := by
  obtain ⟨fr, ex, T, rfl, hfr, hex, hsep, hfr0, hex0, h2⟩ := afterIp_inv cfg _ neg ip X v rest h
  refine ⟨fr, ex, hfr, hex, hsep, ?_, ?_⟩
  · rintro rfl rfl
    have e1 := hfr0 rfl
    have e2 := hex0 rfl
    simp only [List.nil_append] at e1 e2 ⊢
    rw [e1, e2]
    rfl
  have hbody : ip ++ (fr ++ (ex ++ T)) = (ip ++ fr ++ ex) ++ T := by simp
  rw [hbody] at h2
  rcases decimalTail_inv cfg _ neg _ _ (ip ++ fr ++ ex) T v rest h2 with
    ⟨h3, h4, rfl, rfl, ht, hu⟩ | ⟨rfl, rfl, ht, hu⟩ | ⟨hc, h3, h4, hu, Y, rfl, hr⟩ | ⟨hf, rfl, rfl, ht⟩ |
    ⟨h3, h4, rfl, rfl, ht⟩
  · obtain rfl := isEmpty_not_false h3
    obtain rfl := isEmpty_not_false h4
    exact Or.inl ⟨rfl, rfl, rfl, by simp, ht, by simpa using hu⟩
  · exact Or.inr (Or.inl ⟨rfl, rfl, ht, hu⟩)
  · obtain rfl := isEmpty_not_false h3
    obtain rfl := isEmpty_not_false h4
    exact Or.inr (Or.inr (Or.inl ⟨hc, rfl, rfl, by simpa using hu, Y, rfl, by simpa using hr⟩))
  · refine Or.inr (Or.inr (Or.inr (Or.inl ⟨?_, rfl, ?_, ht⟩)))
    · cases fr with
      | nil =>
        cases ex with
        | nil => exact Bool.noConfusion hf
        | cons _ _ => exact Or.inr (by simp)
      | cons _ _ => exact Or.inl (by simp)
    · have := slice_append (sg ++ ip ++ fr ++ ex) rest
      rw [← hbody]
      simp only [List.append_assoc] at this ⊢
      rw [this]
  · obtain rfl := isEmpty_not_false h3
    obtain rfl := isEmpty_not_false h4
    exact Or.inr (Or.inr (Or.inr (Or.inr ⟨rfl, rfl, rfl, by simp, ht⟩)))

theorem radixPart_none (cfg : Cfg) (neg : Bool) (rp X : Bytes) (hall : AllDigits rp)
    (hX : is09 (peek X) = false) (hXr : (peek X == 0x72 || peek X == 0x52) = false) :
    radixPart cfg neg (rp ++ X) = none := by
  have hdw : (rp ++ X).dropWhile is09 = X := dropWhile_prefix is09 X hX rp hall
  unfold radixPart
  simp only [hdw]
  cases X with
  | nil => simp
  | cons r t =>
    have : (r == 0x72 || r == 0x52) = false := hXr
    simp [this]

theorem radixPart_some (cfg : Cfg) (hc : cfg.clj = true) (neg : Bool) (rp : Bytes) (r : UInt8) (Y : Bytes)
    (hne : rp ≠ []) (hall : AllDigits rp) (hr : r = 0x72 ∨ r = 0x52) :
    radixPart cfg neg (rp ++ r :: Y) = some (
      if 2 ≤ radixPrefixValue 0 rp ∧ radixPrefixValue 0 rp ≤ 36 then
        (if (digitValue (peek Y) (radixPrefixValue 0 rp)).isSome then
          loopTail cfg neg (radixPrefixValue 0 rp) true false Y Y
         else .err Y)
      else .err (rp ++ r :: Y)) := by
  have hr1 : is09 r = false := by rcases hr with rfl | rfl <;> decide
  have hr2 : (r == 0x72 || r == 0x52) = true := by rcases hr with rfl | rfl <;> decide
  have hpk : is09 (peek (rp ++ r :: Y)) = true := by
    cases rp with
    | nil => exact absurd rfl hne
    | cons d t => exact hall d (by simp)
  have hdw : (rp ++ r :: Y).dropWhile is09 = r :: Y := dropWhile_prefix is09 (r :: Y) hr1 rp hall
  have hsl : slice (rp ++ r :: Y) (r :: Y) = rp := slice_append _ _
  unfold radixPart loopTail
  simp only [hc, hpk, Bool.and_self, ↓reduceIte, hdw, hr2, hsl]
  by_cases hrange : 2 ≤ radixPrefixValue 0 rp ∧ radixPrefixValue 0 rp ≤ 36
  · simp only [hrange, and_self, ↓reduceIte]
    cases hdg : (digitValue (peek Y) (radixPrefixValue 0 rp)).isSome
    · simp
    · simp only [Bool.not_true, Bool.false_eq_true, ↓reduceIte]
      cases radixDigitsLoop cfg.exp (radixPrefixValue 0 rp) true (Y.length + 1) Y <;> rfl
  · have hb : (decide (2 ≤ radixPrefixValue 0 rp) && decide (radixPrefixValue 0 rp ≤ 36)) = false := by
      cases h : (decide (2 ≤ radixPrefixValue 0 rp) && decide (radixPrefixValue 0 rp ≤ 36))
      · rfl
      · simp only [Bool.and_eq_true, decide_eq_true_eq] at h
        exact absurd h hrange
    simp only [hb, hrange, Bool.false_eq_true, ↓reduceIte]

theorem radixPart_noclj (cfg : Cfg) (hc : cfg.clj = false) (neg : Bool) (s : Bytes) :
    radixPart cfg neg s = none := by
  unfold radixPart
  simp only [hc, Bool.false_and, Bool.false_eq_true, ↓reduceIte]

theorem okB_hex {c : UInt8} (h : isRadixDigit 16 c = true) : CljN.OkB c :=
  ⟨(hex_props h).1, (hex_props h).2.1, (radix_props (r := 16) (by omega) h).2.2.2.1⟩

theorem okB_digit {c : UInt8} (h : is09 c = true) : CljN.OkB c :=
  okB_hex (isRadixDigit_of_le (r := 10) (by rw [isRadixDigit_ten]; exact h) (by omega))

theorem uRun09_okB {exp : Bool} {l : Bytes} (h : URun exp is09 l) : ∀ c ∈ l, CljN.OkB c := by
  intro c hc
  rcases h c hc with h | ⟨-, rfl⟩
  · exact okB_digit h
  · decide

theorem hexRun_okB {exp : Bool} {l : Bytes} (h : URun exp (isRadixDigit 16) l) : ∀ c ∈ l, CljN.OkB c := by
  intro c hc
  rcases h c hc with h | ⟨-, rfl⟩
  · exact okB_hex h
  · decide

theorem octRun_hex {exp : Bool} {l : Bytes} (h : URun exp (isRadixDigit 8) l) : URun exp (isRadixDigit 16) l :=
  fun c hc => (h c hc).imp_left (isRadixDigit_of_le · (by omega))

theorem cljInt_okB {exp : Bool} {ip : Bytes} (h : CljInt exp ip) : ∀ c ∈ ip, CljN.OkB c := by
  rcases h with h | h
  · exact fun c hc => okB_digit (zeroRun_all09 h c hc)
  · exact uRun09_okB (nzRun_uRun h)

theorem cljFrac_okB {exp : Bool} {fr : Bytes} (h : CljFrac exp fr) : ∀ c ∈ fr, CljN.OkB c := by
  rcases h with rfl | ⟨fd, rfl, hfd, -⟩
  · nofun
  · exact List.forall_mem_cons.mpr ⟨by decide, uRun09_okB hfd⟩

theorem cljExp_okB {exp : Bool} {ex : Bytes} (h : CljExp exp ex) : ∀ c ∈ ex, CljN.OkB c := by
  rcases h with rfl | ⟨e, es, ed, rfl, he, hes, hed⟩
  · nofun
  · refine List.forall_mem_cons.mpr ⟨?_, List.forall_mem_append.mpr ⟨?_, uRun09_okB (digRun_uRun hed)⟩⟩
    · rcases he with rfl | rfl <;> decide
    · rcases hes with rfl | rfl | rfl <;> decide

theorem mantissa_okB {exp : Bool} {ip fr ex : Bytes} (hm : CljMantissa exp ip fr ex) :
    ∀ c ∈ ip ++ fr ++ ex, CljN.OkB c :=
  List.forall_mem_append.mpr
    ⟨List.forall_mem_append.mpr ⟨cljInt_okB hm.hip, cljFrac_okB hm.hfr⟩, cljExp_okB hm.hex⟩

theorem sign_okB {sg : Bytes} {neg : Bool} (h : SignTok sg neg) : ∀ c ∈ sg, CljN.OkB c := by
  rcases h with ⟨rfl, -⟩ | ⟨rfl, -⟩ | ⟨rfl, -⟩ <;> decide

theorem suffix_okB (suf : NumSuffix) : ∀ c ∈ suf.bytes, CljN.OkB c := by
  cases suf <;> decide

theorem okB_append {a b : Bytes} (ha : ∀ c ∈ a, CljN.OkB c) (hb : ∀ c ∈ b, CljN.OkB c) : ∀ c ∈ a ++ b, CljN.OkB c :=
  List.forall_mem_append.mpr ⟨ha, hb⟩

theorem noSlash_of_okB {l : Bytes} (h : ∀ c ∈ l, CljN.OkB c) : (0x2F : UInt8) ∉ l := fun hm => (h _ hm).2.2 rfl

theorem radixRun_noSlash {exp : Bool} {radix : Nat} {l : Bytes} (hr : radix ≤ 36)
    (h : URun exp (isRadixDigit radix) l) : (0x2F : UInt8) ∉ l := by
  intro hm
  rcases h _ hm with h | ⟨-, h⟩
  · exact (radix_props hr h).2.2.2.1 rfl
  · exact absurd h (by decide)

theorem radixPart_none' (cfg : Cfg) (neg : Bool) (w T : Bytes) (hw : ∀ c ∈ w, CljN.OkB c)
    (hT1 : is09 (peek T) = false) (hT2 : (peek T == 0x72 || peek T == 0x52) = false) :
    radixPart cfg neg (w ++ T) = none := by
  obtain ⟨run, W, rfl, hrun, hW, -⟩ := dropWhile_split is09 (by decide) w
  cases W with
  | nil =>
    rw [List.append_nil]
    exact radixPart_none cfg neg run T hrun hT1 hT2
  | cons c W' =>
    have hc := hw c (by simp)
    have e : (run ++ c :: W') ++ T = run ++ (c :: (W' ++ T)) := by simp
    rw [e]
    refine radixPart_none cfg neg run _ hrun hW ?_
    have h1 : (c == 0x72) = false := by simpa using hc.1
    have h2 : (c == 0x52) = false := by simpa using hc.2.1
    simp [peek_cons, h1, h2]

theorem zeroPart_eq (cfg : Cfg) (hc : cfg.clj = true) (s0 : Bytes) (neg : Bool) (zs X : Bytes) (hz : ZeroRun zs)
    (hX : (peek X == 0x30) = false) :
    zeroPart cfg s0 neg (zs ++ X) =
      if peek X == 0x78 || peek X == 0x58 then
        (if (digitValue (peek (adv X)) 16).isSome then loopTail cfg neg 16 false true (adv X) (adv X)
         else .err (adv X))
      else if 0x31 ≤ peek X && peek X ≤ 0x37 then loopTail cfg neg 8 false true (zs ++ X) X
      else if peek X == 0x38 || peek X == 0x39 then .err X
      else zeroRest cfg s0 neg (zs ++ X) X := by
  obtain ⟨t, rfl, ht⟩ := zeroRun_cons hz
  have hadv : adv (0x30 :: t ++ X) = t ++ X := rfl
  have hdz : (t ++ X).dropWhile (· == 0x30) = X :=
    dropWhile_prefix (· == 0x30) X hX t (fun c hc => by rw [ht c hc]; rfl)
  unfold zeroPart cljBranch loopTail
  simp only [hc, ↓reduceIte, hadv, hdz]
  by_cases h1 : (peek X == 0x78 || peek X == 0x58) = true
  · simp only [h1, ↓reduceIte]
    cases hdg : (digitValue (peek (adv X)) 16).isSome
    · simp
    · simp only [Bool.not_true, Bool.false_eq_true, ↓reduceIte]
      cases radixDigitsLoop cfg.exp 16 false ((adv X).length + 1) (adv X) <;> rfl
  · simp only [h1, Bool.false_eq_true, ↓reduceIte]
    by_cases h2 : (decide (0x31 ≤ peek X) && decide (peek X ≤ 0x37)) = true
    · simp only [h2, ↓reduceIte]
      cases radixDigitsLoop cfg.exp 8 false (X.length + 1) X <;> rfl
    · simp only [h2, Bool.false_eq_true, ↓reduceIte]
      by_cases h3 : (peek X == 0x38 || peek X == 0x39) = true
      · simp only [h3, ↓reduceIte]
      · simp only [h3, Bool.false_eq_true, ↓reduceIte]

theorem zeroPart_noclj (cfg : Cfg) (hc : cfg.clj = false) (s0 : Bytes) (neg : Bool) (X : Bytes) :
    zeroPart cfg s0 neg (0x30 :: X) =
      if is09 (peek X) then .err X else zeroRest cfg s0 neg (0x30 :: X) X := by
  unfold zeroPart cljBranch
  simp only [hc, Bool.false_eq_true, ↓reduceIte, adv_cons]
  by_cases h : is09 (peek X) = true
  · simp only [h, ↓reduceIte]
  · simp only [h, Bool.false_eq_true, ↓reduceIte]

theorem zeroRest_dot (cfg : Cfg) (s0 : Bytes) (neg : Bool) (dS : Bytes) {X : Bytes} (h : peek X = 0x2E) :
    zeroRest cfg s0 neg dS X = decimalPart cfg s0 neg dS X := by
  unfold zeroRest
  simp only [h, BEq.rfl, ↓reduceIte]

theorem zeroRest_N (cfg : Cfg) (s0 : Bytes) (neg : Bool) (dS t : Bytes) :
    zeroRest cfg s0 neg dS (0x4E :: t) = finishNum (.bigint neg 10 [0x30]) t := rfl

theorem zeroRest_M (cfg : Cfg) (s0 : Bytes) (neg : Bool) (dS t : Bytes) :
    zeroRest cfg s0 neg dS (0x4D :: t) = finishNum (.bigdec neg [0x30]) t := rfl

theorem zeroRest_exp (cfg : Cfg) (s0 : Bytes) (neg : Bool) (dS : Bytes) {X : Bytes}
    (h : (peek X == 0x65 || peek X == 0x45) = true) :
    zeroRest cfg s0 neg dS X = exponentPart cfg s0 neg false dS X := by
  have hne : (peek X == 0x2E) = false ∧ (peek X == 0x4E) = false ∧ (peek X == 0x4D) = false := by
    have h' := h
    simp only [Bool.or_eq_true, beq_iff_eq] at h'
    rcases h' with e | e <;> rw [e] <;> decide
  unfold zeroRest
  simp only [h, hne.1, hne.2.1, hne.2.2, Bool.false_eq_true, ↓reduceIte]

theorem zeroRest_slash (cfg : Cfg) (hc : cfg.clj = true) (s0 : Bytes) (neg : Bool) (dS Y : Bytes) :
    zeroRest cfg s0 neg dS (0x2F :: Y) =
      match ratioDenominator Y with
      | .error cur => .err cur
      | .ok s' => .ok (.int 0) s' := by
  obtain ⟨clj, exp⟩ := cfg
  subst hc
  rfl

theorem zeroRest_int (cfg : Cfg) (s0 : Bytes) (neg : Bool) (dS : Bytes) {X : Bytes}
    (hD : (peek X == 0x2E || (peek X == 0x65 || peek X == 0x45)) = false) (hN : peek X ≠ 0x4E)
    (hM : peek X ≠ 0x4D) (hR : cfg.clj = true → peek X ≠ 0x2F) :
    zeroRest cfg s0 neg dS X = finishNum (.int 0) X := by
  have hR' : (cfg.clj && peek X == 0x2F) = false := by
    cases hc : cfg.clj
    · rfl
    · exact beq_eq_false_iff_ne.mpr (hR hc)
  rw [Bool.or_eq_false_iff] at hD
  unfold zeroRest
  simp only [hD.1, hD.2, beq_eq_false_iff_ne.mpr hN, beq_eq_false_iff_ne.mpr hM, hR', Bool.false_eq_true,
    ↓reduceIte]

theorem zeroRest_afterIp (cfg : Cfg) (s0 : Bytes) (neg : Bool) (zs X : Bytes) (hz : ZeroRun zs)
    (h : (peek X == 0x2E || (peek X == 0x65 || peek X == 0x45)) = true) :
    zeroRest cfg s0 neg (zs ++ X) X = afterIp cfg s0 neg (zs ++ X) X := by
  have hl : lastIsUnderscore (zs ++ X) X = false :=
    (lastIsUnderscore_iff zs X).mpr (noTrailU_of_not_mem (zeroRun_noU hz))
  unfold afterIp
  by_cases hp : (peek X == 0x2E) = true
  · rw [if_pos hp, zeroRest_dot cfg s0 neg _ (beq_iff_eq.mp hp)]
  · have hE : (peek X == 0x65 || peek X == 0x45) = true := by
      rwa [Bool.not_eq_true _ |>.mp hp, Bool.false_or] at h
    rw [if_neg hp, zeroRest_exp cfg s0 neg _ hE]
    unfold afterMantissa
    rw [if_pos hE, hl, Bool.and_false, if_neg Bool.false_ne_true]

/-- `zeroRest_afterIp` holds of any run of zeros, but only before `.` or an exponent; of the single `0`
the same holds at every next byte but the `/` of a ratio. -/
theorem zeroRest_single (cfg : Cfg) (s0 : Bytes) (neg : Bool) (X : Bytes)
    (hz : (cfg.clj && peek X == 0x2F) = false) :
    zeroRest cfg s0 neg (0x30 :: X) X = afterIp cfg s0 neg (0x30 :: X) X := by
  have hl : lastIsUnderscore (0x30 :: X) X = false :=
    (lastIsUnderscore_iff [0x30] X).mpr (by simp [NoTrailU])
  have hsl : slice (0x30 :: X) X = [0x30] := slice_append [0x30] X
  unfold zeroRest afterIp
  by_cases h1 : (peek X == 0x2E) = true
  · simp only [h1, ↓reduceIte]
  · simp only [h1, Bool.false_eq_true, ↓reduceIte]
    unfold afterMantissa
    by_cases h2 : (peek X == 0x65 || peek X == 0x45) = true
    · have h3 : (peek X == 0x4E) = false ∧ (peek X == 0x4D) = false := by
        simp only [Bool.or_eq_true, beq_iff_eq] at h2
        rcases h2 with h2 | h2 <;> rw [h2] <;> decide
      simp only [h2, h3.1, h3.2, hl, Bool.and_false, Bool.false_eq_true, ↓reduceIte]
    · simp only [h2, Bool.false_eq_true, ↓reduceIte]
      unfold decimalTail
      simp only [hz, hl, hsl, Bool.and_false, Bool.false_eq_true, ↓reduceIte, Bool.not_false,
        Bool.and_true, Bool.or_self, intOrBig_zero]

theorem nonzeroPart_eq (cfg : Cfg) (s0 : Bytes) (neg : Bool) (s X : Bytes)
    (h : decDigitsLoop cfg.exp (s.length + 1) s = .ok X) :
    nonzeroPart cfg s0 neg s = afterIp cfg s0 neg s X := by
  unfold nonzeroPart
  rw [h]

theorem nonzeroPart_inv (cfg : Cfg) (s0 : Bytes) (neg : Bool) (body : Bytes) (v : NumVal) (rest : Bytes)
    (hb : is09 (peek body) = true) (h0 : ¬ (peek body == 0x30) = true)
    (h : nonzeroPart cfg s0 neg body = .ok v rest) :
    ∃ ip X, body = ip ++ X ∧ NzRun cfg.exp ip ∧ afterIp cfg s0 neg (ip ++ X) X = .ok v rest := by
  rcases decLoop_split cfg.exp body (body.length + 1) (Nat.le_refl _) with
    ⟨cur, he⟩ | ⟨run, X, hb', hrun, hnt, hT, -, hl⟩
  · unfold nonzeroPart at h
    rw [he] at h
    exact NumOut.noConfusion h
  · rw [nonzeroPart_eq cfg _ neg body X hl] at h
    subst hb'
    have hdr : DigRun cfg.exp is09 run := run_head hrun hT hb
    refine ⟨run, X, rfl, ⟨hdr, ?_, hnt⟩, h⟩
    obtain ⟨d, t, rfl, -, -⟩ := hdr
    intro hd
    simp only [List.head?_cons, Option.some.injEq] at hd
    subst hd
    exact h0 rfl

theorem numBody_noclj_inv (cfg : Cfg) (hc : cfg.clj = false) (s0 : Bytes) (neg : Bool) (body : Bytes)
    (v : NumVal) (rest : Bytes) (hb : is09 (peek body) = true) (h : numBody cfg s0 neg body = .ok v rest) :
    ∃ ip X, body = ip ++ X ∧ (ip = [0x30] ∨ NzRun cfg.exp ip) ∧
      afterIp cfg s0 neg (ip ++ X) X = .ok v rest := by
  rw [numBody, radixPart_noclj cfg hc] at h
  simp only [] at h
  by_cases h0 : (peek body == 0x30) = true
  · rw [if_pos h0] at h
    obtain ⟨X, rfl⟩ := of_peek (beq_iff_eq.mp h0) (by decide)
    rw [zeroPart_noclj cfg hc] at h
    obtain ⟨-, h⟩ := ite_err_ok h
    rw [zeroRest_single cfg _ neg X (by rw [hc, Bool.false_and])] at h
    exact ⟨[0x30], X, rfl, Or.inl rfl, h⟩
  · rw [if_neg h0] at h
    obtain ⟨ip, X', rfl, hn, h⟩ := nonzeroPart_inv cfg _ neg body v rest hb h0 h
    exact ⟨ip, X', rfl, Or.inr hn, h⟩

theorem numBody_zeroPart (cfg : Cfg) (s0 : Bytes) (neg : Bool) (zs X : Bytes) (hz : ZeroRun zs)
    (hrad : radixPart cfg neg (zs ++ X) = none) : numBody cfg s0 neg (zs ++ X) = zeroPart cfg s0 neg (zs ++ X) := by
  have hpk : (peek (zs ++ X) == 0x30) = true := by
    obtain ⟨t, rfl, -⟩ := zeroRun_cons hz
    rfl
  rw [numBody, hrad]
  simp only [hpk, ↓reduceIte]

/-- which runs of zeros the configuration admits as an integer part: any with the Clojure flag, the
    lone `0` without -/
theorem lone_zero {cfg : Cfg} {ip : Bytes} (h1 : cfg.clj = true ∨ ip = [0x30] ∨ NzRun cfg.exp ip)
    (hz : ZeroRun ip) (hc : cfg.clj = false) : ip = [0x30] := by
  rcases h1 with h | h | h
  · rw [hc] at h
    exact Bool.noConfusion h
  · exact h
  · exact (nz_not_zero h hz).elim

theorem numBody_zeros (cfg : Cfg) (s0 : Bytes) (neg : Bool) (zs X : Bytes) (hz : ZeroRun zs)
    (h1 : cfg.clj = false → zs = [0x30]) (hrad : radixPart cfg neg (zs ++ X) = none)
    (hstop : stopA (peek X) = true) :
    numBody cfg s0 neg (zs ++ X) = zeroRest cfg s0 neg (zs ++ X) X := by
  obtain ⟨k09, -, -, -, kx, kX, k0, k17, k8, k9⟩ := stopA_unpack hstop
  rw [numBody_zeroPart cfg s0 neg zs X hz hrad]
  cases hc : cfg.clj
  · obtain rfl := h1 hc
    show zeroPart cfg s0 neg (0x30 :: X) = _
    rw [zeroPart_noclj cfg hc, k09]
    rfl
  · rw [zeroPart_eq cfg hc s0 neg zs X hz k0]
    simp only [kx, kX, k17, k8, k9, Bool.or_self, Bool.false_eq_true, ↓reduceIte]

theorem numBody_nz (cfg : Cfg) (s0 : Bytes) (neg : Bool) (ip X : Bytes) (hn : NzRun cfg.exp ip)
    (hrad : radixPart cfg neg (ip ++ X) = none) (h1 : is09 (peek X) = false) (h2 : (peek X == 0x5F) = false) :
    numBody cfg s0 neg (ip ++ X) = afterIp cfg s0 neg (ip ++ X) X := by
  have hpk : (peek (ip ++ X) == 0x30) = false := by
    obtain ⟨d, t, rfl, -, hd0, -⟩ := nzRun_cons hn
    simpa [peek_cons] using hd0
  rw [numBody, hrad]
  simp only [hpk, Bool.false_eq_true, ↓reduceIte]
  exact nonzeroPart_eq cfg s0 neg _ X
    (decLoop_run cfg.exp X h1 (fun _ => h2) ip _ (nzRun_uRun hn) hn.2.2 (by simp))

theorem peekX_facts {exp : Bool} {fr ex T : Bytes} (hfr : CljFrac exp fr) (hex : CljExp exp ex)
    (hT : stopProps (peek T) = true) :
    stopA (peek (fr ++ (ex ++ T))) = true ∧
      ((fr ≠ [] ∨ ex ≠ []) → (peek (fr ++ (ex ++ T)) == 0x2E ||
        (peek (fr ++ (ex ++ T)) == 0x65 || peek (fr ++ (ex ++ T)) == 0x45)) = true) := by
  rcases hfr with rfl | ⟨fd, rfl, -, -⟩
  · rcases hex with rfl | ⟨e, es, ed, rfl, he, -, -⟩
    · refine ⟨stopA_of_stopProps hT, ?_⟩
      rintro (h | h) <;> exact absurd rfl h
    · rcases he with rfl | rfl
      · exact ⟨(by decide : stopA 0x65 = true), fun _ => rfl⟩
      · exact ⟨(by decide : stopA 0x45 = true), fun _ => rfl⟩
  · exact ⟨(by decide : stopA 0x2E = true), fun _ => rfl⟩

/-- a decimal mantissa leads to `decimalTail` at its end, unless it is a bare run of zeros other
    than a lone `0` in front of no `/` -/
theorem decimal_fwd (cfg : Cfg) (s0 : Bytes) (neg : Bool) (ip fr ex T : Bytes)
    (hm : CljMantissa cfg.exp ip fr ex) (h1 : cfg.clj = true ∨ ip = [0x30] ∨ NzRun cfg.exp ip)
    (hz : ZeroRun ip → fr = [] → ex = [] → ip = [0x30] ∧ (cfg.clj && peek T == 0x2F) = false)
    (hT : stopProps (peek T) = true) :
    numBody cfg s0 neg (ip ++ (fr ++ (ex ++ T))) =
      decimalTail cfg s0 neg (!fr.isEmpty) (!ex.isEmpty) (ip ++ (fr ++ (ex ++ T))) T := by
  obtain ⟨k09, -, kr, kR, -⟩ := stopProps_unpack hT
  have hrad : radixPart cfg neg (ip ++ (fr ++ (ex ++ T))) = none := by
    have e : ip ++ (fr ++ (ex ++ T)) = (ip ++ fr ++ ex) ++ T := by simp
    rw [e]
    exact radixPart_none' cfg neg _ T (mantissa_okB hm) k09 (by simp [kr, kR])
  obtain ⟨hstopA, hpkX⟩ := peekX_facts hm.hfr hm.hex hT
  obtain ⟨k09, kUs, -⟩ := stopA_unpack hstopA
  have hsep : ex ≠ [] → NoTrailU (ip ++ fr) :=
    fun hne => noTrailU_append_of (cljInt_noTrail hm.hip) (hm.hsep hne)
  rcases hm.hip with hzr | hn
  · rw [numBody_zeros cfg s0 neg ip _ hzr (lone_zero h1 hzr) hrad hstopA]
    by_cases hne : fr ≠ [] ∨ ex ≠ []
    · rw [zeroRest_afterIp cfg s0 neg ip _ hzr (hpkX hne)]
      exact afterIp_fwd cfg s0 neg ip fr ex T hm.hfr hm.hex hsep hT
    · obtain ⟨rfl, rfl⟩ : fr = [] ∧ ex = [] := by
        constructor
        · exact Classical.byContradiction fun h => hne (Or.inl h)
        · exact Classical.byContradiction fun h => hne (Or.inr h)
      obtain ⟨rfl, hs⟩ := hz hzr rfl rfl
      exact (zeroRest_single cfg s0 neg T hs).trans
        (afterIp_fwd cfg s0 neg [0x30] [] [] T hm.hfr hm.hex hsep hT)
  · rw [numBody_nz cfg s0 neg ip _ hn hrad k09 kUs]
    exact afterIp_fwd cfg s0 neg ip fr ex T hm.hfr hm.hex hsep hT

theorem mantissa_int {exp : Bool} {ip : Bytes} (hip : CljInt exp ip) : CljMantissa exp ip [] [] :=
  ⟨hip, Or.inl rfl, Or.inl rfl, fun h => absurd rfl h⟩

theorem zeros_fwd (cfg : Cfg) (s0 : Bytes) (neg : Bool) (zs T : Bytes) (hz : ZeroRun zs)
    (h1 : cfg.clj = false → zs = [0x30]) (hT : stopProps (peek T) = true) :
    numBody cfg s0 neg (zs ++ T) = zeroRest cfg s0 neg (zs ++ T) T := by
  obtain ⟨k09, -, kr, kR, -⟩ := stopProps_unpack hT
  refine numBody_zeros cfg s0 neg zs T hz h1 ?_ (stopA_of_stopProps hT)
  exact radixPart_none' cfg neg zs T (cljInt_okB (exp := cfg.exp) (Or.inl hz)) k09
    (by simp [kr, kR])

theorem nz_fwd (cfg : Cfg) (s0 : Bytes) (neg : Bool) (ip T : Bytes) (hn : NzRun cfg.exp ip)
    (hT : stopProps (peek T) = true) :
    numBody cfg s0 neg (ip ++ T) = decimalTail cfg s0 neg false false (ip ++ T) T :=
  decimal_fwd cfg s0 neg ip [] [] T (mantissa_int (Or.inr hn)) (Or.inr (Or.inr hn))
    (fun hz => (nz_not_zero hn hz).elim) hT

/-! ## the classes of tokens, at reader level

One theorem per class of `CljNum`, in the spelling of its constructor, for every configuration: `h1` says
which integer parts the configuration admits.  The completeness theorems of the three grammars and the
token theorems of C04 are instances. -/

theorem read_dec (cfg : Cfg) (sg ip rest : Bytes) (neg : Bool) (hs : SignTok sg neg) (hip : CljInt cfg.exp ip)
    (h1 : cfg.clj = true ∨ ip = [0x30] ∨ NzRun cfg.exp ip) (ht : TermStart rest) :
    readNumber cfg (sg ++ ip ++ rest) = .ok (intPayload neg 10 ip) rest := by
  rw [List.append_assoc, readNumber_sign cfg sg _ neg hs (cljInt_peek hip _)]
  generalize sg ++ (ip ++ rest) = s0
  have hst := term_props (peek_term ht)
  obtain ⟨kSP, kN, kM, kSl⟩ := stopProps2_unpack hst
  obtain ⟨-, -, -, -, kDot, ke, kE, -⟩ := stopProps_unpack kSP
  rcases hip with hz | hn
  · rw [zeros_fwd cfg s0 neg ip rest hz (lone_zero h1 hz) kSP, intPayload_zeros neg ip hz,
      zeroRest_int cfg s0 neg _ (by rw [kDot, ke, kE]; rfl)
        (beq_eq_false_iff_ne.mp kN) (beq_eq_false_iff_ne.mp kM)
        (fun _ => beq_eq_false_iff_ne.mp kSl)]
    exact finishNum_term _ ht
  · rw [nz_fwd cfg s0 neg ip rest hn kSP, decimalTail_int cfg s0 neg ip rest hst, finishNum_term _ ht,
      intOrBig_run cfg 10 (by omega) ip neg (nzRun_digRun hn)]

theorem read_decN (cfg : Cfg) (sg ip rest : Bytes) (neg : Bool) (hs : SignTok sg neg) (hip : CljInt cfg.exp ip)
    (h1 : cfg.clj = true ∨ ip = [0x30] ∨ NzRun cfg.exp ip) (ht : TermStart rest) :
    readNumber cfg (sg ++ ip ++ [0x4E] ++ rest) = .ok (.bigint neg 10 (zeroNorm ip)) rest := by
  rw [show sg ++ ip ++ [0x4E] ++ rest = sg ++ (ip ++ 0x4E :: rest) by simp,
    readNumber_sign cfg sg _ neg hs (cljInt_peek hip _)]
  generalize sg ++ (ip ++ 0x4E :: rest) = s0
  have hN : stopProps (peek (0x4E :: rest)) = true := (by decide : stopProps 0x4E = true)
  rcases hip with hz | hn
  · rw [zeros_fwd cfg s0 neg ip _ hz (lone_zero h1 hz) hN, zeroNorm_zeros hz, zeroRest_N]
    exact finishNum_term _ ht
  · rw [nz_fwd cfg s0 neg ip _ hn hN, decimalTail_N cfg s0 neg ip rest hn.2.2, finishNum_term _ ht,
      nz_zeroNorm hn]

theorem read_float (cfg : Cfg) (sg ip fr ex rest : Bytes) (neg : Bool) (hs : SignTok sg neg)
    (hm : CljMantissa cfg.exp ip fr ex) (h1 : cfg.clj = true ∨ ip = [0x30] ∨ NzRun cfg.exp ip)
    (hne : fr ≠ [] ∨ ex ≠ []) (ht : TermStart rest) :
    readNumber cfg (sg ++ ip ++ fr ++ ex ++ rest) = .ok (.float (parseDouble cfg (sg ++ ip ++ fr ++ ex))) rest := by
  have hst := term_props (peek_term ht)
  obtain ⟨kSP, -⟩ := stopProps2_unpack hst
  have e : sg ++ ip ++ fr ++ ex ++ rest = sg ++ (ip ++ (fr ++ (ex ++ rest))) := by simp
  rw [e, readNumber_sign cfg sg _ neg hs (cljInt_peek hm.hip _),
    decimal_fwd cfg _ neg ip fr ex rest hm h1 (fun _ hf he => (hne.elim (absurd hf) (absurd he))) kSP,
    decimalTail_float cfg _ neg _ _ _ rest hst (flags_of_ne hne), finishNum_term _ ht, ← e, slice_append]

theorem read_decM (cfg : Cfg) (sg ip fr ex rest : Bytes) (neg : Bool) (hs : SignTok sg neg)
    (hm : CljMantissa cfg.exp ip fr ex) (h1 : cfg.clj = true ∨ ip = [0x30] ∨ NzRun cfg.exp ip)
    (hu : NoTrailU (ip ++ fr ++ ex)) (ht : TermStart rest) :
    readNumber cfg (sg ++ ip ++ fr ++ ex ++ [0x4D] ++ rest) =
      .ok (.bigdec neg (zeroNorm (ip ++ fr ++ ex))) rest := by
  rw [show sg ++ ip ++ fr ++ ex ++ [0x4D] ++ rest = sg ++ (ip ++ (fr ++ (ex ++ 0x4D :: rest))) by simp,
    readNumber_sign cfg sg _ neg hs (cljInt_peek hm.hip _)]
  generalize sg ++ (ip ++ (fr ++ (ex ++ 0x4D :: rest))) = s0
  have hM : stopProps (peek (0x4D :: rest)) = true := (by decide : stopProps 0x4D = true)
  by_cases hz : ZeroRun ip ∧ fr = [] ∧ ex = []
  · obtain ⟨hz, rfl, rfl⟩ := hz
    simp only [List.nil_append, List.append_nil]
    rw [zeros_fwd cfg s0 neg ip _ hz (lone_zero h1 hz) hM, zeroNorm_zeros hz, zeroRest_M]
    exact finishNum_term _ ht
  · have hnz : fr = [] → ex = [] → NzRun cfg.exp ip := by
      intro h1 h2
      rcases hm.hip with hzr | hn
      · exact absurd ⟨hzr, h1, h2⟩ hz
      · exact hn
    have e : ip ++ (fr ++ (ex ++ 0x4D :: rest)) = (ip ++ fr ++ ex) ++ 0x4D :: rest := by simp
    rw [decimal_fwd cfg s0 neg ip fr ex _ hm h1 (fun hzr hf he => absurd ⟨hzr, hf, he⟩ hz) hM, e,
      decimalTail_M cfg s0 neg _ _ _ rest hu, finishNum_term _ ht, zeroNorm_body hm.hfr hm.hex hnz]

theorem read_ratio (cfg : Cfg) (hc : cfg.clj = true) (sg nd dd rest : Bytes) (neg : Bool) (hs : SignTok sg neg)
    (hn : NzRun cfg.exp nd) (hd : RatioDen dd)
    (hend : TermStart rest ∨ ((∃ i, ratioValue cfg neg nd dd = .int i) ∧ DelimStart rest)) :
    readNumber cfg (sg ++ nd ++ [0x2F] ++ dd ++ rest) = .ok (ratioValue cfg neg nd dd) rest := by
  have hdl : DelimStart rest := hend.elim TermStart.delimStart And.right
  rw [show sg ++ nd ++ [0x2F] ++ dd ++ rest = sg ++ (nd ++ 0x2F :: (dd ++ rest)) by simp,
    readNumber_sign cfg sg _ neg hs (cljInt_peek (Or.inr hn) _)]
  generalize sg ++ (nd ++ 0x2F :: (dd ++ rest)) = s0
  rw [nz_fwd cfg s0 neg nd (0x2F :: (dd ++ rest)) hn (by decide : stopProps 0x2F = true),
    decimalTail_slash cfg hc s0 neg nd _ hn.2.2]
  unfold ratioBranch
  rw [ratioDen_fwd dd rest hd hdl]
  simp only [slice_append]
  have hpn : ∃ V, parseInt64 cfg nd 10 neg = inRange neg V :=
    ⟨_, parseInt64_run cfg 10 (by omega) nd neg (nzRun_digRun hn)⟩
  rcases ratioOut_eq cfg neg nd dd rest hpn hd with ⟨i, hv, ho⟩ | ⟨hni, ho⟩
  · rw [ho, hv]
  · rw [ho]
    rcases hend with h | ⟨⟨i, hi⟩, -⟩
    · exact finishNum_term _ h
    · exact absurd hi (hni i)

theorem read_zeroRatio (cfg : Cfg) (hc : cfg.clj = true) (sg zs dd rest : Bytes) (neg : Bool) (hs : SignTok sg neg)
    (hz : ZeroRun zs) (hd : RatioDen dd) (hdl : DelimStart rest) :
    readNumber cfg (sg ++ zs ++ [0x2F] ++ dd ++ rest) = .ok (.int 0) rest := by
  rw [show sg ++ zs ++ [0x2F] ++ dd ++ rest = sg ++ (zs ++ 0x2F :: (dd ++ rest)) by simp,
    readNumber_sign cfg sg _ neg hs (cljInt_peek (exp := cfg.exp) (Or.inl hz) _)]
  generalize sg ++ (zs ++ 0x2F :: (dd ++ rest)) = s0
  rw [zeros_fwd cfg s0 neg zs (0x2F :: (dd ++ rest)) hz (fun h => absurd hc (by simp [h]))
      (by decide : stopProps 0x2F = true), zeroRest_slash cfg hc,
    ratioDen_fwd dd rest hd hdl]

theorem read_hex (cfg : Cfg) (hc : cfg.clj = true) (sg zs hs : Bytes) (x : UInt8) (neg : Bool) (suf : NumSuffix)
    (rest : Bytes) (hs' : SignTok sg neg) (hz : ZeroRun zs) (hx : x = 0x78 ∨ x = 0x58)
    (hh : DigRun cfg.exp (isRadixDigit 16) hs) (ht : TermStart rest) :
    readNumber cfg (sg ++ zs ++ [x] ++ hs ++ suf.bytes ++ rest) = .ok (radixPayload suf neg 16 hs) rest := by
  rw [show sg ++ zs ++ [x] ++ hs ++ suf.bytes ++ rest = sg ++ (zs ++ x :: (hs ++ (suf.bytes ++ rest))) by simp,
    readNumber_sign cfg sg _ neg hs' (cljInt_peek (exp := cfg.exp) (Or.inl hz) _)]
  generalize sg ++ (zs ++ x :: (hs ++ (suf.bytes ++ rest))) = s0
  have hx1 : is09 x = false := by rcases hx with rfl | rfl <;> decide
  have hx2 : (x == 0x72 || x == 0x52) = false := by rcases hx with rfl | rfl <;> decide
  have hx3 : (x == 0x30) = false := by rcases hx with rfl | rfl <;> decide
  have hx4 : (x == 0x78 || x == 0x58) = true := by rcases hx with rfl | rfl <;> decide
  rw [numBody_zeroPart cfg s0 neg zs (x :: (hs ++ (suf.bytes ++ rest))) hz
      (radixPart_none cfg neg zs (x :: (hs ++ (suf.bytes ++ rest))) (zeroRun_all09 hz) hx1 hx2),
    zeroPart_eq cfg hc s0 neg zs (x :: (hs ++ (suf.bytes ++ rest))) hz hx3]
  have hdg : (digitValue (peek (hs ++ (suf.bytes ++ rest))) 16).isSome = true := digRun_peek hh _
  simp only [peek_cons, adv_cons, hx4, ↓reduceIte, hdg]
  exact loopTail_fwd cfg neg 16 (by omega) false true [] hs rest suf nofun hh
    (fun h => Bool.noConfusion h) ht (fun _ => rfl) (fun _ => by decide) (fun _ => by decide)

theorem read_octal (cfg : Cfg) (hc : cfg.clj = true) (sg zs os : Bytes) (neg : Bool) (suf : NumSuffix)
    (rest : Bytes) (hs : SignTok sg neg) (hz : ZeroRun zs) (ho : DigRun cfg.exp (isRadixDigit 8) os)
    (hfirst : os.head? ≠ some 0x30) (ht : TermStart rest) :
    readNumber cfg (sg ++ zs ++ os ++ suf.bytes ++ rest) = .ok (radixPayload suf neg 8 (zs ++ os)) rest := by
  rw [show sg ++ zs ++ os ++ suf.bytes ++ rest = sg ++ (zs ++ (os ++ (suf.bytes ++ rest))) by simp,
    readNumber_sign cfg sg _ neg hs (cljInt_peek (exp := cfg.exp) (Or.inl hz) _)]
  generalize sg ++ (zs ++ (os ++ (suf.bytes ++ rest))) = s0
  have hst := term_props (peek_term ht)
  obtain ⟨k09, -, kr, kR, -⟩ := stopProps_unpack (stopProps2_unpack hst).1
  have hrad : radixPart cfg neg (zs ++ (os ++ (suf.bytes ++ rest))) = none := by
    have e : zs ++ (os ++ (suf.bytes ++ rest)) = (zs ++ os ++ suf.bytes) ++ rest := by simp
    rw [e]
    exact radixPart_none' cfg neg _ rest (okB_append (okB_append (cljInt_okB (exp := cfg.exp) (Or.inl hz))
      (hexRun_okB (octRun_hex (digRun_uRun ho)))) (suffix_okB suf)) k09 (by simp [kr, kR])
  obtain ⟨o, ot, rfl, hod, hot⟩ := ho
  have ho1 := octal_props hod
  have ho0 : (o == 0x30) = false := by
    cases h : o == 0x30
    · rfl
    · exfalso
      apply hfirst
      simp only [List.head?_cons]
      rw [eq_of_beq h]
  have ho17 := ho1.2.2.2 ho0
  have hp0 : (peek (o :: ot ++ (suf.bytes ++ rest)) == 0x30) = false := ho0
  have hp1 : (peek (o :: ot ++ (suf.bytes ++ rest)) == 0x78) = false := ho1.2.1
  have hp2 : (peek (o :: ot ++ (suf.bytes ++ rest)) == 0x58) = false := ho1.2.2.1
  have hp3 : (decide (0x31 ≤ peek (o :: ot ++ (suf.bytes ++ rest))) &&
      decide (peek (o :: ot ++ (suf.bytes ++ rest)) ≤ 0x37)) = true := ho17
  rw [numBody_zeroPart cfg s0 neg zs _ hz hrad, zeroPart_eq cfg hc s0 neg zs _ hz hp0]
  simp only [hp1, hp2, hp3, Bool.or_self, Bool.false_eq_true, ↓reduceIte]
  exact loopTail_fwd cfg neg 8 (by omega) false true zs (o :: ot) rest suf
    (fun c hc' => by rw [hz.2 c hc']; decide) ⟨o, ot, rfl, hod, hot⟩
    (fun h => Bool.noConfusion h) ht (fun _ => rfl) (fun _ => by decide) (fun _ => by decide)

theorem read_radix (cfg : Cfg) (hc : cfg.clj = true) (sg rp ds : Bytes) (r : UInt8) (neg : Bool) (suf : NumSuffix)
    (rest : Bytes) (hs : SignTok sg neg) (hrp : rp ≠ [] ∧ AllDigits rp)
    (hrv : 2 ≤ natOfDigits rp ∧ natOfDigits rp ≤ 36) (hr : r = 0x72 ∨ r = 0x52)
    (hd : DigRun cfg.exp (isRadixDigit (natOfDigits rp)) ds) (hu : NoTrailU ds)
    (hsuf : suf = .none ∨ (suf = .M ∧ isRadixDigit (natOfDigits rp) 0x4D = false)) (ht : TermStart rest) :
    readNumber cfg (sg ++ rp ++ [r] ++ ds ++ suf.bytes ++ rest) =
      .ok (radixPayload suf neg (natOfDigits rp) ds) rest := by
  rw [show sg ++ rp ++ [r] ++ ds ++ suf.bytes ++ rest = sg ++ (rp ++ r :: (ds ++ (suf.bytes ++ rest))) by simp,
    readNumber_sign cfg sg _ neg hs (peek_prefix hrp.1 hrp.2 _)]
  generalize sg ++ (rp ++ r :: (ds ++ (suf.bytes ++ rest))) = s0
  have hval : radixPrefixValue 0 rp = natOfDigits rp := radixPrefixValue_eq rp 0 (Or.inr hrv.2)
  rw [numBody, radixPart_some cfg hc neg rp r _ hrp.1 hrp.2 hr, hval]
  have hdg : (digitValue (peek (ds ++ (suf.bytes ++ rest))) (natOfDigits rp)).isSome = true := digRun_peek hd _
  simp only [hrv, and_self, ↓reduceIte, hdg]
  have hN : suf ≠ .N := by
    rcases hsuf with h | ⟨h, -⟩ <;> rw [h] <;> exact NumSuffix.noConfusion
  refine loopTail_fwd cfg neg (natOfDigits rp) hrv true false [] ds rest suf nofun hd (fun _ => hu) ht
    (fun h => absurd h hN) ?_ (fun h => absurd h hN)
  rintro rfl
  exact hsuf.elim (fun h => NumSuffix.noConfusion h) And.right

theorem read_suffix_none (cfg : Cfg) {pre ds rest : Bytes} {neg : Bool} {radix : Nat} (hr : 2 ≤ radix ∧ radix ≤ 36)
    (hd : DigRun cfg.exp (isRadixDigit radix) ds)
    (h : readNumber cfg (pre ++ NumSuffix.none.bytes ++ rest) = .ok (radixPayload .none neg radix ds) rest) :
    readNumber cfg (pre ++ rest) = .ok (intOrBig cfg ds radix neg) rest := by
  rw [← radixOut_run cfg .none neg radix hr ds hd] at h
  rwa [show pre ++ NumSuffix.none.bytes = pre from List.append_nil pre] at h

end Edn.Proofs.CNum
