/-
  Everything below the six reader functions of Edn.Model.ReaderA keeps the ledger (`GoodC`: the checker
  reads on, `Cont`, and the live raw blocks and both arenas are as before): a request on the parser's
  arena, a bracket `malloc` / `calloc` … `free`, hence equality, hashing, the three duplicate strategies,
  the builders, the metadata merge, the heap copy of a long float literal (`…_kept`).  The text-block
  reader is done by hand: its line-pointer array, `malloc`ed and doubled by `realloc`, and one `malloc`ed
  record per line are live on top of the caller's blocks while the lines are read (`TbSt`) and released
  on every path, whatever requests fail in between.
-/
import Edn.Proofs.AllocLedgerChecker

namespace Edn.Proofs.AllocLedger
open Edn.Model Edn.Proofs Edn.Proofs.AllocBasic

structure Via (a a' : ASt) : Prop where
  arena : a'.arena = a.arena
  tmp : a'.tmp = a.tmp
  sync : Sync a → Sync a'

/-- what a computation that keeps the ledger does to the allocation state.  (`Edn.Proofs.AllocBound.Good`,
    `Edn.Proofs.AllocSim.Good` and `Edn.Proofs.Good` are predicates on values and have nothing to do with
    this one.) -/
structure Good (a a' : ASt) : Prop extends Via a a' where
  live : a'.live = a.live

/-- `Via` with the run of the checker in place of its consequence `Via.sync`; the lemmas below prove this -/
structure ViaC (a a' : ASt) : Prop where
  arena : a'.arena = a.arena
  tmp : a'.tmp = a.tmp
  cont : Cont a a'

structure GoodC (a a' : ASt) : Prop extends ViaC a a' where
  live : a'.live = a.live

theorem GoodC.good {a a' : ASt} (h : GoodC a a') : Good a a' := ⟨⟨h.arena, h.tmp, h.cont.sync⟩, h.live⟩

theorem ViaC.refl (a : ASt) : ViaC a a := ⟨rfl, rfl, .refl a⟩

theorem ViaC.trans {a b c : ASt} (h1 : ViaC a b) (h2 : ViaC b c) : ViaC a c :=
  ⟨h2.arena.trans h1.arena, h2.tmp.trans h1.tmp, h1.cont.trans h2.cont⟩

theorem GoodC.refl (a : ASt) : GoodC a a := ⟨ViaC.refl a, rfl⟩

theorem GoodC.trans {a b c : ASt} (h1 : GoodC a b) (h2 : GoodC b c) : GoodC a c :=
  ⟨ViaC.trans h1.toViaC h2.toViaC, h2.live.trans h1.live⟩

theorem aliveN_alive : aliveN .alive = 1 := rfl

theorem arena_answer_ok (o : Bool) (s t : ArenaSt) :
    ((o || (s != .alive)) || (aliveN s + aliveN t != 0 && !(s == .destroyed))) = true := by
  cases s <;> cases t <;> cases o <;> rfl

theorem request_good (orc : Nat → Bool) (a : ASt) (old : Nat) : GoodC a (a.request orc .arena old).2 := by
  refine ⟨⟨rfl, rfl, .push _ rfl ?_⟩, rfl⟩
  have h := arena_answer_ok (orc (a.reqs + 1)) a.arena a.tmp
  simp only [Led.step, led, ASt.request, bne_self_eq_false, Bool.false_eq_true, ↓reduceIte, beq_arena_arena,
    Bool.true_and, h]

theorem requestTmp_good (orc : Nat → Bool) (a : ASt) (old : Nat) (h : a.tmp = .alive) :
    GoodC a (a.request orc .arenaTmp old).2 := by
  refine ⟨⟨rfl, rfl, .push _ rfl ?_⟩, rfl⟩
  have h' : (aliveN a.arena + aliveN a.tmp != 0 && !(a.tmp == .destroyed)) = true := by
    rw [h]; cases a.arena <;> rfl
  simp only [Led.step, led, ASt.request, bne_self_eq_false, Bool.false_eq_true, ↓reduceIte, h', Bool.or_true]

theorem bufs_good (a : ASt) (b : List Nat) : GoodC a { a with bufs := b } :=
  ⟨⟨rfl, rfl, ⟨[], rfl, rfl⟩⟩, rfl⟩

theorem rawAlloc_via (orc : Nat → Bool) (k : ReqKind) (hk : plainRaw k) (a : ASt) : ViaC a (a.rawAlloc orc k).2 := by
  rcases hk with rfl | rfl <;> cases ho : orc (a.reqs + 1) <;>
    simp only [ASt.rawAlloc, ASt.request, ho, beq_malloc_arena, beq_calloc_arena, Bool.false_and, Bool.or_false,
      Bool.not_false, Bool.not_true, Bool.false_eq_true, ↓reduceIte] <;>
    exact ⟨rfl, rfl, .push _ rfl (by simp [Led.step, led])⟩

theorem rawAlloc_none_good {orc : Nat → Bool} {k : ReqKind} {a a1 : ASt} (hk : plainRaw k)
    (h : a.rawAlloc orc k = (none, a1)) : GoodC a a1 := by
  have v := rawAlloc_via orc k hk a
  have l := rawAlloc_none orc k a
  rw [h] at v l
  exact ⟨v, l rfl⟩

theorem realloc_via (orc : Nat → Bool) (old : Nat) (a : ASt) (hold : old ∈ a.live) :
    ViaC a (a.realloc orc old).2 ∧
    (∀ i, (a.realloc orc old).1 = some i → (a.realloc orc old).2.live = i :: a.live.erase old) ∧
    ((a.realloc orc old).1 = none → (a.realloc orc old).2.live = a.live) := by
  cases ho : orc (a.reqs + 1) <;>
    simp only [ASt.realloc, ASt.request, ho, beq_realloc_arena, Bool.false_and, Bool.or_false,
      Bool.not_false, Bool.not_true, Bool.false_eq_true, ↓reduceIte] <;>
    refine ⟨⟨rfl, rfl, .push _ rfl (by simp [Led.step, led, hold])⟩, fun i h => ?_, fun h => ?_⟩
  · cases h; rfl
  · cases h
  · cases h
  · trivial

theorem free_via (id : Nat) (a : ASt) (hid : id ∈ a.live) : ViaC a (a.free id) :=
  ⟨rfl, rfl, .push (.free id) rfl (by simp [Led.step, led, hid, ASt.free])⟩

theorem bracket {orc : Nat → Bool} {k : ReqKind} {a a1 a2 : ASt} {i : Nat} (hk : plainRaw k)
    (h1 : a.rawAlloc orc k = (some i, a1)) (h2 : GoodC a1 a2) : GoodC a (a2.free i) := by
  have v1 := rawAlloc_via orc k hk a
  have l1 := rawAlloc_some orc k a i
  rw [h1] at v1 l1
  have hl2 : a2.live = i :: a.live := h2.live.trans (l1 rfl).2
  refine ⟨ViaC.trans v1 (ViaC.trans h2.toViaC (free_via i a2 (hl2 ▸ List.mem_cons_self))), ?_⟩
  show a2.live.erase i = a.live
  rw [hl2, List.erase_cons_head]

theorem _root_.Edn.Proofs.AllocBasic.Reqs.kept {x : ACtx} {n : Nat} {a a' : ASt} (h : Reqs x n a a') : GoodC a a' := by
  induction h with
  | nil a => exact GoodC.refl a
  | cons _ ih => exact (request_good x.orc _ 0).trans ih

theorem _root_.Edn.Proofs.AllocBasic.Prim.kept {α : Type} {x : ACtx} {k : Nat} {good : α → Prop} {a : ASt} {r : α × ASt}
    (h : Prim x k good a r) : GoodC a r.2 :=
  have ⟨⟨_, _, hr⟩, _⟩ := h
  hr.kept

theorem strContentA_kept (x : ACtx) (h : Hdr) (data : Bytes) (esc : Bool) (a : ASt) :
    GoodC a (strContentA x h data esc a).2 := by
  have hg := request_good x.orc a 0
  unfold strContentA
  refine snd_ite (GoodC.refl a) (snd_ite (GoodC.refl a) (snd_ite hg ?_))
  cases decodeString x.ctx.cfg (data.length + 1) data with
  | none => exact hg
  | some d => exact GoodC.trans hg (bufs_good _ _)

theorem cleanA_kept (x : ACtx) (h : Hdr) (d : Bytes) (a : ASt) : GoodC a (cleanA x h d a).2 := by
  have hg := request_good x.orc a 0
  unfold cleanA
  exact snd_ite (GoodC.refl a) (snd_ite (GoodC.refl a) (snd_ite hg (GoodC.trans hg (bufs_good _ _))))

section
variable {p : Val → Val → ASt → Bool × ASt} (hp : ∀ u w a, GoodC a (p u w a).2)
include hp

theorem anyA_kept (v : Val) (ys : List Val) (a : ASt) : GoodC a (anyA p v ys a).2 := by
  induction ys generalizing a with
  | nil => exact GoodC.refl a
  | cons y ys ih =>
    unfold anyA
    exact GoodC.trans (hp v y a) (snd_ite (GoodC.refl _) (ih _))

theorem allZipA_kept (xs ys : List Val) (a : ASt) : GoodC a (allZipA p xs ys a).2 := by
  induction xs generalizing ys a with
  | nil => cases ys <;> exact GoodC.refl a
  | cons v vs ih =>
    cases ys with
    | nil => exact GoodC.refl a
    | cons y ys =>
      unfold allZipA
      exact GoodC.trans (hp v y a) (snd_ite (ih ys _) (GoodC.refl _))

theorem allAnyA_kept (xs ys : List Val) (a : ASt) : GoodC a (allAnyA p xs ys a).2 := by
  induction xs generalizing a with
  | nil => exact GoodC.refl a
  | cons v vs ih =>
    unfold allAnyA
    exact GoodC.trans (anyA_kept hp v ys a) (snd_ite (ih _) (GoodC.refl _))

theorem mapEntryA_kept (k v : Val) (ks vs : List Val) (a : ASt) : GoodC a (mapEntryA p k v ks vs a).2 := by
  induction ks generalizing vs a with
  | nil => cases vs <;> exact GoodC.refl a
  | cons k' ks ih =>
    cases vs with
    | nil => exact GoodC.refl a
    | cons v' vs =>
      unfold mapEntryA
      exact GoodC.trans (hp k k' a) (snd_ite (hp v v' _) (ih vs _))

theorem mapAllA_kept (ks' vs' ks vs : List Val) (a : ASt) : GoodC a (mapAllA p ks' vs' ks vs a).2 := by
  induction ks generalizing vs a with
  | nil => cases vs <;> exact GoodC.refl a
  | cons k ks ih =>
    cases vs with
    | nil => exact GoodC.refl a
    | cons v vs =>
      unfold mapAllA
      exact GoodC.trans (mapEntryA_kept hp k v ks' vs' a) (snd_ite (ih vs _) (GoodC.refl _))

end

theorem digitsEqA_kept (x : ACtx) (h h' : Hdr) (d d' : Bytes) (a : ASt) : GoodC a (digitsEqA x h d h' d' a).2 :=
  GoodC.trans (cleanA_kept x h d a) (cleanA_kept x h' d' _)

theorem strEqA_kept (x : ACtx) (h h' : Hdr) (d d' : Bytes) (e e' : Bool) (a : ASt) :
    GoodC a (strEqA x h d e h' d' e' a).2 :=
  GoodC.trans (strContentA_kept x h d e a) (strContentA_kept x h' d' e' _)

theorem equalFA_kept (x : ACtx) (f : Nat) (va vb : Val) (a : ASt) : GoodC a (equalFA x f va vb a).2 := by
  induction f generalizing va vb a with
  | zero => exact GoodC.refl a
  | succ f ih =>
    unfold equalFA
    refine snd_ite (GoodC.refl a) (snd_ite (GoodC.refl a) ?_)
    split
    · exact snd_ite (GoodC.refl a) (snd_ite (GoodC.refl a) (digitsEqA_kept ..))
    · exact snd_ite (GoodC.refl a) (digitsEqA_kept ..)
    · exact strEqA_kept ..
    -- list or vector with list or vector
    iterate 4 exact snd_ite (GoodC.refl a) (allZipA_kept ih ..)
    · exact snd_ite (GoodC.refl a) (allAnyA_kept ih ..)
    · exact snd_ite (GoodC.refl a) (mapAllA_kept ih ..)
    · exact snd_ite (GoodC.refl a) (ih ..)
    · exact GoodC.refl a

theorem equalA_kept (x : ACtx) (va vb : Val) (a : ASt) : GoodC a (equalA x va vb a).2 :=
  equalFA_kept x _ va vb a

/-- `case1` … `case22` are the cases of `hashVA.mutual_induct` in the order of the `match` arms of
    `hashVA` (1–18, one per kind), `hashPairsA` (19, 20) and `hashListA` (21, 22): an edit to one of
    the three renumbers them (`#check @hashVA.mutual_induct` lists them). -/
theorem hash_kept (x : ACtx) :
    (∀ v a, GoodC a (hashVA x v a).2) ∧ (∀ ks vs a, GoodC a (hashPairsA x ks vs a).2) ∧
    (∀ xs a, GoodC a (hashListA x xs a).2) := by
  apply hashVA.mutual_induct x (fun v a => GoodC a (hashVA x v a).2)
    (fun ks vs a => GoodC a (hashPairsA x ks vs a).2) (fun xs a => GoodC a (hashListA x xs a).2)
  case case1 => intro h neg radix d a dd a1 e; unfold hashVA; rw [e]; have := cleanA_kept x h d a; rw [e] at this; exact this
  case case2 => intro h neg t a dd a1 e; unfold hashVA; rw [e]; have := cleanA_kept x h t a; rw [e] at this; exact this
  case case3 => intro h data esc a c a1 e; unfold hashVA; rw [e]; have := strContentA_kept x h data esc a; rw [e] at this; exact this
  -- a collection or a tagged value: the state is the one of the recursive call
  case case4 | case5 | case6 | case7 | case8 => intros; rename_i e ih; unfold hashVA; rw [e]; rw [e] at ih; exact ih
  case case19 =>
    intro k ks v vs a hv a1 e1 hv2 a2 e2 hs a3 e3 ih1 ih2 ih3
    unfold hashPairsA; rw [e1]; dsimp only; rw [e2]; dsimp only; rw [e3]
    rw [e1] at ih1; rw [e2] at ih2; rw [e3] at ih3
    exact GoodC.trans ih1 (GoodC.trans ih2 ih3)
  case case20 =>
    intro ks vs a hne
    unfold hashPairsA
    split
    · next k ks' v vs' => exact (hne k ks' v vs' rfl rfl).elim
    · exact GoodC.refl a
  case case21 => intro a; unfold hashListA; exact GoodC.refl a
  case case22 =>
    intro v vs a hv a1 e1 hs a2 e2 ih1 ih2
    unfold hashListA; rw [e1]; dsimp only; rw [e2]
    rw [e1] at ih1; rw [e2] at ih2
    exact GoodC.trans ih1 ih2
  all_goals (intros; unfold hashVA; exact GoodC.refl _)

theorem hashOpA_kept (x : ACtx) (v : Val) (a : ASt) : GoodC a (hashOpA x v a).2 :=
  snd_ite (GoodC.refl a) ((hash_kept x).1 v a)

theorem hasDupLinearA_kept (x : ACtx) (xs : List Val) (a : ASt) : GoodC a (hasDupLinearA x xs a).2 := by
  induction xs generalizing a with
  | nil => exact GoodC.refl a
  | cons v vs ih =>
    unfold hasDupLinearA
    exact GoodC.trans (anyA_kept (equalA_kept x) v vs a) (snd_ite (GoodC.refl _) (ih _))

theorem hashAtA_kept (x : ACtx) (is : List Nat) (arr : Array Val) (a : ASt) : GoodC a (hashAtA x is arr a).2 := by
  induction is generalizing arr a with
  | nil => exact GoodC.refl a
  | cons i is ih =>
    unfold hashAtA
    cases arr[i]? with
    | none => exact ih arr a
    | some v => exact GoodC.trans (hashOpA_kept x v a) (ih _ _)

theorem runsA_kept (x : ACtx) (f : Nat) (xs : List Val) (a : ASt) : GoodC a (runsA x f xs a).2 := by
  induction f generalizing xs a with
  | zero => unfold runsA; exact GoodC.refl a
  | succ f ih =>
    cases xs with
    | nil => unfold runsA; exact GoodC.refl a
    | cons v vs =>
      unfold runsA
      exact GoodC.trans (hasDupLinearA_kept x (v :: vs.takeWhile (·.hdr.hc == v.hdr.hc)) a) (snd_ite (GoodC.refl _) (ih _ _))

theorem hasDupSortedA_kept (x : ACtx) (xs : List Val) (a : ASt) : GoodC a (hasDupSortedA x xs a).2 := by
  unfold hasDupSortedA
  rcases hq : a.rawAlloc x.orc .malloc with ⟨_ | i, a1⟩
  · exact GoodC.trans (rawAlloc_none_good (.inl rfl) hq) (hasDupLinearA_kept x xs a1)
  · exact bracket (.inl rfl) hq
      (GoodC.trans (hashAtA_kept x _ _ a1) (GoodC.trans (hashAtA_kept x _ _ _) (runsA_kept x _ _ _)))

theorem tableLoopA_kept (x : ACtx) (xs seen : List Val) (a : ASt) : GoodC a (tableLoopA x xs seen a).2 := by
  induction xs generalizing seen a with
  | nil => exact GoodC.refl a
  | cons v rest ih =>
    unfold tableLoopA
    exact GoodC.trans (hashOpA_kept x v a)
      (GoodC.trans (anyA_kept (fun u w a => equalA_kept x w u a) _ _ _) (snd_ite (GoodC.refl _) (ih _ _)))

theorem hasDupTableA_kept (x : ACtx) (xs : List Val) (a : ASt) : GoodC a (hasDupTableA x xs a).2 := by
  unfold hasDupTableA
  rcases hq : a.rawAlloc x.orc .calloc with ⟨_ | i, a1⟩
  · exact GoodC.trans (rawAlloc_none_good (.inr rfl) hq) (hasDupSortedA_kept x xs a1)
  · exact bracket (.inr rfl) hq (tableLoopA_kept x xs [] a1)

theorem hasDuplicatesA_kept (x : ACtx) (xs : List Val) (a : ASt) : GoodC a (hasDuplicatesA x xs a).2 := by
  unfold hasDuplicatesA
  exact snd_ite (GoodC.refl a) (snd_ite (hasDupLinearA_kept x xs a)
    (snd_ite (hasDupSortedA_kept x xs a) (hasDupTableA_kept x xs a)))

theorem metaEntryA_kept (x : ACtx) (m : Val) (a : ASt) : GoodC a (metaEntryA x m a).2 := (metaEntryA_prim x m a).kept

theorem keepOldA_kept (x : ACtx) (newKeys ks vs : List Val) (a : ASt) : GoodC a (keepOldA x newKeys ks vs a).2 := by
  induction ks generalizing vs a with
  | nil => cases vs <;> exact GoodC.refl a
  | cons k ks ih =>
    cases vs with
    | nil => exact GoodC.refl a
    | cons v vs =>
      unfold keepOldA
      exact GoodC.trans (anyA_kept (equalA_kept x) k newKeys a) (ih vs _)

theorem attachMetaA_kept (x : ACtx) (m form : Val) (nks nvs : List Val) (a : ASt) :
    GoodC a (attachMetaA x m form nks nvs a).2 := by
  unfold attachMetaA
  split
  · next h md ks vs _ =>
    -- new entries, the two merged arrays, the merge
    have h3 := GoodC.trans (metaEntryA_kept x m a) (GoodC.trans (request_good x.orc _ 0) (request_good x.orc _ 0))
    have h4 := GoodC.trans h3 (keepOldA_kept x nks ks vs _)
    exact snd_ite (metaEntryA_kept x m a) (snd_ite h3 (snd_ite h4 h4))
  · have h2 := GoodC.trans (request_good x.orc a 0) (metaEntryA_kept x m _)
    exact snd_ite (request_good x.orc a 0) (snd_ite h2 h2)

theorem rekey_kept (old new : Nat) (a : ASt) : GoodC a (a.rekey old new) :=
  ite_ind (fun _ => bufs_good a _) (fun _ => GoodC.refl a)

theorem floatHeapA_kept (x : ACtx) (heap : Bool) (a : ASt) : GoodC a (floatHeapA x heap a).2 := by
  unfold floatHeapA
  refine snd_ite ?_ (GoodC.refl a)
  rcases hq : a.rawAlloc x.orc .malloc with ⟨_ | i, a'⟩
  · exact rawAlloc_none_good (.inl rfl) hq
  · exact bracket (.inl rfl) hq (GoodC.refl a')

/-- the reader's guarantee (RG) in terms of `Good`; the walk through the readers proves it in terms of
    `GoodC` (`RGC`, `RGC.rg`) -/
def RG (a : ASt) (r : Res × ASt) : Prop := Good a r.2 ∧ ∀ v st', r.1 = .ok v st' → a.arena = .alive

theorem RG.closer {a a' : ASt} (g : Good a a') (st : St) : RG a (.closer st, a') :=
  ⟨g, nofun⟩

/-- the reader keeps the ledger, and returns a value only with a live arena (`reader_rg`) -/
def RGC (a : ASt) (r : Res × ASt) : Prop := GoodC a r.2 ∧ ∀ v st', r.1 = .ok v st' → a.arena = .alive

theorem RGC.rg {a : ASt} {r : Res × ASt} (h : RGC a r) : RG a r := ⟨h.1.good, h.2⟩

theorem RGC.err {a a' : ASt} (g : GoodC a a') (e : ErrInfo) (st : St) : RGC a (.err e st, a') :=
  ⟨g, nofun⟩

theorem RGC.closer {a a' : ASt} (g : GoodC a a') (st : St) : RGC a (.closer st, a') :=
  ⟨g, nofun⟩

theorem RGC.granted {orc : Nat → Bool} {a a1 a2 : ASt} (g : GoodC a a1) (h : (a1.request orc .arena).1 = true)
    (g2 : GoodC (a1.request orc .arena).2 a2) (r : Res) : RGC a (r, a2) :=
  ⟨(g.trans (request_good orc a1 0)).trans g2, fun _ _ _ => g.arena ▸ request_arena_alive orc a1 0 h⟩

theorem RGC.after {a a1 : ASt} {r : Res × ASt} (g : GoodC a a1) (h : RGC a1 r) : RGC a r :=
  ⟨GoodC.trans g h.1, fun v st' e => g.arena ▸ h.2 v st' e⟩

theorem RGC.pass {a a1 a2 : ASt} {w : Val} {st1 : St} (h : RGC a (.ok w st1, a1)) (g : GoodC a1 a2)
    (r : Res) : RGC a (r, a2) :=
  ⟨GoodC.trans h.1 g, fun _ _ _ => h.2 w st1 rfl⟩

/-- while the lines of a text block are read: the live raw blocks are the caller's (`L0`) and, on
    top of them, the pointer array and the line records of the buffer (in some order) -/
def TbSt (L0 : List Nat) (buf : TbBuf) (a : ASt) : Prop :=
  ∃ P, a.live = P ++ L0 ∧ P.Perm (buf.arr :: buf.ids)

theorem TbSt.good {L0 : List Nat} {buf : TbBuf} {a a' : ASt} (h : TbSt L0 buf a) (g : GoodC a a') :
    TbSt L0 buf a' := by
  obtain ⟨P, hl, hp⟩ := h
  exact ⟨P, g.live.trans hl, hp⟩

theorem freeAll_spec (L0 : List Nat) (Q P : List Nat) (a : ASt) (hl : a.live = P ++ L0) (hp : P.Perm Q) :
    ViaC a (a.freeAll Q) ∧ (a.freeAll Q).live = L0 := by
  induction Q generalizing P a with
  | nil =>
    have : P = [] := List.Perm.eq_nil hp
    subst this
    exact ⟨ViaC.refl a, hl⟩
  | cons q Q ih =>
    have hq : q ∈ P := hp.mem_iff.mpr List.mem_cons_self
    have hmem : q ∈ a.live := by rw [hl]; exact List.mem_append_left _ hq
    have v1 := free_via q a hmem
    have hl' : (a.free q).live = P.erase q ++ L0 := by
      show a.live.erase q = _
      rw [hl, List.erase_append_left _ hq]
    have hp' : (P.erase q).Perm Q := by
      have := hp.erase q
      rwa [List.erase_cons_head] at this
    obtain ⟨v2, l2⟩ := ih (P.erase q) (a.free q) hl' hp'
    exact ⟨ViaC.trans v1 v2, l2⟩

/-- the clean-up of `edn_parse_text_block` gives back exactly the caller's blocks -/
theorem release_spec (L0 : List Nat) (buf : TbBuf) (a : ASt) (h : TbSt L0 buf a) :
    ViaC a (buf.release a) ∧ (buf.release a).live = L0 := by
  obtain ⟨P, hl, hp⟩ := h
  have e : buf.release a = a.freeAll (buf.ids.reverse ++ [buf.arr]) := by
    unfold TbBuf.release ASt.freeAll
    rw [List.foldl_append]
    rfl
  rw [e]
  refine freeAll_spec L0 _ P a hl (hp.trans ?_)
  have h1 : (buf.arr :: buf.ids).Perm (buf.ids ++ [buf.arr]) := List.perm_append_singleton _ _ |>.symm
  exact h1.trans (List.Perm.append_right _ (List.reverse_perm _).symm)

theorem TbSt.rawAlloc {L0 : List Nat} {buf : TbBuf} {a a2 : ASt} (orc : Nat → Bool) (i : Nat) (h : TbSt L0 buf a)
    (hq : a.rawAlloc orc .malloc = (some i, a2)) :
    ViaC a a2 ∧ TbSt L0 { buf with ids := i :: buf.ids } a2 := by
  obtain ⟨P, hl, hp⟩ := h
  have v := rawAlloc_via orc .malloc (Or.inl rfl) a
  have l := rawAlloc_some orc .malloc a i
  rw [hq] at v l
  refine ⟨v, i :: P, ?_, ?_⟩
  · rw [(l rfl).2, hl]; rfl
  · exact (List.Perm.cons i hp).trans (List.Perm.swap _ _ _)

theorem TbSt.grow {L0 : List Nat} {buf : TbBuf} {a : ASt} (x : ACtx) (n : Nat) (h : TbSt L0 buf a) :
    ViaC a (buf.grow x n a).2 ∧ TbSt L0 ((buf.grow x n a).1.getD buf) (buf.grow x n a).2 := by
  unfold TbBuf.grow
  split
  · obtain ⟨P, hl, hp⟩ := h
    have harr : buf.arr ∈ P := hp.mem_iff.mpr List.mem_cons_self
    have hmem : buf.arr ∈ a.live := by rw [hl]; exact List.mem_append_left _ harr
    obtain ⟨v, ls, ln⟩ := realloc_via x.orc buf.arr a hmem
    rcases hq : a.realloc x.orc buf.arr with ⟨o, a1⟩
    rw [hq] at v ls ln
    cases o with
    | none => exact ⟨v, P, (ln rfl).trans hl, hp⟩
    | some arr' =>
      refine ⟨v, arr' :: P.erase buf.arr, ?_, ?_⟩
      · show a1.live = _
        rw [ls arr' rfl, hl, List.erase_append_left _ harr]; rfl
      · show (arr' :: P.erase buf.arr).Perm (arr' :: buf.ids)
        have := hp.erase buf.arr
        rw [List.erase_cons_head] at this
        exact List.Perm.cons _ this
  · exact ⟨ViaC.refl a, h⟩

def TbOut (a : ASt) (L0 : List Nat) (r : TbOutA × ASt) : Prop :=
  ViaC a r.2 ∧ match r.1 with
    | .lines _ _ buf' => TbSt L0 buf' r.2
    | .fail _ _ => r.2.live = L0

theorem TbOut.fail {a a1 : ASt} {L0 : List Nat} {buf : TbBuf} (v : ViaC a a1) (h : TbSt L0 buf a1) (e : ErrInfo)
    (rest : Bytes) : TbOut a L0 (.fail e rest, buf.release a1) :=
  ⟨ViaC.trans v (release_spec L0 buf a1 h).1, (release_spec L0 buf a1 h).2⟩

theorem tbLinesA_spec (x : ACtx) (start : Nat) (L0 : List Nat) (f : Nat) (s : Bytes) (acc : List TbLine)
    (buf : TbBuf) (a : ASt) (h : TbSt L0 buf a) : TbOut a L0 (tbLinesA x start f s acc buf a) := by
  induction f generalizing s acc buf a with
  | zero => unfold tbLinesA; exact .fail (ViaC.refl a) h _ _
  | succ f ih =>
    unfold tbLinesA
    refine ite_ind (fun _ => TbOut.fail (ViaC.refl a) h _ _) (fun _ => ?_)
    obtain ⟨vg, hg⟩ := h.grow x acc.length
    rcases hq : buf.grow x acc.length a with ⟨ob, a1⟩
    rw [hq] at vg hg
    cases ob with
    | none => exact .fail vg hg _ _
    | some buf1 =>
      have hg : TbSt L0 buf1 a1 := hg
      dsimp only
      cases tbLine s with
      | none => exact .fail vg hg _ _
      | some lr =>
        rcases hq2 : a1.rawAlloc x.orc .malloc with ⟨o, a2⟩
        cases o with
        | none =>
          have g2 := rawAlloc_none_good (.inl rfl) hq2
          exact .fail (ViaC.trans vg g2.toViaC) (hg.good g2) _ _
        | some i =>
          obtain ⟨v2, h2⟩ := hg.rawAlloc x.orc i hq2
          have v := ViaC.trans vg v2
          refine ite_ind (fun _ => ⟨v, h2⟩) (fun _ => ?_)
          obtain ⟨v3, h3⟩ := ih lr.2 (lr.1 :: acc) _ a2 h2
          exact ⟨ViaC.trans v v3, h3⟩

theorem readTextBlockA_rg (x : ACtx) (st : St) (a : ASt) : RGC a (readTextBlockA x st a) := by
  unfold readTextBlockA
  dsimp only
  rcases hq0 : a.rawAlloc x.orc .malloc with ⟨o, a1⟩
  cases o with
  | none => exact RGC.err (rawAlloc_none_good (.inl rfl) hq0) _ _
  | some arr =>
    dsimp only
    have v0 := rawAlloc_via x.orc .malloc (Or.inl rfl) a
    have l0 := rawAlloc_some x.orc .malloc a arr
    rw [hq0] at v0 l0
    have h0 : TbSt a.live { arr := arr } a1 := ⟨[arr], (l0 rfl).2, List.Perm.refl _⟩
    obtain ⟨v1, h1⟩ := tbLinesA_spec x (x.ctx.pos st.rest) a.live ((st.rest.drop 4).length + 2) (st.rest.drop 4) []
      { arr := arr } a1 h0
    rcases hq1 : tbLinesA x (x.ctx.pos st.rest) ((st.rest.drop 4).length + 2) (st.rest.drop 4) [] { arr := arr } a1 with ⟨out, a2⟩
    rw [hq1] at v1 h1
    cases out with
    | fail e rest => exact RGC.err ⟨ViaC.trans v0 v1, h1⟩ _ _
    | lines ls rest buf =>
      have h1 : TbSt a.live buf a2 := h1
      dsimp only
      have g2 := request_good x.orc a2 0
      obtain ⟨vr, lr⟩ := release_spec a.live buf _ (h1.good g2)
      have g03 : GoodC a (buf.release (a2.request x.orc .arena).2) :=
        ⟨ViaC.trans v0 (ViaC.trans v1 (ViaC.trans g2.toViaC vr)), lr⟩
      refine ite_ind (fun _ => RGC.err g03 _ _) (fun _ => ?_)
      cases hr : ((buf.release (a2.request x.orc .arena).2).request x.orc .arena).1
      · exact RGC.err (g03.trans (request_good x.orc _ 0)) _ _
      · exact RGC.granted g03 hr (bufs_good _ _) _

end Edn.Proofs.AllocLedger
