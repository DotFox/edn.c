/-
  Byte classes, digit runs, digit loops and payload conversions shared by the proofs about
  `edn_read_number`.  In this order: the tests the byte behind a literal must fail (`stopProps`, `stopA`);
  digit values; runs with separators (`NoTrailU`, `URun`, `DigRun`) and how an input splits at one
  (`run_split`, `uRun_split`); the digit loops as equations on split input (`fracDigits_run`,
  `radixLoop_eq`, `decLoop_run`); `parseInt64` and the payload on a run; runs of zeros and runs that
  start with `1`..`9`; which parts of a token hold no `_`.

  Namespaces of the number files: `CNum` holds what all configurations share (NumberEq, this
  file, NumberStages, NumberReader); `NSnd`, `CljN` and `ExpN` hold the helpers of the exactness theorems
  of the core configuration, of the Clojure grammar `CljNum` and of the experimental flag.  `CljN` is
  about the grammar, not the flag: `CljN.OkB` (end of this file), `CljN.parseDouble_flag`,
  `cljFrac_transfer` and `cljExp_transfer` serve every configuration.
-/
import Edn.Spec.CljNumLit
import Edn.Proofs.Number
import Edn.Proofs.NumberEq

namespace Edn.Proofs.CNum
open Edn.Model Edn.Spec Edn.Proofs

theorem of_peek {X : Bytes} {c : UInt8} (h : peek X = c) (hc : c ≠ 0) : ∃ t, X = c :: t := by
  cases X with
  | nil => exact absurd (show c = 0 from h.symm) hc
  | cons d t =>
    have : d = c := h
    exact ⟨t, by rw [this]⟩

theorem finishNum_ok {v v' : NumVal} {s rest : Bytes} (h : finishNum v s = .ok v' rest) :
    v' = v ∧ rest = s ∧ TermStart s := by
  unfold finishNum at h
  by_cases hd : numDelimOk s = true
  · rw [if_pos hd] at h
    injection h with h1 h2
    refine ⟨h1.symm, h2.symm, ?_⟩
    cases s with
    | nil => exact Or.inl rfl
    | cons c t => exact Or.inr ⟨c, t, rfl, hd⟩
  · rw [if_neg hd] at h
    exact NumOut.noConfusion h

/-! ## byte facts

The completeness proofs run `readNumber` forward over the bytes of a literal followed by a rest
`T`.  Every test of `edn_read_number` (number.c) that would branch off on the way has to fail at
`peek T`; the predicates below collect those tests. -/

/-- The byte after the last digit of a literal leaves every stage on its straight path.  In the
    order of the conjuncts: not a digit and not `_` (the digit loops stop here); not `r` `R` (the
    look-ahead for radix notation); not `.` (fraction); not `e` `E` (exponent); and the tests behind
    a run of zeros: not `x` `X` (hexadecimal), not `0` (the run has ended), not `1`..`7` (octal),
    not `8` `9` (rejected after a leading zero). -/
def stopProps (c : UInt8) : Bool :=
  !is09 c && c != 0x5F && c != 0x72 && c != 0x52 && c != 0x2E && c != 0x65 && c != 0x45 &&
  c != 0x78 && c != 0x58 && c != 0x30 && !(0x31 ≤ c && c ≤ 0x37) && c != 0x38 && c != 0x39

/-- ... and is no suffix either: not `N`, `M` or the `/` of a ratio. -/
def stopProps2 (c : UInt8) : Bool :=
  stopProps c && c != 0x4E && c != 0x4D && c != 0x2F

/-- NUL (the end of the input) and the terminators accepted by `validate_number_delimiter` pass all
    of these tests. -/
def termStop (c : UInt8) : Bool := !(c == 0 || isNumTerm c) || stopProps2 c
theorem termStop_all : ∀ c, termStop c = true := forall_u8_bool _ (by decide +kernel)

theorem term_props {c : UInt8} (h : c = 0 ∨ isNumTerm c = true) : stopProps2 c = true := by
  have := termStop_all c
  rcases h with h | h <;> simpa [termStop, h] using this

theorem stopProps_unpack {c : UInt8} (h : stopProps c = true) :
    is09 c = false ∧ (c == 0x5F) = false ∧ (c == 0x72) = false ∧ (c == 0x52) = false ∧
    (c == 0x2E) = false ∧ (c == 0x65) = false ∧ (c == 0x45) = false ∧ (c == 0x78) = false ∧
    (c == 0x58) = false ∧ (c == 0x30) = false ∧ (decide (0x31 ≤ c) && decide (c ≤ 0x37)) = false ∧
    (c == 0x38) = false ∧ (c == 0x39) = false := by
  simp only [stopProps, bne, Bool.and_eq_true, Bool.not_eq_true', and_assoc] at h
  exact h

theorem stopProps2_unpack {c : UInt8} (h : stopProps2 c = true) :
    stopProps c = true ∧ (c == 0x4E) = false ∧ (c == 0x4D) = false ∧ (c == 0x2F) = false := by
  simp only [stopProps2, bne, Bool.and_eq_true, Bool.not_eq_true', and_assoc] at h
  exact h

/-- `stopProps` for the byte after the integer part, where `.`, `e` and `E` go on with the literal -/
def stopA (c : UInt8) : Bool :=
  !is09 c && c != 0x5F && c != 0x72 && c != 0x52 &&
  c != 0x78 && c != 0x58 && c != 0x30 && !(0x31 ≤ c && c ≤ 0x37) && c != 0x38 && c != 0x39

theorem stopA_unpack {c : UInt8} (h : stopA c = true) :
    is09 c = false ∧ (c == 0x5F) = false ∧ (c == 0x72) = false ∧ (c == 0x52) = false ∧
    (c == 0x78) = false ∧ (c == 0x58) = false ∧ (c == 0x30) = false ∧
    (decide (0x31 ≤ c) && decide (c ≤ 0x37)) = false ∧ (c == 0x38) = false ∧ (c == 0x39) = false := by
  simp only [stopA, bne, Bool.and_eq_true, Bool.not_eq_true', and_assoc] at h
  exact h

theorem stopA_of_stopProps {c : UInt8} (h : stopProps c = true) : stopA c = true := by
  obtain ⟨h1, h2, h3, h4, -, -, -, h8, h9, h10, h11, h12, h13⟩ := stopProps_unpack h
  simp only [stopA, bne, h1, h2, h3, h4, h8, h9, h10, h11, h12, h13, Bool.not_false, Bool.and_self]

theorem peek_prefix {p : UInt8 → Bool} {ds : Bytes} (hne : ds ≠ []) (h : ∀ c ∈ ds, p c = true)
    (rest : Bytes) : p (peek (ds ++ rest)) = true := by
  cases ds with
  | nil => exact absurd rfl hne
  | cons d t => exact h d (by simp)

theorem digitsValR_ten (ds : Bytes) (hd : ∀ c ∈ ds, is09 c = true) :
    digitsValR 10 ds = natOfDigits ds := by
  unfold digitsValR natOfDigits
  suffices h : ∀ a, List.foldl (fun a c => a * 10 + (digitValue c 10).getD 0) a ds =
      List.foldl (fun a c => a * 10 + (c.toNat - 48)) a ds from h 0
  intro a
  induction ds generalizing a with
  | nil => rfl
  | cons d ds ih =>
    have h1 : is09 d = true := hd d (by simp)
    simp only [List.foldl_cons]
    rw [digitValue_ten, if_pos h1]
    exact ih (fun c hc => hd c (by simp [hc])) _

theorem filter_digits (ds : Bytes) (hd : ∀ c ∈ ds, is09 c = true) :
    ds.filter (· != 0x5F) = ds := by
  rw [List.filter_eq_self]
  intro c hc
  simp only [bne, beq_eq_false_iff_ne.mpr (is09_not_underscore (hd c hc)), Bool.not_false]

theorem peek_term {rest : Bytes} (ht : TermStart rest) : peek rest = 0 ∨ isNumTerm (peek rest) = true := by
  rcases ht with rfl | ⟨c, t, rfl, h⟩
  · exact Or.inl rfl
  · exact Or.inr h

theorem finishNum_term (v : NumVal) {rest : Bytes} (ht : TermStart rest) : finishNum v rest = .ok v rest := by
  have : numDelimOk rest = true := by
    rcases ht with rfl | ⟨c, t, rfl, h⟩
    · rfl
    · exact h
  unfold finishNum
  simp only [this, ↓reduceIte]

theorem decDigits_cases {ds : Bytes} (hd : DecDigits ds) :
    (∀ c ∈ ds, is09 c = true) ∧ (ds = [0x30] ∨ ∃ d t, ds = d :: t ∧ d ≠ 0x30) := by
  obtain ⟨hne, hall, hz⟩ := hd
  refine ⟨fun c hc => by simp [is09, hall c hc], ?_⟩
  cases ds with
  | nil => exact absurd rfl hne
  | cons d t =>
    by_cases h0 : d = 0x30
    · left
      cases t with
      | nil => rw [h0]
      | cons e t' =>
        exfalso
        apply hz (by simp)
        simp [h0]
    · exact Or.inr ⟨d, t, rfl, h0⟩

theorem decDigits_peek {ip : Bytes} (hip : DecDigits ip) (X : Bytes) : is09 (peek (ip ++ X)) = true :=
  peek_prefix hip.1 (decDigits_cases hip).1 X

theorem intOrBig_zero (cfg : Cfg) (neg : Bool) : intOrBig cfg [0x30] 10 neg = .int 0 := by
  obtain ⟨clj, exp⟩ := cfg
  cases neg <;> cases exp <;> rfl

theorem foldl_dec_ge (ds : Bytes) : ∀ v : Nat, v ≤ ds.foldl (fun a c => a * 10 + (c.toNat - 48)) v := by
  induction ds with
  | nil => intro v; exact Nat.le_refl _
  | cons d ds ih =>
    intro v
    simp only [List.foldl_cons]
    exact Nat.le_trans (by omega) (ih _)

theorem natOfDigits_pos {dd : Bytes} (hd : dd ≠ [] ∧ AllDigits dd ∧ dd.head? ≠ some 0x30) :
    1 ≤ natOfDigits dd := by
  obtain ⟨hne, hall, hh⟩ := hd
  cases dd with
  | nil => exact absurd rfl hne
  | cons d t =>
    have h1 := (NumSwar.is09_iff_toNat d).1 (hall d (by simp))
    have h0 : d.toNat ≠ 48 := fun e => hh (by simp [← UInt8.toNat_inj, e])
    unfold natOfDigits
    simp only [List.foldl_cons]
    exact Nat.le_trans (by omega) (foldl_dec_ge t _)

theorem inRange_bound {neg : Bool} {v : Nat} {n : Int} (h : inRange neg v = some n) :
    n.natAbs ≤ 9223372036854775808 ∧ n.natAbs = v := by
  obtain ⟨rfl, h1, h2⟩ := inRange_some h
  cases neg <;> simp only [Bool.false_eq_true, ↓reduceIte, Int.natAbs_neg, Int.natAbs_natCast, and_true] at h1 h2 ⊢ <;> omega

theorem octal_props {c : UInt8} (h : (digitValue c 8).isSome = true) :
    is09 c = true ∧ (c == 0x78) = false ∧ (c == 0x58) = false ∧
      ((c == 0x30) = false → (decide (0x31 ≤ c) && decide (c ≤ 0x37)) = true) := by
  have h16 := hex_props (digitValue_mono h (by decide : 8 ≤ 16))
  have hb := (octal_iff c).1 h
  refine ⟨isSome_ten c ▸ digitValue_mono h (by decide : 8 ≤ 10), beq_eq_false_iff_ne.mpr h16.2.2.1,
    beq_eq_false_iff_ne.mpr h16.2.2.2.1, ?_⟩
  simp [← UInt8.toNat_inj, UInt8.le_iff_toNat_le]
  omega

theorem octal_of_17 {c : UInt8} (h : (decide (0x31 ≤ c) && decide (c ≤ 0x37)) = true) :
    (digitValue c 8).isSome = true ∧ c ≠ 0x30 := by
  simp only [Bool.and_eq_true, decide_eq_true_eq, UInt8.le_iff_toNat_le] at h
  have h1 : (0x31 : UInt8).toNat = 49 := rfl
  have h2 : (0x37 : UInt8).toNat = 55 := rfl
  rw [h1, h2] at h
  refine ⟨(octal_iff c).2 (by omega), ?_⟩
  rintro rfl
  exact absurd h.1 (by decide)

theorem radixPrefixValue_sat (ds : Bytes) : ∀ v : Nat, 36 < v → radixPrefixValue v ds = v := by
  induction ds with
  | nil => intro v _; rfl
  | cons d ds ih =>
    intro v hv
    unfold radixPrefixValue
    have : ¬ v ≤ 36 := by omega
    simp only [this, ↓reduceIte]
    exact ih v hv

theorem radixPrefixValue_eq (ds : Bytes) :
    ∀ v : Nat, radixPrefixValue v ds ≤ 36 ∨ ds.foldl (fun a c => a * 10 + (c.toNat - 48)) v ≤ 36 →
      radixPrefixValue v ds = ds.foldl (fun a c => a * 10 + (c.toNat - 48)) v := by
  induction ds with
  | nil => intro v _; rfl
  | cons d ds ih =>
    intro v h
    by_cases hv : v ≤ 36
    · unfold radixPrefixValue at h ⊢
      simp only [hv, ↓reduceIte, List.foldl_cons] at h ⊢
      exact ih _ h
    · exfalso
      have h1 := foldl_dec_ge ds (v * 10 + (d.toNat - 48))
      rw [radixPrefixValue_sat _ v (by omega), List.foldl_cons] at h
      omega

theorem isRadixDigit_ten (c : UInt8) : isRadixDigit 10 c = is09 c := isSome_ten c

theorem isRadixDigit_of_le {c : UInt8} {r r' : Nat} (h : isRadixDigit r c = true) (hr : r ≤ r') :
    isRadixDigit r' c = true := digitValue_mono h hr

theorem delim_props {c : UInt8} (h : c = 0 ∨ isDelim c = true) :
    (digitValue c 36).isSome = false ∧ is09 c = false ∧ c ≠ 0x5F ∧ c ≠ 0x4E ∧ c ≠ 0x4D ∧ c ≠ 0x2F := by
  have key : ∀ d : UInt8, d ≠ 0 → isDelim d = false → c ≠ d := by
    rintro d h0 hd rfl
    rcases h with h | h
    · exact h0 h
    · rw [hd] at h
      exact Bool.noConfusion h
  have h36 : isRadixDigit 36 c = false := by
    cases hd : isRadixDigit 36 c
    · rfl
    · exact absurd rfl (key c (radix_props (Nat.le_refl 36) hd).1 (radix_props (Nat.le_refl 36) hd).2.1)
  refine ⟨h36, ?_, key 0x5F (by decide) (by decide), key 0x4E (by decide) (by decide),
    key 0x4D (by decide) (by decide), key 0x2F (by decide) (by decide)⟩
  cases h9 : is09 c
  · rfl
  · rw [← isRadixDigit_ten] at h9
    rw [isRadixDigit_of_le h9 (by omega)] at h36
    exact Bool.noConfusion h36

theorem underscore_no_digit {r : Nat} (hr : r ≤ 36) : isRadixDigit r 0x5F = false := by
  unfold isRadixDigit
  rw [NumInt.digitValue_underscore r hr]
  rfl

theorem not_radix_of_not36 {c : UInt8} {r : Nat} (hr : r ≤ 36) (h : (digitValue c 36).isSome = false) :
    isRadixDigit r c = false := by
  cases h' : isRadixDigit r c
  · rfl
  · rw [digitValue_mono h' hr] at h
    exact Bool.noConfusion h

theorem of_peek_or {X : Bytes} {a b : UInt8} (ha : a ≠ 0) (hb : b ≠ 0)
    (h : (peek X == a || peek X == b) = true) : ∃ c Y, X = c :: Y ∧ (c = a ∨ c = b) := by
  simp only [Bool.or_eq_true, beq_iff_eq] at h
  rcases h with h | h
  · obtain ⟨t, rfl⟩ := of_peek h ha
    exact ⟨_, t, rfl, Or.inl rfl⟩
  · obtain ⟨t, rfl⟩ := of_peek h hb
    exact ⟨_, t, rfl, Or.inr rfl⟩

theorem noTrailU_nil : NoTrailU [] := by
  simp [NoTrailU]

theorem noTrailU_cons {c : UInt8} {t : Bytes} (ht : t ≠ []) : NoTrailU (c :: t) ↔ NoTrailU t := by
  unfold NoTrailU
  rw [List.getLast?_cons_of_ne_nil ht]

theorem noTrailU_single {c : UInt8} (h : c ≠ 0x5F) : NoTrailU [c] := by
  simp [NoTrailU, h]

theorem noTrailU_cons_ne {c : UInt8} (h : c ≠ 0x5F) (t : Bytes) : NoTrailU (c :: t) ↔ NoTrailU t := by
  cases t with
  | nil => exact ⟨fun _ => noTrailU_nil, fun _ => noTrailU_single h⟩
  | cons d t' => exact noTrailU_cons (List.cons_ne_nil d t')

theorem noTrailU_append {a b : Bytes} (hb : b ≠ []) : NoTrailU (a ++ b) ↔ NoTrailU b := by
  unfold NoTrailU
  have : (a ++ b).getLast? = b.getLast? := by
    rw [List.getLast?_append]
    cases h : b.getLast? with
    | none => simp_all
    | some x => simp
  rw [this]

theorem noTrailU_of_not_mem {l : Bytes} (h : (0x5F : UInt8) ∉ l) : NoTrailU l := by
  unfold NoTrailU
  intro hl
  exact h (List.mem_of_getLast? hl)

theorem noTrailU_of_append {a b : Bytes} (h : NoTrailU (a ++ b)) : NoTrailU b := by
  by_cases hb : b = []
  · subst hb; exact noTrailU_nil
  · exact (noTrailU_append hb).mp h

theorem noTrailU_append_of {a b : Bytes} (ha : NoTrailU a) (hb : NoTrailU b) : NoTrailU (a ++ b) := by
  by_cases hb0 : b = []
  · subst hb0; simpa using ha
  · exact (noTrailU_append hb0).mpr hb

theorem lastIsUnderscore_iff (body T : Bytes) : lastIsUnderscore (body ++ T) T = false ↔ NoTrailU body := by
  unfold lastIsUnderscore NoTrailU
  rw [slice_append]
  cases body.getLast? with
  | none => simp
  | some x => simp

theorem uRun_nil (exp : Bool) (p : UInt8 → Bool) : URun exp p [] := by
  intro c hc
  simp at hc

theorem uRun_cons {exp : Bool} {p : UInt8 → Bool} {c : UInt8} {t : Bytes}
    (hc : p c = true ∨ (exp = true ∧ c = 0x5F)) (ht : URun exp p t) : URun exp p (c :: t) := by
  intro x hx
  rcases List.mem_cons.mp hx with rfl | hx
  · exact hc
  · exact ht x hx

theorem uRun_tail {exp : Bool} {p : UInt8 → Bool} {c : UInt8} {t : Bytes} (h : URun exp p (c :: t)) :
    URun exp p t := fun x hx => h x (List.mem_cons_of_mem _ hx)

theorem uRun_false_all {p : UInt8 → Bool} {l : Bytes} (h : URun false p l) : ∀ c ∈ l, p c = true := by
  intro c hc
  rcases h c hc with h | ⟨h, -⟩
  · exact h
  · exact Bool.noConfusion h

theorem uRun_of_all {exp : Bool} {p : UInt8 → Bool} {l : Bytes} (h : ∀ c ∈ l, p c = true) : URun exp p l :=
  fun c hc => Or.inl (h c hc)

theorem uRun_false_noU {p : UInt8 → Bool} {l : Bytes} (hp : p 0x5F = false) (h : URun false p l) :
    (0x5F : UInt8) ∉ l := by
  intro hm
  have := uRun_false_all h _ hm
  rw [hp] at this
  exact Bool.noConfusion this

theorem uRun_append {exp : Bool} {p : UInt8 → Bool} {a b : Bytes} (ha : URun exp p a) (hb : URun exp p b) :
    URun exp p (a ++ b) := by
  intro c hc
  rcases List.mem_append.mp hc with hc | hc
  · exact ha c hc
  · exact hb c hc

theorem digRun_uRun {exp : Bool} {p : UInt8 → Bool} {l : Bytes} (h : DigRun exp p l) : URun exp p l := by
  obtain ⟨d, t, rfl, hd, ht⟩ := h
  exact uRun_cons (Or.inl hd) ht

theorem digRun_peek {exp : Bool} {p : UInt8 → Bool} {l : Bytes} (h : DigRun exp p l) (T : Bytes) :
    p (peek (l ++ T)) = true := by
  obtain ⟨d, t, rfl, hd, -⟩ := h
  exact hd

theorem run_head {exp : Bool} {p : UInt8 → Bool} {run T : Bytes} (hrun : URun exp p run)
    (hT : p (peek T) = false) (hpk : p (peek (run ++ T)) = true) : DigRun exp p run := by
  cases run with
  | nil =>
    rw [List.nil_append, hT] at hpk
    exact Bool.noConfusion hpk
  | cons d t => exact ⟨d, t, rfl, hpk, uRun_tail hrun⟩

theorem digRun_append {exp : Bool} {p : UInt8 → Bool} {pre run : Bytes} (hpre : ∀ c ∈ pre, p c = true)
    (h : DigRun exp p run) : DigRun exp p (pre ++ run) := by
  cases pre with
  | nil => exact h
  | cons d t =>
    exact ⟨d, t ++ run, rfl, hpre d (by simp),
      uRun_append (uRun_of_all fun c hc => hpre c (by simp [hc])) (digRun_uRun h)⟩

theorem run_split (p : UInt8 → Bool) (hp0 : p 0 = false) {s : Bytes} (hs : p (peek s) = true) :
    ∃ run T, s = run ++ T ∧ run ≠ [] ∧ (∀ c ∈ run, p c = true) ∧ p (peek T) = false := by
  obtain ⟨run, T, rfl, hr, hT, -⟩ := dropWhile_split p hp0 s
  refine ⟨run, T, rfl, ?_, hr, hT⟩
  rintro rfl
  rw [List.nil_append, hT] at hs
  exact Bool.noConfusion hs

theorem uRun_split (exp : Bool) (p : UInt8 → Bool) (hp0 : p 0 = false) (s : Bytes) :
    ∃ run T, s = run ++ T ∧ URun exp p run ∧ p (peek T) = false ∧
      (exp = true → (peek T == 0x5F) = false) ∧ s.dropWhile (fun c => p c || (exp && c == 0x5F)) = T := by
  obtain ⟨run, T, rfl, hr, hT, hd⟩ :=
    dropWhile_split (fun c => p c || (exp && c == 0x5F)) (by rw [hp0]; cases exp <;> rfl) s
  refine ⟨run, T, rfl, ?_, ?_, ?_, hd⟩
  · intro c hc
    have := hr c hc
    simp only [Bool.or_eq_true, Bool.and_eq_true, beq_iff_eq] at this
    exact this
  · simp only [Bool.or_eq_false_iff] at hT
    exact hT.1
  · intro he
    subst he
    simp only [Bool.or_eq_false_iff, Bool.true_and] at hT
    exact hT.2

theorem fracDigits_split (exp : Bool) (s : Bytes) :
    ∃ run T, s = run ++ T ∧ URun exp is09 run ∧ is09 (peek T) = false ∧
      (exp = true → (peek T == 0x5F) = false) ∧ fracDigits exp s = T :=
  uRun_split exp is09 (by decide) s

theorem fracDigits_run (exp : Bool) (run T : Bytes) (hr : URun exp is09 run) (hT : is09 (peek T) = false)
    (hT2 : exp = true → (peek T == 0x5F) = false) : fracDigits exp (run ++ T) = T := by
  unfold fracDigits
  apply dropWhile_prefix
  · cases exp
    · simp [hT]
    · simp [hT, hT2 rfl]
  · intro c hc
    rcases hr c hc with h | ⟨h1, h2⟩
    · simp [h]
    · simp [h1, h2]

theorem isRadixDigit_ten_fun : isRadixDigit 10 = is09 := funext isRadixDigit_ten

theorem radixLoop_digit (exp : Bool) {radix : Nat} (strict : Bool) (hr : radix ≤ 36) {c : UInt8}
    (hd : isRadixDigit radix c = true) (f : Nat) (t : Bytes) :
    radixDigitsLoop exp radix strict (f + 1) (c :: t) = radixDigitsLoop exp radix strict f t := by
  have hp := radix_props hr hd
  have h1 : (c != 0 && !isDelim c) = true := by simp [hp.1, hp.2.1]
  have hd' : (digitValue c radix).isSome = true := hd
  rw [radixDigitsLoop]
  simp only [peek_cons, adv_cons, h1, hd', ↓reduceIte]

theorem radixLoop_sep {radix : Nat} (strict : Bool) (hr : radix ≤ 36) (f : Nat) (t : Bytes) :
    radixDigitsLoop true radix strict (f + 1) (0x5F :: t) =
      if (strict && !isRadixDigit radix (peek t) && peek t != 0x5F) = true then .error t
      else radixDigitsLoop true radix strict f t := by
  have h1 : ((0x5F : UInt8) != 0 && !isDelim 0x5F) = true := by decide
  have hd : (digitValue 0x5F radix).isSome = false := underscore_no_digit hr
  rw [radixDigitsLoop]
  simp only [peek_cons, adv_cons, h1, hd, Bool.false_eq_true, ↓reduceIte, Bool.true_and, BEq.rfl, isRadixDigit]
  rfl

theorem radixLoop_stop (exp : Bool) (radix : Nat) (strict : Bool) (f : Nat) {s : Bytes}
    (hd : isRadixDigit radix (peek s) = false) (hu : exp = true → (peek s == 0x5F) = false) :
    radixDigitsLoop exp radix strict (f + 1) s = .ok s := by
  have hd' : (digitValue (peek s) radix).isSome = false := hd
  have hu' : (exp && peek s == 0x5F) = false := by
    cases exp
    · rfl
    · simp [hu rfl]
  rw [radixDigitsLoop]
  simp only [hd', hu', Bool.false_eq_true, ↓reduceIte, ite_self]

/-- the digit loop on a run of digits and separators followed by a byte that is neither: it stops behind
    the run, and the strict loop refuses a separator there (its next byte is no digit) -/
theorem radixLoop_eq (exp : Bool) (radix : Nat) (strict : Bool) (hr : radix ≤ 36) (T : Bytes)
    (hT : isRadixDigit radix (peek T) = false) (hT2 : exp = true → (peek T == 0x5F) = false) :
    ∀ (run : Bytes) (f : Nat), URun exp (isRadixDigit radix) run → run.length + 1 ≤ f →
      radixDigitsLoop exp radix strict f (run ++ T) =
        if strict = true ∧ run.getLast? = some 0x5F then .error T else .ok T := by
  intro run
  induction run with
  | nil =>
    intro f _ hf
    obtain ⟨f, rfl⟩ : ∃ f', f = f' + 1 := ⟨f - 1, by simp at hf; omega⟩
    rw [if_neg (fun h => noTrailU_nil h.2)]
    exact radixLoop_stop exp radix strict f hT hT2
  | cons c t ih =>
    intro f hrun hf
    obtain ⟨f, rfl⟩ : ∃ f', f = f' + 1 := ⟨f - 1, by simp at hf; omega⟩
    have hrec := ih f (uRun_tail hrun) (by simp at hf; omega)
    rcases hrun c (by simp) with hd | ⟨rfl, rfl⟩
    · rw [List.cons_append, radixLoop_digit exp strict hr hd, hrec]
      exact ite_congr (propext (and_congr_right' (Decidable.not_iff_not.mp
        (noTrailU_cons_ne (radix_props hr hd).2.2.1 t)).symm)) (fun _ => rfl) fun _ => rfl
    · rw [List.cons_append, radixLoop_sep strict hr]
      cases t with
      | nil =>
        -- the run ends with this separator: an error exactly when strict
        have hT3 : (peek T != 0x5F) = true := by rw [bne, hT2 rfl]; rfl
        rw [List.nil_append] at hrec ⊢
        rw [hT, hT3, hrec]
        cases strict <;> simp
      | cons d t' =>
        -- the byte after the separator is a digit or a separator
        have hd : (!isRadixDigit radix d && d != 0x5F) = false := by
          rcases hrun d (by simp) with hdd | ⟨-, rfl⟩
          · rw [hdd]; rfl
          · rw [Bool.and_eq_false_iff]; exact Or.inr (by decide)
        rw [show peek (d :: t' ++ T) = d from rfl, Bool.and_assoc, hd, Bool.and_false, if_neg Bool.false_ne_true, hrec,
          List.getLast?_cons_of_ne_nil (List.cons_ne_nil d t')]

theorem radixLoop_run (exp : Bool) (radix : Nat) (strict : Bool) (hr : radix ≤ 36) (T : Bytes)
    (hT : isRadixDigit radix (peek T) = false) (hT2 : exp = true → (peek T == 0x5F) = false)
    (run : Bytes) (f : Nat) (hrun : URun exp (isRadixDigit radix) run) (hnt : strict = true → NoTrailU run)
    (hf : run.length + 1 ≤ f) : radixDigitsLoop exp radix strict f (run ++ T) = .ok T := by
  rw [radixLoop_eq exp radix strict hr T hT hT2 run f hrun hf, if_neg (fun h => hnt h.1 h.2)]

theorem radixLoop_split (exp : Bool) (radix : Nat) (strict : Bool) (hr : radix ≤ 36) (s : Bytes) (f : Nat)
    (hf : s.length + 1 ≤ f) :
    (∃ cur, radixDigitsLoop exp radix strict f s = .error cur) ∨
    ∃ run T, s = run ++ T ∧ URun exp (isRadixDigit radix) run ∧ (strict = true → NoTrailU run) ∧
      isRadixDigit radix (peek T) = false ∧ (exp = true → (peek T == 0x5F) = false) ∧
      radixDigitsLoop exp radix strict f s = .ok T := by
  obtain ⟨run, T, rfl, hrun, hT, hT2, -⟩ :=
    uRun_split exp (isRadixDigit radix) (not_radix_of_not36 hr (by decide)) s
  rw [radixLoop_eq exp radix strict hr T hT hT2 run f hrun (by simp at hf; omega)]
  by_cases h : strict = true ∧ run.getLast? = some 0x5F
  · exact Or.inl ⟨T, if_pos h⟩
  · exact Or.inr ⟨run, T, rfl, hrun, fun hs hn => h ⟨hs, hn⟩, hT, hT2, if_neg h⟩

theorem decLoop_split (exp : Bool) (s : Bytes) (f : Nat) (hf : s.length + 1 ≤ f) :
    (∃ cur, decDigitsLoop exp f s = .error cur) ∨
    ∃ run T, s = run ++ T ∧ URun exp is09 run ∧ NoTrailU run ∧ is09 (peek T) = false ∧
      (exp = true → (peek T == 0x5F) = false) ∧ decDigitsLoop exp f s = .ok T := by
  rw [decLoop_eq_radixLoop, ← isRadixDigit_ten_fun]
  rcases radixLoop_split exp 10 true (by omega) s f hf with h | ⟨run, T, rfl, hrun, hnt, hT, hT2, hl⟩
  · exact Or.inl h
  · exact Or.inr ⟨run, T, rfl, hrun, hnt rfl, hT, hT2, hl⟩

theorem decLoop_run (exp : Bool) (T : Bytes) (hT : is09 (peek T) = false)
    (hT2 : exp = true → (peek T == 0x5F) = false) (run : Bytes) (f : Nat) (hrun : URun exp is09 run)
    (hnt : NoTrailU run) (hf : run.length + 1 ≤ f) : decDigitsLoop exp f (run ++ T) = .ok T := by
  rw [← isRadixDigit_ten_fun] at hT hrun
  rw [decLoop_eq_radixLoop]
  exact radixLoop_run exp 10 true (by omega) T hT hT2 run f hrun (fun _ => hnt) hf

theorem parseInt64_uRun (cfg : Cfg) (radix : Nat) (hr : 1 ≤ radix ∧ radix ≤ 36) (ds : Bytes) (neg : Bool)
    (h : URun cfg.exp (isRadixDigit radix) ds) :
    parseInt64 cfg ds radix neg = inRange neg (radixNat radix ds) := by
  rw [parseInt64_eq cfg hr.1 ds neg, NumInt.runVal_valid hr.2 ds 0 h]
  rfl

theorem parseInt64_run (cfg : Cfg) (radix : Nat) (hr : 2 ≤ radix ∧ radix ≤ 36) (ds : Bytes) (neg : Bool)
    (h : DigRun cfg.exp (isRadixDigit radix) ds) :
    parseInt64 cfg ds radix neg = inRange neg (radixNat radix ds) :=
  parseInt64_uRun cfg radix ⟨Nat.le_of_succ_le hr.1, hr.2⟩ ds neg (digRun_uRun h)

theorem intOrBig_run (cfg : Cfg) (radix : Nat) (hr : 2 ≤ radix ∧ radix ≤ 36) (ds : Bytes) (neg : Bool)
    (h : DigRun cfg.exp (isRadixDigit radix) ds) :
    intOrBig cfg ds radix neg = intPayload neg radix ds := by
  unfold intOrBig
  rw [parseInt64_run cfg radix hr ds neg h]
  unfold inRange intPayload
  cases neg <;> simp only [Bool.false_eq_true, ↓reduceIte]
  · by_cases h : radixNat radix ds ≤ 9223372036854775807 <;> simp only [h, ↓reduceIte]
  · by_cases h : radixNat radix ds ≤ 9223372036854775808 <;> simp only [h, ↓reduceIte]

theorem zeroRun_all09 {zs : Bytes} (h : ZeroRun zs) : ∀ c ∈ zs, is09 c = true := by
  intro c hc
  rw [h.2 c hc]
  decide

theorem zeroRun_noU {zs : Bytes} (h : ZeroRun zs) : (0x5F : UInt8) ∉ zs := by
  intro hm
  exact absurd (h.2 _ hm) (by decide)

theorem zeroRun_cons {zs : Bytes} (h : ZeroRun zs) : ∃ t, zs = 0x30 :: t ∧ ∀ c ∈ t, c = 0x30 := by
  obtain ⟨hne, hall⟩ := h
  cases zs with
  | nil => exact absurd rfl hne
  | cons z t =>
    have : z = 0x30 := hall z (by simp)
    subst this
    exact ⟨t, rfl, fun c hc => hall c (by simp [hc])⟩

theorem radixNat_digits (ds : Bytes) (hd : ∀ c ∈ ds, is09 c = true) : radixNat 10 ds = natOfDigits ds := by
  have e : radixNat 10 ds = digitsValR 10 (ds.filter (· != 0x5F)) := rfl
  rw [e, filter_digits ds hd, digitsValR_ten ds hd]

theorem parseInt64_digits (cfg : Cfg) (ds : Bytes) (neg : Bool) (hd : ∀ c ∈ ds, is09 c = true) :
    parseInt64 cfg ds 10 neg = inRange neg (natOfDigits ds) := by
  rw [parseInt64_uRun cfg 10 (by omega) ds neg (uRun_of_all (isRadixDigit_ten_fun ▸ hd)), radixNat_digits ds hd]

theorem radixNat_zeros (zs : Bytes) (h : ∀ c ∈ zs, c = 0x30) : radixNat 10 zs = 0 := by
  rw [radixNat_digits zs (fun c hc => by rw [h c hc]; decide)]
  unfold natOfDigits
  induction zs with
  | nil => rfl
  | cons z t ih =>
    rw [h z (by simp)]
    exact ih (fun c hc => h c (by simp [hc]))

theorem intPayload_zeros (neg : Bool) (zs : Bytes) (h : ZeroRun zs) : intPayload neg 10 zs = .int 0 := by
  unfold intPayload
  rw [radixNat_zeros zs h.2]
  cases neg <;> rfl

theorem zeroNorm_zeros {zs : Bytes} (h : ZeroRun zs) : zeroNorm zs = [0x30] := by
  unfold zeroNorm
  have : zs.all (· == 0x30) = true := by
    rw [List.all_eq_true]
    intro c hc
    simp [h.2 c hc]
  simp only [this, ↓reduceIte]

theorem zeroNorm_of_mem {t : Bytes} {c : UInt8} (hc : c ∈ t) (h0 : c ≠ 0x30) : zeroNorm t = t := by
  unfold zeroNorm
  have : t.all (· == 0x30) = false := by
    cases h : t.all (· == 0x30)
    · rfl
    · rw [List.all_eq_true] at h
      have := h c hc
      simp only [beq_iff_eq] at this
      exact absurd this h0
  simp only [this, Bool.false_eq_true, ↓reduceIte]

theorem nzRun_cons {exp : Bool} {ip : Bytes} (h : NzRun exp ip) :
    ∃ d t, ip = d :: t ∧ is09 d = true ∧ d ≠ 0x30 ∧ URun exp is09 t := by
  obtain ⟨⟨d, t, rfl, hd, ht⟩, h0, -⟩ := h
  refine ⟨d, t, rfl, hd, ?_, ht⟩
  intro e
  apply h0
  simp [e]

theorem nzRun_uRun {exp : Bool} {ip : Bytes} (h : NzRun exp ip) : URun exp is09 ip := by
  obtain ⟨d, t, rfl, hd, -, ht⟩ := nzRun_cons h
  exact uRun_cons (Or.inl hd) ht

theorem nz_not_zero {exp : Bool} {ip : Bytes} (hn : NzRun exp ip) : ZeroRun ip → False := by
  intro hz
  obtain ⟨d, t, rfl, -, hd0, -⟩ := nzRun_cons hn
  obtain ⟨t', e, -⟩ := zeroRun_cons hz
  injection e with e1 _
  exact hd0 e1

theorem nz_zeroNorm {exp : Bool} {ip : Bytes} (hn : NzRun exp ip) : zeroNorm ip = ip := by
  obtain ⟨d, t, rfl, -, hd0, -⟩ := nzRun_cons hn
  exact zeroNorm_of_mem (c := d) (by simp) hd0

theorem cljInt_peek {exp : Bool} {ip : Bytes} (h : CljInt exp ip) (X : Bytes) : is09 (peek (ip ++ X)) = true := by
  rcases h with h | h
  · obtain ⟨t, rfl, -⟩ := zeroRun_cons h
    rfl
  · obtain ⟨d, t, rfl, hd, -, -⟩ := nzRun_cons h
    exact hd

theorem cljInt_noTrail {exp : Bool} {ip : Bytes} (h : CljInt exp ip) : NoTrailU ip := by
  rcases h with h | h
  · exact noTrailU_of_not_mem (zeroRun_noU h)
  · exact h.2.2

theorem cljInt_ne {exp : Bool} {ip : Bytes} (h : CljInt exp ip) : ip ≠ [] := by
  rcases h with h | h
  · exact h.1
  · obtain ⟨d, t, rfl, -⟩ := nzRun_cons h
    simp

theorem zeroNorm_body {exp : Bool} {ip fr ex : Bytes} (hfr : CljFrac exp fr) (hex : CljExp exp ex)
    (hnz : fr = [] → ex = [] → NzRun exp ip) : zeroNorm (ip ++ fr ++ ex) = ip ++ fr ++ ex := by
  rcases hfr with rfl | ⟨fd, rfl, -, -⟩
  · rcases hex with rfl | ⟨e, es, ed, rfl, hee, -, -⟩
    · obtain ⟨d, t, rfl, -, hd0, -⟩ := nzRun_cons (hnz rfl rfl)
      exact zeroNorm_of_mem (c := d) (by simp) hd0
    · exact zeroNorm_of_mem (c := e) (by simp) (by rcases hee with rfl | rfl <;> decide)
  · exact zeroNorm_of_mem (c := 0x2E) (by simp) (by decide)

theorem nzRun_digRun {exp : Bool} {ip : Bytes} (h : NzRun exp ip) : DigRun exp (isRadixDigit 10) ip :=
  isRadixDigit_ten_fun ▸ h.1

theorem allDigits_no_underscore {ds : Bytes} (hd : ∀ c ∈ ds, is09 c = true) : (0x5F : UInt8) ∉ ds := by
  intro h
  exact is09_not_underscore (hd _ h) rfl

theorem signTok_no_underscore {sg : Bytes} {neg : Bool} (h : SignTok sg neg) : (0x5F : UInt8) ∉ sg := by
  rcases h with ⟨rfl, -⟩ | ⟨rfl, -⟩ | ⟨rfl, -⟩ <;> simp

theorem uRun09_noU {exp : Bool} {l : Bytes} (he : exp = false) (h : URun exp is09 l) : (0x5F : UInt8) ∉ l := by
  subst he
  exact uRun_false_noU (by decide) h

theorem cljInt_noU {exp : Bool} {ip : Bytes} (he : exp = false) (h : CljInt exp ip) : (0x5F : UInt8) ∉ ip := by
  rcases h with h | h
  · exact zeroRun_noU h
  · exact uRun09_noU he (nzRun_uRun h)

theorem cljFrac_noU {exp : Bool} {fr : Bytes} (he : exp = false) (h : CljFrac exp fr) : (0x5F : UInt8) ∉ fr := by
  rcases h with rfl | ⟨fd, rfl, hfd, -⟩
  · nofun
  · exact List.not_mem_cons_of_ne_of_not_mem (by decide) (uRun09_noU he hfd)

theorem cljExp_noU {exp : Bool} {ex : Bytes} (he : exp = false) (h : CljExp exp ex) : (0x5F : UInt8) ∉ ex := by
  rcases h with rfl | ⟨e, es, ed, rfl, hee, hes, hed⟩
  · nofun
  · refine List.not_mem_cons_of_ne_of_not_mem ?_ (List.not_mem_append ?_ (uRun09_noU he (digRun_uRun hed)))
    · rcases hee with rfl | rfl <;> decide
    · rcases hes with rfl | rfl | rfl <;> simp

theorem mantissa_noU {exp : Bool} {ip fr ex : Bytes} (he : exp = false) (hm : CljMantissa exp ip fr ex) :
    (0x5F : UInt8) ∉ ip ++ fr ++ ex :=
  List.not_mem_append (List.not_mem_append (cljInt_noU he hm.hip) (cljFrac_noU he hm.hfr)) (cljExp_noU he hm.hex)

theorem cljFrac_of_fracPart (exp : Bool) {fr : Bytes} (h : FracPart fr) : CljFrac exp fr := by
  rcases h with rfl | ⟨fd, rfl, hfd⟩
  · exact Or.inl rfl
  · refine Or.inr ⟨fd, rfl, uRun_of_all hfd, ?_⟩
    cases fd with
    | nil => simp
    | cons c t =>
      simpa using is09_not_underscore (hfd c (by simp))

theorem cljExp_of_expPart (exp : Bool) {ex : Bytes} (h : ExpPart ex) : CljExp exp ex := by
  rcases h with rfl | ⟨e, es, ed, rfl, he, hes, hne, hed⟩
  · exact Or.inl rfl
  · refine Or.inr ⟨e, es, ed, rfl, he, hes, ?_⟩
    cases ed with
    | nil => exact absurd rfl hne
    | cons d t => exact ⟨d, t, rfl, hed d (by simp), uRun_of_all (fun c hc => hed c (by simp [hc]))⟩

theorem fracPart_no_underscore {fr : Bytes} (h : FracPart fr) : (0x5F : UInt8) ∉ fr :=
  cljFrac_noU rfl (cljFrac_of_fracPart false h)

theorem expPart_no_underscore {ex : Bytes} (h : ExpPart ex) : (0x5F : UInt8) ∉ ex :=
  cljExp_noU rfl (cljExp_of_expPart false h)

theorem mantissa_no_underscore {ip fr ex : Bytes} (hip : DecDigits ip) (hfr : FracPart fr) (hex : ExpPart ex) :
    (0x5F : UInt8) ∉ ip ++ fr ++ ex := by
  intro hm
  simp only [List.mem_append] at hm
  rcases hm with (hm | hm) | hm
  · exact allDigits_no_underscore (decDigits_cases hip).1 hm
  · exact fracPart_no_underscore hfr hm
  · exact expPart_no_underscore hex hm

theorem floatTok_no_underscore {tok : Bytes} (h : FloatTok tok) : (0x5F : UInt8) ∉ tok := by
  obtain ⟨sg, ip, fr, ex, neg, rfl, hs, hip, hfr, hex, -⟩ := h
  intro hm
  simp only [List.append_assoc sg] at hm
  rcases List.mem_append.mp hm with hm | hm
  · exact signTok_no_underscore hs hm
  · exact mantissa_no_underscore hip hfr hex (by simpa only [List.append_assoc] using hm)

end Edn.Proofs.CNum

namespace Edn.Proofs.CljN

/-- neither `r`, `R` nor `/`; the bytes of a decimal token are such, which is why the radix test
    passes it over (`CNum.radixPart_none'`) -/
def OkB (c : UInt8) : Prop := c ≠ 0x72 ∧ c ≠ 0x52 ∧ c ≠ 0x2F

instance : DecidablePred OkB := fun c => by unfold OkB; infer_instance

end Edn.Proofs.CljN
