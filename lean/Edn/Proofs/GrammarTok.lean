/-
  Tokens of the grammars at the dispatcher and the leaf readers.  Strings and characters: the first step
  of `readValue` at `"` and `\`, and the first byte of a string literal of `Renders` (never a second
  quote).  Numbers (`CNum`): where the dispatcher sends them, and `NumTok`, "a number token of `Renders`:
  `readNumber` reads it as this value in front of any terminator", which holds of every `CoreNum` token in
  every configuration (`numTok_of_coreNum`).  Then (`Snd`) facts about the liberal grammar
  `Edn.Spec.Grammar` that both directions of the grammar theorems use: `Form`, `FormSeq`, `Trail` are
  monotone in the nesting bound (`grammar_add`), a blank may precede a trailer, a form is not empty, the
  value a form names is its own `strip` (`grammar_strip`); `skipWs` inverted into `Blank` (`skipWs_inv`), and
  `readSymbolic` inverted into `SymbolicTok` (`readSymbolic_sound`).
-/
import Edn.Proofs.NumberReader
import Edn.Proofs.CompleteSeq
import Edn.Proofs.StrExact

namespace Edn.Proofs
open Edn.Model Edn.Spec

namespace SndX
variable {cfg : Cfg}

theorem dispX_quote : dispatch cfg 0x22 = .string := (dispatch_eq ..).trans rfl

theorem dispX_backslash : dispatch cfg 0x5C = .character := (dispatch_eq ..).trans rfl

end SndX

theorem readValue_quote (ctx : Ctx) (f d : Nat) (dm : Bool) (t : Bytes) (cl : List Call) :
    readValue ctx (f + 1) d dm { rest := 0x22 :: t, calls := cl }
      = readString ctx { rest := 0x22 :: t, calls := cl } := by
  rw [readValue_at _ _ _ _ _ _ _ (by decide +kernel)]
  simp only [route, SndX.dispX_quote]
  rfl

theorem readValue_backslash (ctx : Ctx) (f d : Nat) (dm : Bool) (t : Bytes) (cl : List Call) :
    readValue ctx (f + 1) d dm { rest := 0x5C :: t, calls := cl }
      = readCharacter ctx { rest := 0x5C :: t, calls := cl } := by
  rw [readValue_at _ _ _ _ _ _ _ (by decide +kernel)]
  simp only [route, SndX.dispX_backslash]
  rfl

theorem strContent_head_ne_quote (cfg : Cfg) (sp dn : Bytes) (h : StrContent cfg sp dn) (hne : sp ≠ []) :
    ∃ c t, sp = c :: t ∧ c ≠ 0x22 := by
  cases h with
  | nil => exact absurd rfl hne
  | cons hu hs =>
    cases hu with
    | plain b h1 h2 => exact ⟨b, _, rfl, h1⟩
    | _ => exact ⟨0x5C, _, rfl, by decide⟩

namespace CNum

theorem dispatch_of_digit (cfg : Cfg) {c : UInt8} (h : is09 c = true) : dispatch cfg c = .digit := by
  obtain ⟨-, hd, -⟩ := is09_props h
  obtain ⟨hm, hp⟩ := is09_not_sign h
  rcases SndX.nondelim_dispX (cfg := cfg) hd with h' | h' | h' | h'
  · exact absurd h (by rw [(DispRow.of h').2.2]; exact Bool.false_ne_true)
  · have hs := dispatch_sign h'
    rw [hp, hm] at hs
    cases hs
  · exact h'
  · rw [((SndX.dispX_metadata_iff c).mp h').2] at h
    cases h

/-- a number token of `Renders`: where the dispatcher sends it (`NumStart`), and what the leaf reader
    makes of it in front of any terminator.  The token theorems of C03 (`reads_int` …) and the inclusion
    of `Renders` in the grammar both rest on it. -/
def NumTok (cfg : Cfg) (tok : Bytes) (nv : NumVal) : Prop :=
  NumStart tok ∧ ∀ rest, TermStart rest → readNumber cfg (tok ++ rest) = .ok nv rest

theorem _root_.Edn.Spec.NumStart.append {tok : Bytes} (h : NumStart tok) (rest : Bytes) : NumStart (tok ++ rest) := by
  obtain ⟨c, t, rfl, hc⟩ := h
  exact ⟨c, t ++ rest, rfl, hc.imp_right fun ⟨hsg, nx, t', e, hnx⟩ => ⟨hsg, nx, t' ++ rest, by rw [e]; rfl, hnx⟩⟩

theorem NumTok.start {cfg : Cfg} {tok : Bytes} {nv : NumVal} (h : NumTok cfg tok nv) (rest : Bytes) : NumStart (tok ++ rest) :=
  h.1.append rest

/-- the number classes of `Renders` are the constructors of `CoreNum`, and a core token is read as such
    in every configuration -/
theorem numTok_of_coreNum {cfg : Cfg} {tok : Bytes} {nv : NumVal} (h : CoreNum cfg tok nv) : NumTok cfg tok nv :=
  ⟨List.append_nil tok ▸ coreNum_start h [], fun rest ht => readNumber_coreNum cfg tok rest nv h ht⟩

/-- the float class with its payload as `Renders` spells it: the correctly rounded value of the text -/
theorem numTok_float (cfg : Cfg) (tok : Bytes) (h : FloatTok tok) :
    NumTok cfg tok (.float (let p := decimalParts tok; withSign p.1 (ofDec p.2.1 p.2.2))) :=
  DoubleSpecAux.parseDouble_of_noUnderscore cfg tok (fun _ => floatTok_no_underscore h) ▸
    numTok_of_coreNum (.float tok h)

end CNum

namespace Snd
open Edn.Generated

/-- every `simp` that turns `(c == x) = true` into `c = x` (or `c == c` into `true`) asks for these
    instances, and resolution walks the order hierarchy of `Std` before it finds them -/
local instance (priority := high) u8LawfulBEq : LawfulBEq UInt8 := instLawfulBEq
local instance (priority := high) u8ReflBEq : ReflBEq UInt8 := u8LawfulBEq.toReflBEq

/-- The three recursors of the mutual family take the same motives (read off the three conjuncts)
    and the same sixteen cases. -/
theorem grammar_add (n : Nat) :
    (∀ {k : Nat} {a : Val} {tok rest : Bytes}, Form k a tok rest → Form (k + n) a tok rest) ∧
    (∀ {k : Nat} {xs : List Val} {body after : Bytes}, FormSeq k xs body after → FormSeq (k + n) xs body after) ∧
    (∀ {k : Nat} {tr after : Bytes}, Trail k tr after → Trail (k + n) tr after) := by
  refine ⟨
    @Form.rec _ _ _
      ?blank ?discard ?number ?ident ?str ?char ?symbolic ?list ?vec ?set ?map ?tagged ?nil ?cons ?tblank ?tdiscard,
    @FormSeq.rec _ _ _
      ?blank ?discard ?number ?ident ?str ?char ?symbolic ?list ?vec ?set ?map ?tagged ?nil ?cons ?tblank ?tdiscard,
    @Trail.rec _ _ _
      ?blank ?discard ?number ?ident ?str ?char ?symbolic ?list ?vec ?set ?map ?tagged ?nil ?cons ?tblank ?tdiscard⟩
  case blank => exact fun k a tr tok rest ht _ ih => .blank _ a tr tok rest ht ih
  case discard =>
    exact fun k a b tok1 tok2 rest _ _ ihd ih =>
      Nat.add_right_comm k 1 n ▸ .discard _ a b tok1 tok2 rest ihd (Nat.add_right_comm k 1 n ▸ ih)
  case number => exact fun k tok rest v hn ht => .number _ tok rest v hn ht
  case ident => exact fun k tok rest a hl hs hd ht => .ident _ tok rest a hl hs hd ht
  case str => exact fun k sp rest h => .str _ sp rest h
  case char => exact fun k body rest cp h hcp ht => .char _ body rest cp h hcp ht
  case symbolic => exact fun k tok rest bits h => .symbolic _ tok rest bits h
  case list => exact fun k xs body rest _ ih => Nat.add_right_comm k 1 n ▸ .list _ xs body rest ih
  case vec => exact fun k xs body rest _ ih => Nat.add_right_comm k 1 n ▸ .vec _ xs body rest ih
  case set => exact fun k xs body rest _ hd ih => Nat.add_right_comm k 1 n ▸ .set _ xs body rest ih hd
  case map => exact fun k ks vs body rest _ hl hd ih => Nat.add_right_comm k 1 n ▸ .map _ ks vs body rest ih hl hd
  case tagged =>
    exact fun k tag ns nm a tok rest hl hd hu hsep _ ih =>
      Nat.add_right_comm k 1 n ▸ .tagged _ tag ns nm a tok rest hl hd hu hsep ih
  case nil => exact fun k tr after _ ih => .nil _ tr after ih
  case cons => exact fun k a xs tok body after _ _ ih ihr => .cons _ a xs tok body after ih ihr
  case tblank => exact fun k tr after ht => .blank _ tr after ht
  case tdiscard =>
    exact fun k b tr tok tr' after ht _ _ ihd ihr =>
      Nat.add_right_comm k 1 n ▸ .discard _ b tr tok tr' after ht ihd (Nat.add_right_comm k 1 n ▸ ihr)

theorem form_mono : ∀ {k : Nat} {a : Val} {tok rest : Bytes}, Form k a tok rest → ∀ k', k ≤ k' → Form k' a tok rest :=
  fun h k' hk => Nat.add_sub_cancel' hk ▸ (grammar_add (k' - _)).1 h

theorem formSeq_mono : ∀ {k : Nat} {xs : List Val} {body after : Bytes}, FormSeq k xs body after →
    ∀ k', k ≤ k' → FormSeq k' xs body after :=
  fun h k' hk => Nat.add_sub_cancel' hk ▸ (grammar_add (k' - _)).2.1 h

theorem trail_mono : ∀ {k : Nat} {tr after : Bytes}, Trail k tr after → ∀ k', k ≤ k' → Trail k' tr after :=
  fun h k' hk => Nat.add_sub_cancel' hk ▸ (grammar_add (k' - _)).2.2 h

theorem blank_append {a b : Bytes} (ha : Blank a) (hb : Blank b) : Blank (a ++ b) := by
  induction ha with
  | nil => exact hb
  | ws c t hw _ ih => exact .ws c (t ++ b) hw ih
  | comment body t hbd _ ih =>
    have e : 0x3B :: (body ++ 0x0A :: t) ++ b = 0x3B :: (body ++ 0x0A :: (t ++ b)) := by simp
    rw [e]
    exact .comment body (t ++ b) hbd ih

theorem trail_blank {k : Nat} {tr tr' after : Bytes} (hb : Blank tr) (h : Trail k tr' after) :
    Trail k (tr ++ tr') after := by
  cases h with
  | blank _ _ _ ht => exact .blank k _ after (blank_append hb ht)
  | discard k b tr0 tok tr1 _ ht hd hr =>
    have e : tr ++ (tr0 ++ 0x23 :: 0x5F :: (tok ++ tr1)) = (tr ++ tr0) ++ 0x23 :: 0x5F :: (tok ++ tr1) := by simp
    rw [e]
    exact .discard k b (tr ++ tr0) tok tr1 after (blank_append hb ht) hd hr

theorem skipWs_inv {s : Bytes} {c : UInt8} {cs : Bytes} (h : skipWs s = c :: cs) :
    ∃ tr, Blank tr ∧ s = tr ++ c :: cs := by
  rw [skipWs_eq] at h
  obtain ⟨tr, rest, ht, hs, ⟨_, _, -, -, -, hr⟩ | ⟨hr, -⟩⟩ := skipWsScalar_spec s
  · exact ⟨tr, ht, by rw [hs, ← hr, h]⟩
  · rw [hr] at h; cases h

theorem symInf_bytes : "##Inf".toUTF8.toList = 0x23 :: 0x23 :: strBytes "Inf" := by decide +kernel
theorem symNegInf_bytes : "##-Inf".toUTF8.toList = 0x23 :: 0x23 :: strBytes "-Inf" := by decide +kernel
theorem symNaN_bytes : "##NaN".toUTF8.toList = 0x23 :: 0x23 :: strBytes "NaN" := by decide +kernel

theorem symbolicTok_iff {tok : Bytes} {bits : UInt64} :
    SymbolicTok tok bits ↔ ∃ kw, tok = 0x23 :: 0x23 :: kw ∧ SymName kw bits := by
  constructor
  · intro h
    cases h
    · exact ⟨_, symInf_bytes, .inf⟩
    · exact ⟨_, symNegInf_bytes, .negInf⟩
    · exact ⟨_, symNaN_bytes, .nan⟩
  · rintro ⟨kw, rfl, h⟩
    cases h
    · exact symInf_bytes ▸ .inf
    · exact symNegInf_bytes ▸ .negInf
    · exact symNaN_bytes ▸ .nan

theorem readSymbolic_sound (ctx : Ctx) (p : Bytes) (cl : List Call) (v : Val) (st' : St)
    (h : readSymbolic ctx { rest := 0x23 :: 0x23 :: p, calls := cl } = .ok v st') :
    ∃ tok bits, 0x23 :: 0x23 :: p = tok ++ st'.rest ∧ st'.calls = cl ∧ SymbolicTok tok bits ∧ strip v = .float hdr0 bits := by
  obtain ⟨kw, bits, rest, hn, hs, rfl, rfl⟩ := (readSymbolic_ok_iff ..).mp h
  exact ⟨0x23 :: 0x23 :: kw, bits, congrArg (0x23 :: 0x23 :: ·) hs, rfl, symbolicTok_iff.mpr ⟨kw, rfl, hn⟩, rfl⟩

theorem readValue_hashhash (ctx : Ctx) (f d : Nat) (dm : Bool) (t : Bytes) (cl : List Call) :
    readValue ctx (f + 1) d dm { rest := 0x23 :: 0x23 :: t, calls := cl }
      = readSymbolic ctx { rest := 0x23 :: 0x23 :: t, calls := cl } := by
  rw [readValue_at ctx f d dm _ _ cl (by decide +kernel)]
  unfold route
  simp only [dispatch_hash, BEq.rfl, if_true]
  rfl

theorem coreNum_first {tok : Bytes} {v : NumVal} (h : CoreNum Cfg.core tok v) : NumStart tok :=
  (CNum.numTok_of_coreNum h).1

theorem coreNum_ne_nil {tok : Bytes} {v : NumVal} (h : CoreNum Cfg.core tok v) : tok ≠ [] := by
  obtain ⟨c, t, rfl, -⟩ := coreNum_first h
  exact List.cons_ne_nil c t

theorem symbolicTok_ne_nil {tok : Bytes} {bits : UInt64} (h : SymbolicTok tok bits) : tok ≠ [] := by
  cases h <;> decide +kernel

theorem form_ne_nil : ∀ {k : Nat} {a : Val} {tok rest : Bytes}, Form k a tok rest → tok ≠ [] := by
  refine @Form.rec (fun _ _ tok _ _ => tok ≠ []) (fun _ _ _ _ _ => True) (fun _ _ _ _ => True)
    ?blank ?discard ?number ?ident ?str ?char ?symbolic ?list ?vec ?set ?map ?tagged ?nil ?cons ?tblank ?tdiscard
  case blank => exact fun k a tr tok rest ht h ih he => ih (List.append_eq_nil_iff.mp he).2
  case number => exact fun k tok rest v hn ht => coreNum_ne_nil hn
  case ident => exact fun k tok rest a hl hs hd ht => hl.1
  case symbolic => exact fun k tok rest bits h => symbolicTok_ne_nil h
  case nil | cons | tblank | tdiscard => intros; trivial
  all_goals intros; exact List.cons_ne_nil _ _

theorem strip_numToVal (h : Hdr) (v : NumVal) : strip (numToVal h v) = numToVal hdr0 v := by
  cases v <;> simp [numToVal, strip]

theorem interleaveKV_cons (k v : Val) (ks vs : List Val) :
    interleaveKV (k :: ks) (v :: vs) = k :: v :: interleaveKV ks vs := by
  rw [interleaveKV]

theorem stripL_interleaveKV : ∀ (ks vs : List Val), ks.length = vs.length →
    stripL (interleaveKV ks vs) = interleaveKV ks vs → stripL ks = ks ∧ stripL vs = vs
  | [], [], _, _ => ⟨Cmpl.stripL_nil, Cmpl.stripL_nil⟩
  | k :: ks, v :: vs, hl, h => by
    rw [interleaveKV_cons, Cmpl.stripL_cons, Cmpl.stripL_cons] at h
    injection h with e1 h
    injection h with e2 h
    obtain ⟨hk, hv⟩ := stripL_interleaveKV ks vs (Nat.succ.inj hl) h
    exact ⟨by rw [Cmpl.stripL_cons, e1, hk], by rw [Cmpl.stripL_cons, e2, hv]⟩

theorem identDenotes_strip {tok : Bytes} {a : Val} (h : IdentDenotes tok a) : strip a = a := by
  rcases h with ⟨-, rfl⟩ | ⟨-, rfl⟩ | ⟨-, rfl⟩ | ⟨_, _, _, -, -, -, -, -, rfl⟩ | ⟨-, -, -, -, _, _, -, rfl⟩ <;>
    simp only [strip]

theorem grammar_strip :
    (∀ {k : Nat} {a : Val} {tok rest : Bytes}, Form k a tok rest → strip a = a) ∧
    (∀ {k : Nat} {xs : List Val} {body after : Bytes}, FormSeq k xs body after → stripL xs = xs) ∧
    (∀ {k : Nat} {tr after : Bytes}, Trail k tr after → True) := by
  refine ⟨
    @Form.rec _ _ _
      ?blank ?discard ?number ?ident ?str ?char ?symbolic ?list ?vec ?set ?map ?tagged ?nil ?cons ?tblank ?tdiscard,
    @FormSeq.rec _ _ _
      ?blank ?discard ?number ?ident ?str ?char ?symbolic ?list ?vec ?set ?map ?tagged ?nil ?cons ?tblank ?tdiscard,
    @Trail.rec _ _ _
      ?blank ?discard ?number ?ident ?str ?char ?symbolic ?list ?vec ?set ?map ?tagged ?nil ?cons ?tblank ?tdiscard⟩
  case blank => exact fun k a tr tok rest ht _ ih => ih
  case discard => exact fun k a b tok1 tok2 rest _ _ _ ih => ih
  case number => exact fun k tok rest v hn ht => strip_numToVal hdr0 v
  case ident => exact fun k tok rest a hl hs hd ht => identDenotes_strip hd
  case str => exact fun k sp rest h => by simp only [strip]
  case char => exact fun k body rest cp h hcp ht => by simp only [strip]
  case symbolic => exact fun k tok rest bits h => by simp only [strip]
  case list => exact fun k xs body rest _ ih => by simp only [strip]; rw [ih]
  case vec => exact fun k xs body rest _ ih => by simp only [strip]; rw [ih]
  case set => exact fun k xs body rest _ hd ih => by simp only [strip]; rw [ih]
  case map =>
    intro k ks vs body rest _ hl hd ih
    obtain ⟨hk, hv⟩ := stripL_interleaveKV ks vs hl ih
    simp only [strip]
    rw [hk, hv]
  case tagged => exact fun k tag ns nm a tok rest hl hd hu hsep _ ih => by simp only [strip]; rw [ih]
  case nil => exact fun k tr after _ _ => Cmpl.stripL_nil
  case cons => exact fun k a xs tok body after _ _ ih ihr => by rw [Cmpl.stripL_cons, ih, ihr]
  case tblank => exact fun _ _ _ _ => trivial
  case tdiscard => exact fun _ _ _ _ _ _ _ _ _ _ _ => trivial

theorem closerByte_0 : closerByte 0 = 0x29 := rfl
theorem closerByte_1 : closerByte 1 = 0x5D := rfl
theorem closerByte_2 : closerByte 2 = 0x7D := rfl

end Snd

end Edn.Proofs
