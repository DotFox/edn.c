/-
  The facts of a run of the recursive reader.  One invariant of every answer (`run_answer`): progress (a
  form read consumes at least one byte), the cursor never moves backwards and no handler is called where
  none can be (`Later`: the new rest is a suffix of the old, the call log is left alone where `quiet`;
  `run_suffix`), the error code is never OK, where a closing delimiter may be answered and where the end of
  the input may be flagged as lying between forms (`run_noTop`); it is walked rule by rule, and what a rule
  makes of a sub-call's answer is said once (`After`, `Fresh`).  Hence termination
  (the termination half of C02): fuel monotonicity (more fuel changes no answer other than "out of fuel",
  `run_fuel_mono`) and fuel sufficiency (`readFuel input` is enough, `run_fuel_sufficient`).  `read` as a
  match on the answer of `readValue` (`read_eq`).
  C13, on one step of the reader: blanks in front of a form (whitespace, commas, line comments closed by a
  line feed) and a discarded well-formed form are trivia: they do not change what is read (nor the call
  log: no handler runs inside a discarded form), and input of trivia only reads as end of input
  (`readValue_blank_prefix`, `discard_is_trivia`, `readValue_trivia_only`).
  C10: `read` reports a value or an error, never both and never neither, and every error has a code
  other than OK (`read_value_xor_error`); the one-step rejections: a closing delimiter at depth 0 is
  UNMATCHED_DELIMITER (`stray_closer`), inside a collection it is handed up (`closer_inside`).
-/
import Edn.Proofs.StepRel

namespace Edn.Proofs
open Edn.Model
open Edn.Generated

theorem Progress.st_le {st : St} {r : Res} (h : Progress st r) : r.st.rest.length ≤ st.rest.length := by
  cases r <;> simp only [Progress, Res.st] at h ⊢ <;> omega

theorem Progress.mono {st1 st2 : St} {r : Res} (h : Progress st1 r) (hle : st1.rest.length ≤ st2.rest.length) :
    Progress st2 r := by
  cases r <;> simp only [Progress] at h ⊢ <;> omega

theorem Progress.err_le {st st' : St} {e : ErrInfo} (h : st'.rest.length ≤ st.rest.length) :
    Progress st (.err e st') := h

def _root_.Edn.Model.Res.errNotOk : Res → Bool
  | .err e _ => decide (e.code ≠ .ok)
  | _ => true

theorem codeIs_err {c : Err} {r : Res} {e : ErrInfo} {st' : St} (h : r.codeIs c = true) (hr : r = .err e st') :
    e.code = c := by
  subst hr
  simpa [Res.codeIs] using h

theorem codeIs_errNotOk {c : Err} {r : Res} (h : r.codeIs c = true) (hc : c ≠ Err.ok) :
    r.errNotOk = true := by
  cases r with
  | ok v st => rfl
  | closer st => rfl
  | err e st =>
    have : e.code = c := codeIs_err h rfl
    simp only [Res.errNotOk, this, decide_eq_true_eq]
    exact hc

theorem errNotOk_err {r : Res} {e : ErrInfo} {st' : St} (h : r.errNotOk = true) (hr : r = .err e st') :
    e.code ≠ .ok := by
  subst hr
  simpa [Res.errNotOk] using h

theorem LeafCall.errNotOk {ctx : Ctx} {st : St} {r : Res} (h : LeafCall ctx st r) : r.errNotOk = true :=
  h.leaf.elim fun _ hl => codeIs_errNotOk hl.2.code hl.1

/-! ## what a rule makes of the answer of a sub-call

For the facts of the answer alone: a rule hands over to another call, or answers on the spot (`Fresh`), or
makes its answer of what a sub-call answered (`After`). -/

/-- an error raised on the spot, at a place reached from `st`; only the end of the input met by
    `readValue` itself is flagged `eofTop`, and that is not one of these -/
inductive Fresh (q : Bool) (st : St) : Res → Prop
  | err {e : ErrInfo} {st' : St} : e.code ≠ .ok → e.fuelOut = false → e.eofTop = false → Later q st st' →
      Fresh q st (.err e st')

theorem Fresh.mk {q : Bool} {st st' : St} {code : Err} (es ee : Option Nat) (hc : code ≠ .ok)
    (h : Later q st st') : Fresh q st (.err (mkErr code es ee) st') := .err hc rfl rfl h

/-- `After q r r'`: having got `r` from a sub-call, the step answers `r'` -/
inductive After (q : Bool) : Res → Res → Prop
  | pass {e : ErrInfo} {st : St} : After q (.err e st) (.err e st)
  | fresh {r r' : Res} : Fresh q r.st r' → After q r r'
  | ok {v v' : Val} {st st' : St} : Later q st st' → After q (.ok v st) (.ok v' st')
  | close {v : Val} {st st' : St} : Later q st st' → st'.rest.length < st.rest.length →
      After q (.closer st) (.ok v st')

theorem After.mkErr {q : Bool} {r : Res} {st' : St} {code : Err} (es ee : Option Nat) (hc : code ≠ .ok)
    (h : Later q r.st st') : After q r (.err (mkErr code es ee) st') := .fresh (.mk es ee hc h)

theorem Later.eat {q : Bool} {st' : St} {r : Bytes} {c : UInt8} (hs : st'.rest = c :: r) :
    Later q st' { st' with rest := r } := .rest (by rw [hs]; exact List.suffix_cons c r)

theorem eat_lt {st' : St} {r : Bytes} {c : UInt8} (hs : st'.rest = c :: r) : r.length < st'.rest.length := by
  rw [hs]; exact Nat.lt_succ_self _

theorem tagOut_after {ctx : Ctx} {dm : Bool} {start : Nat} (tag : Bytes) (v : Val) (st'' : St) :
    After (quiet ctx dm) (.ok v st'') (tagOut ctx dm start tag v st'') := by
  unfold tagOut
  dsimp only
  cases hreg : ctx.opts.registry with
  | none => exact .ok (.refl ..)
  | some reg =>
    refine ite_ind (fun _ => .ok (.refl ..)) fun hdm => ?_
    -- only outside discard mode, and with a registry, is the handler called and the call logged
    have hl (cl : List Call) : Later (quiet ctx dm) st'' { st'' with calls := cl } :=
      ⟨List.suffix_refl _, fun h => absurd (by simpa [quiet, hreg] using h) hdm⟩
    cases reg tag with
    | some h =>
      dsimp only
      cases h.run v with
      | none => exact .mkErr _ _ (by decide) (hl _)
      | some r => exact .ok (hl _)
    | none =>
      exact ite_ind (fun _ => .ok (.refl ..)) fun _ =>
        ite_ind (fun _ => .mkErr _ _ (by decide) (.refl ..)) fun _ => .ok (.refl ..)

/-- `cl`: what must hold if the answer is "closer"; `tp`: what must hold if it is the error flagged `eofTop`;
    `q`: whether no handler can have been called -/
structure Ans (cl tp : Prop) (q : Bool) (st : St) (r : Res) : Prop where
  progress : Progress st r
  later : Later q st r.st
  code : r.errNotOk = true
  closer : r.isCloser = true → cl
  top : r.noTop = false → tp

namespace Ans
variable {cl cl' tp tp' : Prop} {q : Bool} {st st1 st2 : St} {r : Res}

theorem mono (h : Ans cl tp q st1 r) (hl : Later q st2 st1) : Ans cl tp q st2 r :=
  ⟨h.progress.mono hl.1.length_le, hl.trans h.later, h.code, h.closer, h.top⟩

theorem imp (h : Ans cl tp q st r) (hc : cl → cl') (ht : tp → tp') : Ans cl' tp' q st r :=
  ⟨h.1, h.2, h.3, fun x => hc (h.4 x), fun x => ht (h.5 x)⟩

theorem weaken (h : Ans False False q st r) : Ans cl tp q st r := h.imp False.elim False.elim

theorem below {d : Nat} (h : Ans cl (d + 1 = 0) q st r) : Ans cl False q st r := h.imp id (Nat.succ_ne_zero d)

theorem ofTrue (h : Ans cl tp true st r) : Ans cl tp q st r := ⟨h.1, ⟨h.2.1, fun _ => h.2.2 rfl⟩, h.3, h.4, h.5⟩

theorem ok {v : Val} {st' : St} (h : Ans cl tp q st (.ok v st')) :
    Later q st st' ∧ st'.rest.length < st.rest.length := ⟨h.later, h.progress⟩

end Ans

theorem Fresh.ans {q : Bool} {st : St} {r : Res} (h : Fresh q st r) : Ans False False q st r := by
  cases h with
  | err hc _ ht hl => exact ⟨hl.1.length_le, hl, decide_eq_true hc, nofun, fun h => by rw [Res.noTop, ht] at h; cases h⟩

/-- only an error that is passed on keeps its flag -/
theorem After.ans {cl tp : Prop} {q : Bool} {st : St} {r r' : Res} (h : After q r r') (hr : Ans cl tp q st r) :
    Ans False tp q st r' := by
  cases h with
  | pass => exact ⟨hr.1, hr.2, hr.3, nofun, hr.5⟩
  | fresh hf => exact (hf.ans.mono hr.later).weaken
  | ok hl => exact ⟨Nat.lt_of_le_of_lt hl.1.length_le hr.1, hr.later.trans hl, rfl, nofun, nofun⟩
  | close hl hlt => exact ⟨Nat.lt_of_lt_of_le hlt hr.1, hr.later.trans hl, rfl, nofun, nofun⟩

theorem LeafCall.ans {ctx : Ctx} {q : Bool} {st : St} {r : Res} (h : LeafCall ctx st r) : Ans False False q st r :=
  h.leaf.elim fun _ hl =>
    ⟨h.progress, ⟨h.suffix, fun _ => hl.2.calls⟩, h.errNotOk, fun hc => Bool.noConfusion (hl.2.closer.symm.trans hc),
      fun ht => Bool.noConfusion (hl.2.top.symm.trans ht)⟩

abbrev Answer (ctx : Ctx) (c : Call6) (r : Res) : Prop := Ans c.mayClose c.mayTop (quiet ctx c.dm) c.st r

theorem step_answer (ctx : Ctx) {R : Call6 → Res} (hR : ∀ c, Answer ctx c (R c)) {c : Call6} {r : Res}
    (h : StepRel ctx R c r) : Answer ctx c r := by
  have hV {d dm st r} (h : R (.v d dm st) = r) : Ans (d ≠ 0) (d = 0) (quiet ctx dm) st r := h ▸ hR (.v d dm st)
  -- annotation, target, element, key and value are read one level down
  have hB {d dm st r} (h : R (.v (d + 1) dm st) = r) : Ans (d + 1 ≠ 0) False (quiet ctx dm) st r := (hV h).below
  have hand {c r} (h : R c = r) : Answer ctx c r := h ▸ hR c
  have here {cl tp q st code es ee} (hc : code ≠ .ok) : Ans cl tp q st (.err (mkErr code es ee) st) :=
    (Fresh.mk es ee hc (.refl ..)).ans.weaken
  -- `readValue` dispatches on what `skipWs` leaves; a discarded form begins behind `#_`
  have ws {st : St} {c cs} (hw : skipWs st.rest = c :: cs) : c :: cs <:+ st.rest := hw ▸ skipWs_suffix _
  have skip {d c cs s} (hrt : route ctx.cfg d c cs = .skip s) : s <:+ c :: cs :=
    (route_bytes hrt).2.2 ▸ (List.suffix_cons _ _).trans (List.suffix_cons _ _)
  cases h with
  | @vEof d _ _ _ =>
    exact ⟨Progress.err_le (Nat.zero_le _), .rest List.nil_suffix, rfl, nofun, fun h => (by simpa [eofErrOf, Res.noTop] using h : d = 0)⟩
  | @vLeaf d dm st c cs k hw hrt => exact (((route_bytes hrt).leafCall ctx st.calls).ans.weaken).mono (.rest (ws hw))
  | vDeep hw | vStray hw => exact (here (by decide)).mono (.rest (ws hw))
  | vCloser hw hrt =>
    exact Ans.mono ⟨Nat.le_refl _, .refl .., rfl, fun _ => Nat.ne_of_gt (route_bytes hrt).1, nofun⟩ (.rest (ws hw))
  | vSeq hw hrt hr =>
    exact (hand hr).weaken.mono (.rest (((route_bytes hrt).seq_le.trans (List.suffix_cons _ _)).trans (ws hw)))
  | vMap hw _ hr | vTagged hw _ hr | vMeta hw _ hr =>
    exact (hand hr).weaken.mono (.rest ((List.suffix_cons _ _).trans (ws hw)))
  | vNsmap hw _ hr => exact (hand hr).mono (.rest ((List.suffix_cons _ _).trans (ws hw)))
  | @vSkipOk _ dm _ _ _ _ _ _ _ hw hrt hv hr =>
    exact (hand hr).mono ((Later.rest ((skip hrt).trans (ws hw))).trans ((hB hv).ofTrue (q := quiet ctx dm)).ok.1)
  | vSkipCloser hw hrt hv =>
    exact ((After.mkErr _ _ (by decide) (.refl ..)).ans (hB hv).ofTrue).weaken.mono (.rest ((skip hrt).trans (ws hw)))
  | vSkipErr hw hrt hv => exact (After.pass.ans (hB hv).ofTrue).weaken.mono (.rest ((skip hrt).trans (ws hw)))
  | sNext hv hr => exact (hand hr).mono (hB hv).ok.1
  | sErr hv | mErr hv =>
    exact ite_ind (P := fun e => Ans False False _ _ (.err e _)) (fun _ => (After.mkErr _ _ (by decide) (.refl ..)).ans (hB hv))
      fun _ => After.pass.ans (hB hv)
  | sStray hv | mEof hv | mStray hv | meCloser hv | meNoEntries hv => exact (After.mkErr _ _ (by decide) (.refl ..)).ans (hB hv)
  | sList hv hs | sVec hv hs | sSet hv hs | mOk hv hs => exact (After.close (.eat hs) (eat_lt hs)).ans (hB hv)
  | sDup hv hs | mDup hv hs => exact (After.mkErr (r := .closer _) _ _ (by decide) (.eat hs)).ans (hB hv)
  | mNext hv hv2 hr => exact ((hand hr).mono (hB hv2).ok.1).mono (hB hv).ok.1
  | mErr₂ hv hv2 =>
    exact Ans.mono (ite_ind (P := fun e => Ans False False _ _ (.err e _))
      (fun _ => (After.mkErr _ _ (by decide) (.refl ..)).ans (hB hv2)) fun _ => After.pass.ans (hB hv2)) (hB hv).ok.1
  | mOdd hv hv2 | meCloser₂ hv _ hv2 | meNoTarget hv _ hv2 =>
    exact ((After.mkErr _ _ (by decide) (.refl ..)).ans (hB hv2)).mono (hB hv).ok.1
  | nCloser hv => exact hV hv
  | nErr hv => exact (After.pass.ans (hV hv)).imp False.elim id
  | nBad hv => exact ((After.mkErr _ _ (by decide) (.refl ..)).ans (hV hv)).imp False.elim id
  | nNoBrace hv => exact ((After.mkErr _ _ (by decide) (.rest (skipWs_suffix _))).ans (hV hv)).imp False.elim id
  | nNext hv hw hr =>
    exact (((hand hr).mono (.rest ((List.suffix_cons _ _).trans (ws hw)))).mono (hV hv).ok.1).weaken
  | tEof | tWs => refine here ?_; decide
  | tIdCloser _ _ hr => exact absurd (hr ▸ (readIdentifier_leafRes ctx _).closer) Bool.noConfusion
  | tIdErr _ _ hr => exact After.pass.ans (hr ▸ LeafCall.identifier.ans)
  | tNotSym _ _ hr => exact (After.mkErr (r := .ok _ _) _ _ (by decide) (.refl ..)).ans (hr ▸ LeafCall.identifier.ans)
  | tCloser _ _ hr hv =>
    exact ((After.mkErr _ _ (by decide) (.refl ..)).ans (hB hv)).mono (Ans.ok (hr ▸ LeafCall.identifier.ans (q := _))).1
  | tErr _ _ hr hv => exact (After.pass.ans (hB hv)).mono (Ans.ok (hr ▸ LeafCall.identifier.ans (q := _))).1
  | tOk _ _ hr hv => exact ((tagOut_after ..).ans (hB hv)).mono (Ans.ok (hr ▸ LeafCall.identifier.ans (q := _))).1
  | meErr hv => exact After.pass.ans (hB hv)
  | meErr₂ hv _ hv2 => exact (After.pass.ans (hB hv2)).mono (hB hv).ok.1
  | meOk hv _ hv2 => exact ((After.ok (.refl ..)).ans (hB hv2)).mono (hB hv).ok.1

theorem run_answer (ctx : Ctx) (f : Nat) : ∀ c, Answer ctx c (run ctx f c) :=
  run_ind ctx (P := fun _ R => ∀ c, Answer ctx c (R c))
    (fun _ => ⟨Nat.le_refl _, .refl .., rfl, nofun, nofun⟩) (fun _ ih c => step_answer ctx ih (step_rel c)) f

theorem run_progress (ctx : Ctx) (f : Nat) (c : Call6) : Progress c.st (run ctx f c) := (run_answer ctx f c).progress

theorem run_ok_lt {ctx : Ctx} {f : Nat} {c : Call6} {v : Val} {st' : St} (h : run ctx f c = .ok v st') :
    st'.rest.length < c.st.rest.length :=
  (h ▸ run_answer ctx f c : Ans _ _ _ _ (.ok v st')).progress

theorem run_noCloser (ctx : Ctx) (f : Nat) {c : Call6} (h : ¬ c.mayClose) : (run ctx f c).isCloser = false :=
  Bool.eq_false_iff.mpr fun hc => h ((run_answer ctx f c).closer hc)

/-- C13: where `quiet` (in discard mode, and without a registry) no handler is invoked, whatever is read and
    whether it succeeds or fails -/
theorem run_calls (ctx : Ctx) (f : Nat) {c : Call6} (h : quiet ctx c.dm = true) : (run ctx f c).st.calls = c.st.calls :=
  (run_answer ctx f c).later.2 h

theorem run_suffix (ctx : Ctx) (f : Nat) (c : Call6) : (run ctx f c).st.rest <:+ c.st.rest :=
  (run_answer ctx f c).later.1

theorem readValue_rest_suffix (ctx : Ctx) (hreg : ctx.opts.registry = none) (f d : Nat) (dm : Bool) (st st' : St) (v : Val)
    (h : readValue ctx f d dm st = .ok v st') : st'.rest <:+ st.rest ∧ st'.calls = st.calls :=
  have hl := ((show run ctx f (.v d dm st) = _ from h) ▸ run_answer ctx f (.v d dm st) : Ans _ _ _ st (.ok v st')).later
  ⟨hl.1, hl.2 (by simp [quiet, hreg])⟩

theorem run_errNotOk (ctx : Ctx) (f : Nat) (c : Call6) : (run ctx f c).errNotOk = true := (run_answer ctx f c).code

theorem run_noTop (ctx : Ctx) (f : Nat) {c : Call6} (h : ¬ c.mayTop) : (run ctx f c).noTop = true :=
  Bool.of_not_eq_false fun ht => h ((run_answer ctx f c).top ht)

section
variable {ctx : Ctx} {R R' : Call6 → Res}

theorem loopErr_fuelOut (start : Nat) (e : ErrInfo) (r : Bytes) : (loopErr start e r).fuelOut = e.fuelOut := by
  unfold loopErr
  cases hf : e.fuelOut
  · exact ite_ind (P := fun x : ErrInfo => x.fuelOut = false) (fun _ => rfl) fun _ => hf
  · exact (congrArg ErrInfo.fuelOut (if_neg (by simp))).trans hf

theorem StepRel.upto (hR : ∀ c, (R c).isFuelOut = false → R' c = R c) {c : Call6} {r : Res}
    (h : StepRel ctx R c r) (hf : r.isFuelOut = false) : StepRel ctx R' c r := by
  have up {c r} (h : R c = r) (hf : r.isFuelOut = false) : R' c = r := (hR c (h ▸ hf)).trans h
  cases h with
  | tEof hs => exact .tEof hs
  | tWs hs hc => exact .tWs hs hc
  | tIdCloser hs hc hr => exact .tIdCloser hs hc hr
  | tIdErr hs hc hr => exact .tIdErr hs hc hr
  | tNotSym hs hc hr hn => exact .tNotSym hs hc hr hn
  | tCloser hs hc hr hv => exact .tCloser hs hc hr (up hv rfl)
  | tErr hs hc hr hv => exact .tErr hs hc hr (up hv hf)
  | tOk hs hc hr hv => exact .tOk hs hc hr (up hv rfl)
  | vEof hw => exact .vEof hw
  | vLeaf hw hrt => exact .vLeaf hw hrt
  | vDeep hw hrt => exact .vDeep hw hrt
  | vStray hw hrt => exact .vStray hw hrt
  | vCloser hw hrt => exact .vCloser hw hrt
  | vSeq hw hrt hr => exact .vSeq hw hrt (up hr hf)
  | vMap hw hrt hr => exact .vMap hw hrt (up hr hf)
  | vNsmap hw hrt hr => exact .vNsmap hw hrt (up hr hf)
  | vTagged hw hrt hr => exact .vTagged hw hrt (up hr hf)
  | vMeta hw hrt hr => exact .vMeta hw hrt (up hr hf)
  | vSkipOk hw hrt hv hr => exact .vSkipOk hw hrt (up hv rfl) (up hr hf)
  | vSkipCloser hw hrt hv => exact .vSkipCloser hw hrt (up hv rfl)
  | vSkipErr hw hrt hv => exact .vSkipErr hw hrt (up hv hf)
  | sNext hv hr => exact .sNext (up hv rfl) (up hr hf)
  | sErr hv => exact .sErr (up hv ((loopErr_fuelOut ..).symm.trans hf))
  | sStray hv hn => exact .sStray (up hv rfl) hn
  | sList hv hs hk => exact .sList (up hv rfl) hs hk
  | sVec hv hs hk => exact .sVec (up hv rfl) hs hk
  | sDup hv hs hk0 hk1 hd => exact .sDup (up hv rfl) hs hk0 hk1 hd
  | sSet hv hs hk0 hk1 hd => exact .sSet (up hv rfl) hs hk0 hk1 hd
  | mNext hv hv2 hr => exact .mNext (up hv rfl) (up hv2 rfl) (up hr hf)
  | mErr hv => exact .mErr (up hv ((loopErr_fuelOut ..).symm.trans hf))
  | mErr₂ hv hv2 => exact .mErr₂ (up hv rfl) (up hv2 ((loopErr_fuelOut ..).symm.trans hf))
  | mOdd hv hv2 => exact .mOdd (up hv rfl) (up hv2 rfl)
  | mEof hv hs => exact .mEof (up hv rfl) hs
  | mStray hv hs hc => exact .mStray (up hv rfl) hs hc
  | mDup hv hs hd => exact .mDup (up hv rfl) hs hd
  | mOk hv hs hd => exact .mOk (up hv rfl) hs hd
  | nCloser hv => exact .nCloser (up hv rfl)
  | nErr hv => exact .nErr (up hv hf)
  | nBad hv hb => exact .nBad (up hv rfl) hb
  | nNoBrace hv hn => exact .nNoBrace (up hv rfl) hn
  | nNext hv hw hr => exact .nNext (up hv rfl) hw (up hr hf)
  | meCloser hv => exact .meCloser (up hv rfl)
  | meErr hv => exact .meErr (up hv hf)
  | meNoEntries hv hm => exact .meNoEntries (up hv rfl) hm
  | meCloser₂ hv hm hv2 => exact .meCloser₂ (up hv rfl) hm (up hv2 rfl)
  | meErr₂ hv hm hv2 => exact .meErr₂ (up hv rfl) hm (up hv2 hf)
  | meNoTarget hv hm hv2 ht => exact .meNoTarget (up hv rfl) hm (up hv2 rfl) ht
  | meOk hv hm hv2 ht => exact .meOk (up hv rfl) hm (up hv2 rfl) ht

theorem run_fuel_mono (ctx : Ctx) (f : Nat) : ∀ c, (run ctx f c).isFuelOut = false → run ctx (f + 1) c = run ctx f c := by
  induction f with
  | zero => intro c h; rw [run_zero] at h; cases h
  | succ f ih =>
    intro c h
    rw [run_succ ctx (f + 1), run_succ ctx f] at *
    exact ((step_rel c).upto ih h).eq

end

theorem run_fuel_le (ctx : Ctx) {f f' : Nat} (c : Call6) (hle : f ≤ f') (h : (run ctx f c).isFuelOut = false) :
    run ctx f' c = run ctx f c := by
  obtain ⟨k, rfl⟩ := Nat.exists_eq_add_of_le hle
  induction k with
  | zero => rfl
  | succ k ih =>
    have hk := ih (Nat.le_add_right _ _)
    exact (run_fuel_mono ctx (f + k) c (by rw [hk]; exact h)).trans hk

theorem Fresh.not_fuelOut {q : Bool} {st : St} {r : Res} (h : Fresh q st r) : r.isFuelOut = false := by
  cases h with
  | err _ hf _ _ => exact hf

theorem After.not_fuelOut {q : Bool} {r r' : Res} (h : After q r r') (hr : r.isFuelOut = false) :
    r'.isFuelOut = false := by
  cases h with
  | pass => exact hr
  | fresh hf => exact hf.not_fuelOut
  | ok _ => rfl
  | close _ _ => rfl

/-- Where `+ 2` and `+ 3` come from: with `n` bytes left, a turn of a loop spends one unit and calls
    `readValue` on the same `n` bytes, so a loop needs one unit more than `readValue`; `readValue` spends
    one unit and enters a loop behind at least one byte, which needs `2 * (n - 1) + 3`. -/
def Call6.need : Call6 → Nat
  | .v _ _ st => 2 * st.rest.length + 2
  | .s _ _ _ _ st _ | .m _ _ _ _ st _ _ | .n _ _ _ st | .t _ _ _ st | .me _ _ _ st => 2 * st.rest.length + 3

theorem step_suff (ctx : Ctx) {R : Call6 → Res} {g : Nat} (hA : ∀ c, Answer ctx c (R c))
    (hR : ∀ c, c.need ≤ g → (R c).isFuelOut = false) {c : Call6} {r : Res} (h : StepRel ctx R c r)
    (hg : c.need ≤ g + 1) : r.isFuelOut = false := by
  have lt {d dm st v st'} (h : R (.v d dm st) = .ok v st') : st'.rest.length < st.rest.length :=
    (h ▸ hA (.v d dm st) : Ans _ _ _ st (.ok v st')).progress
  have sub {c' r'} (h : R c' = r') (hn : c'.need ≤ g) : r'.isFuelOut = false := h ▸ hR c' hn
  have ws {st : St} {c cs} (hw : skipWs st.rest = c :: cs) : cs.length + 1 ≤ st.rest.length :=
    (hw ▸ skipWs_length_le st.rest : (c :: cs).length ≤ st.rest.length)
  cases h with
  | vEof | vDeep | vStray | vCloser | vSkipCloser | sStray | sList | sVec | sDup | sSet | mOdd | mEof | mStray | mDup | mOk
  | nCloser | nBad | nNoBrace | tEof | tWs | tIdCloser | tNotSym | tCloser | meCloser | meNoEntries | meCloser₂
  | meNoTarget | meOk => rfl
  | vLeaf _ hrt => exact ((route_bytes hrt).leafCall ctx _).leaf.elim fun _ hl => hl.2.fuel
  | vSeq hw hrt hr =>
    have := ws hw; have := (route_bytes hrt).seq_le.length_le
    exact sub hr (by simp only [Call6.need] at hg ⊢; omega)
  | vMap hw _ hr | vNsmap hw _ hr | vTagged hw _ hr | vMeta hw _ hr =>
    have := ws hw
    exact sub hr (by simp only [Call6.need] at hg ⊢; omega)
  | @vSkipOk _ _ _ _ _ s _ st1 _ hw hrt hv hr =>
    have := ws hw; have := (route_bytes hrt).skip_lt; have : st1.rest.length < s.length := lt hv
    exact sub hr (by simp only [Call6.need] at hg ⊢; omega)
  | vSkipErr hw hrt hv =>
    have := ws hw; have := (route_bytes hrt).skip_lt
    exact sub hv (by simp only [Call6.need] at hg ⊢; omega)
  | sNext hv hr =>
    have := lt hv
    exact sub hr (by simp only [Call6.need] at hg ⊢; omega)
  | sErr hv | mErr hv => exact (loopErr_fuelOut ..).trans (sub hv (by simp only [Call6.need] at hg ⊢; omega))
  | mNext hv hv2 hr =>
    have := lt hv; have := lt hv2
    exact sub hr (by simp only [Call6.need] at hg ⊢; omega)
  | mErr₂ hv hv2 =>
    have := lt hv
    exact (loopErr_fuelOut ..).trans (sub hv2 (by simp only [Call6.need] at hg ⊢; omega))
  | nErr hv | meErr hv => exact sub hv (by simp only [Call6.need] at hg ⊢; omega)
  | nNext hv hw hr =>
    have := lt hv; have := ws hw
    exact sub hr (by simp only [Call6.need] at hg ⊢; omega)
  | tIdErr _ _ hr => exact hr ▸ (readIdentifier_leafRes ctx _).fuel
  | @tErr _ _ _ st _ _ _ _ _ _ _ _ _ _ _ hr hv =>
    have hid := readIdentifier_progress ctx st; rw [hr] at hid
    exact sub hv (by simp only [Call6.need, Progress] at hg hid ⊢; omega)
  | tOk => exact (tagOut_after ..).not_fuelOut rfl
  | meErr₂ hv _ hv2 =>
    have := lt hv
    exact sub hv2 (by simp only [Call6.need] at hg ⊢; omega)

theorem run_fuel_sufficient (ctx : Ctx) (f : Nat) : ∀ c : Call6, c.need ≤ f → (run ctx f c).isFuelOut = false :=
  run_ind ctx (P := fun f R => ∀ c : Call6, c.need ≤ f → (R c).isFuelOut = false)
    (fun c h => by cases c <;> simp only [Call6.need] at h <;> omega)
    (fun f ih c h => step_suff ctx (run_answer ctx f) ih (step_rel c) h) f

/-- `c` answers `r` at every sufficient fuel: the form in which a run is stated where the fuel is not the
    subject.  Sufficient is `Call6.need`, so `Evals ctx (.v d dm st) r` unfolds to
    `∀ f, 2 * st.rest.length + 2 ≤ f → readValue ctx f d dm st = r`. -/
def Evals (ctx : Ctx) (c : Call6) (r : Res) : Prop := ∀ f, c.need ≤ f → run ctx f c = r

theorem Evals.of_run {ctx : Ctx} {c : Call6} {r : Res} {f : Nat} (h : run ctx f c = r) (hr : r.isFuelOut = false) :
    Evals ctx c r := by
  intro g hg
  rcases Nat.le_total f g with hle | hle
  · rw [run_fuel_le ctx c hle (h ▸ hr), h]
  · rw [← run_fuel_le ctx c hle (run_fuel_sufficient ctx g c hg), h]

namespace Evals
variable {ctx : Ctx} {c c1 c2 c3 : Call6} {r r1 r2 r3 : Res}

/-- Unlike `of_run` this asks nothing of `r`: at a sufficient fuel the answer is not "out of fuel", and more fuel
    does not change such an answer. -/
theorem intro (f0 : Nat) (h : ∀ f, f0 ≤ f → run ctx (f + 1) c = r) : Evals ctx c r := fun f hf =>
  (run_fuel_le ctx c (Nat.le_succ_of_le (Nat.le_max_right f0 f)) (run_fuel_sufficient ctx f c hf)).symm.trans
    (h _ (Nat.le_max_left f0 f))

theorem bind₃ (h1 : Evals ctx c1 r1) (h2 : Evals ctx c2 r2) (h3 : Evals ctx c3 r3)
    (h : ∀ f, run ctx f c1 = r1 → run ctx f c2 = r2 → run ctx f c3 = r3 → run ctx (f + 1) c = r) : Evals ctx c r :=
  intro (c1.need + c2.need + c3.need) fun f hf => h f (h1 f (by omega)) (h2 f (by omega)) (h3 f (by omega))

theorem bind (h1 : Evals ctx c1 r1) (h : ∀ f, run ctx f c1 = r1 → run ctx (f + 1) c = r) : Evals ctx c r :=
  bind₃ h1 h1 h1 fun f a _ _ => h f a

theorem not_fuelOut (h : Evals ctx c r) : r.isFuelOut = false :=
  h _ (Nat.le_refl _) ▸ run_fuel_sufficient ctx _ c (Nat.le_refl _)

theorem rule₃ (h1 : Evals ctx c1 r1) (h2 : Evals ctx c2 r2) (h3 : Evals ctx c3 r3)
    (rule : ∀ R, R c1 = r1 → R c2 = r2 → R c3 = r3 → StepRel ctx R c r) : Evals ctx c r :=
  bind₃ h1 h2 h3 fun _ a b c => run_of_rule (rule _ a b c)

theorem rule₂ (h1 : Evals ctx c1 r1) (h2 : Evals ctx c2 r2) (rule : ∀ R, R c1 = r1 → R c2 = r2 → StepRel ctx R c r) :
    Evals ctx c r :=
  rule₃ h1 h2 h2 fun R a b _ => rule R a b

theorem rule (h1 : Evals ctx c1 r1) (rule : ∀ R, R c1 = r1 → StepRel ctx R c r) : Evals ctx c r :=
  bind h1 fun _ a => run_of_rule (rule _ a)

theorem of_eq (h : Evals ctx c1 r) (e : ∀ f, run ctx (f + 1) c = run ctx f c1) : Evals ctx c r :=
  bind h fun f a => (e f).trans a

end Evals

theorem step_deep (ctx : Ctx) {R R' : Call6 → Res} (d : Nat) (dm : Bool) (st : St)
    (hd : Tables.maxNestingDepth ≤ d)
    (hT : skipWs st.rest = [0x23] → ∀ start,
      R' (.t d dm start { rest := [], calls := st.calls }) = R (.t d dm start { rest := [], calls := st.calls })) :
    step ctx R' (.v d dm st) = step ctx R (.v d dm st) := by
  have hd' : ¬ d < Tables.maxNestingDepth := Nat.not_lt.mpr hd
  rw [step_v_eq, step_v_eq]
  cases hw : skipWs st.rest with
  | nil => rfl
  | cons c cs =>
    dsimp only
    cases hrt : route ctx.cfg d c cs with
    | leaf k | deep | stray | closer => rfl
    | seq kind s => exact absurd (route_bytes hrt).1 hd'
    | map => exact absurd (route_bytes hrt).1 hd'
    | nsmap => exact absurd (route_bytes hrt).1 hd'
    | metadata => exact absurd (route_bytes hrt).1 hd'
    | skip s => exact absurd (route_bytes hrt).1 hd'
    | tagged =>
      obtain ⟨rfl, h | rfl, -⟩ := route_bytes hrt
      · exact absurd h hd'
      · exact hT hw _

namespace RejectDoc

/-- offset, line and column of an absolute offset, as `edn_read` reports it -/
def posOf (input : Bytes) (off : Nat) : Pos :=
  let p := linePos (lfPositions input).toArray off
  ⟨off, p.1, p.2⟩

theorem posOf_offset (input : Bytes) (off : Nat) : (posOf input off).offset = off := rfl

end RejectDoc

/-- ranges are turned from bytes remaining into positions.  The one place where `read` is unfolded. -/
theorem read_eq (cfg : Cfg) (opts : Opts) (input : Bytes) :
    read cfg opts input =
      match readValue { cfg := cfg, opts := opts } (readFuel input) 0 false { rest := input } with
      | .ok v st => { out := .value v, calls := st.calls }
      | .closer st => { out := .fuelOut, calls := st.calls }
      | .err e st =>
        { out := if e.fuelOut then .fuelOut
            else if e.code == .unexpectedEof && e.eofTop && opts.eofValue then .eofValue
            else .error e.code (RejectDoc.posOf input (input.length - e.es.getD st.rest.length))
              (RejectDoc.posOf input (input.length - e.ee.getD st.rest.length)),
          calls := st.calls } := by
  unfold Edn.Model.read
  dsimp only
  cases readValue { cfg := cfg, opts := opts } (readFuel input) 0 false { rest := input } with
  | ok v st => rfl
  | closer st => rfl
  | err e st =>
    dsimp only
    cases e.fuelOut
    · cases (e.code == Err.unexpectedEof && e.eofTop && opts.eofValue) <;> rfl
    · rfl

theorem read_of_ok {cfg : Cfg} {opts : Opts} {input : Bytes} {v : Val} {st : St}
    (h : readValue { cfg := cfg, opts := opts } (readFuel input) 0 false { rest := input } = .ok v st) :
    read cfg opts input = { out := .value v, calls := st.calls } := by
  rw [read_eq, h]

theorem read_of_err {cfg : Cfg} {opts : Opts} {input : Bytes} {e : ErrInfo} {st : St}
    (h : readValue { cfg := cfg, opts := opts } (readFuel input) 0 false { rest := input } = .err e st) :
    read cfg opts input =
      { out := if e.code == .unexpectedEof && e.eofTop && opts.eofValue then .eofValue
          else .error e.code (RejectDoc.posOf input (input.length - e.es.getD st.rest.length))
            (RejectDoc.posOf input (input.length - e.ee.getD st.rest.length)),
        calls := st.calls } := by
  have hs := run_fuel_sufficient { cfg := cfg, opts := opts } (readFuel input) (.v 0 false { rest := input })
    (by simp only [Call6.need, readFuel]; omega)
  rw [run_v] at hs
  rw [h] at hs
  rw [read_eq, h]
  dsimp only
  rw [if_neg (by rw [show e.fuelOut = false from hs]; exact Bool.false_ne_true)]

/-- there is no case for "closing delimiter" or "out of fuel" -/
inductive ReadOut (opts : Opts) (input : Bytes) : Res → Outcome → Prop
  | value {v : Val} {st : St} : ReadOut opts input (.ok v st) (.value v)
  | eof {e : ErrInfo} {st : St} : opts.eofValue = true → ReadOut opts input (.err e st) .eofValue
  | error {e : ErrInfo} {st : St} {es ee : Pos} : es.offset = input.length - e.es.getD st.rest.length →
      ee.offset = input.length - e.ee.getD st.rest.length → ReadOut opts input (.err e st) (.error e.code es ee)

/-- `r` is bound by an equation so that a caller gets the answer of `readValue` as a variable and can
    take `ReadOut` apart by `cases` -/
theorem read_out (cfg : Cfg) (opts : Opts) (input : Bytes) :
    ∃ r, readValue { cfg := cfg, opts := opts } (readFuel input) 0 false { rest := input } = r ∧
      ReadOut opts input r (read cfg opts input).out := by
  refine ⟨_, rfl, ?_⟩
  have hc : (readValue { cfg := cfg, opts := opts } (readFuel input) 0 false { rest := input }).isCloser = false :=
    run_noCloser _ _ (c := .v 0 false { rest := input }) (· rfl)
  cases hr : readValue { cfg := cfg, opts := opts } (readFuel input) 0 false { rest := input } with
  | ok v st => rw [read_of_ok hr]; exact .value
  | closer st => rw [hr] at hc; cases hc
  | err e st =>
    rw [read_of_err hr]
    exact ite_ind (P := ReadOut opts input (.err e st)) (fun hq => .eof ((Bool.and_eq_true _ _).mp hq).2)
      fun _ => .error rfl rfl

theorem read_out_value {cfg : Cfg} {opts : Opts} {input : Bytes} {v : Val}
    (h : (read cfg opts input).out = .value v) :
    ∃ st, readValue { cfg := cfg, opts := opts } (readFuel input) 0 false { rest := input } = .ok v st := by
  obtain ⟨r, hr, ho⟩ := read_out cfg opts input
  rw [h] at ho
  cases ho
  exact ⟨_, hr⟩

theorem read_out_of_ok {cfg : Cfg} {opts : Opts} {input : Bytes} {v : Val} {st : St}
    (h : readValue { cfg := cfg, opts := opts } (readFuel input) 0 false { rest := input } = .ok v st) :
    (read cfg opts input).out = .value v := by
  rw [read_of_ok h]

/-- C02 (termination): the model's `read` never runs out of fuel -/
theorem read_terminates (cfg : Cfg) (opts : Opts) (input : Bytes) :
    (match (read cfg opts input).out with | .fuelOut => false | _ => true) = true := by
  obtain ⟨r, -, ho⟩ := read_out cfg opts input
  generalize (read cfg opts input).out = o at ho
  cases ho <;> rfl

theorem readValue_fuel_irrelevant (ctx : Ctx) (f f' d : Nat) (dm : Bool) (st : St)
    (h : 2 * st.rest.length + 2 ≤ f) (h' : 2 * st.rest.length + 2 ≤ f') :
    readValue ctx f d dm st = readValue ctx f' d dm st :=
  Evals.of_run (c := .v d dm st) rfl (run_fuel_sufficient ctx f' _ h') f h

/-- C02 (bounded recursion): at the nesting limit the answer is, whatever the fuel, the one
    obtained with a single unit of fuel, i.e. without any recursive call.  Every recursive call
    into a collection, tagged literal, discard or metadata form increases `d` by one, so the
    recursion depth is bounded by the limit independently of the input.

    `hne` cannot be dropped: when the form at the cursor is a lone `#` that ends the input,
    `readValue` calls `readTagged` (on the empty rest) *before* any depth test, so with a single
    unit of fuel the answer is "out of fuel" whereas with two or more it is UNEXPECTED_EOF:
      #eval (readValue { cfg := ⟨false, false⟩ } 1 100 false { rest := [0x23] }).isFuelOut  -- true
      #eval (readValue { cfg := ⟨false, false⟩ } 2 100 false { rest := [0x23] }).isFuelOut  -- false
    `hne` excludes exactly that input (`skipWs st.rest` is the byte sequence at which
    `readValue` dispatches). -/
theorem no_recursion_at_limit (ctx : Ctx) (f d : Nat) (dm : Bool) (st : St)
    (hd : Edn.Generated.Tables.maxNestingDepth ≤ d)
    (hne : skipWs st.rest ≠ [0x23]) :
    readValue ctx (f + 1) d dm st = readValue ctx 1 d dm st := by
  show run ctx (f + 1) (.v d dm st) = run ctx 1 (.v d dm st)
  rw [run_succ ctx f, run_succ ctx 0]
  exact step_deep ctx d dm st hd (fun h => absurd h hne)

/-- whitespace bytes, commas and line comments that are closed by a line feed -/
inductive PlainTrivia : Bytes → Prop
  | nil : PlainTrivia []
  | ws (c : UInt8) (t : Bytes) (hw : isWs c = true) : PlainTrivia t → PlainTrivia (c :: t)
  | comment (body t : Bytes) (hb : ∀ b ∈ body, b ≠ 0x0A) : PlainTrivia t → PlainTrivia (0x3B :: (body ++ 0x0A :: t))

theorem plain_toBlank {tr : Bytes} (h : PlainTrivia tr) : Edn.Spec.Blank tr := by
  induction h with
  | nil => exact .nil
  | ws c t hw _ ih => exact .ws c t hw ih
  | comment body t hb _ ih => exact .comment body t hb ih

/-- positions are relative to the end of the input, so they are literally unchanged -/
theorem readValue_blank_prefix (ctx : Ctx) (f d : Nat) (dm : Bool) (tr s : Bytes) (cl : List Call)
    (h : Edn.Spec.Blank tr) :
    readValue ctx (f + 1) d dm { rest := tr ++ s, calls := cl } = readValue ctx (f + 1) d dm { rest := s, calls := cl } := by
  show run ctx (f + 1) (.v d dm _) = run ctx (f + 1) (.v d dm _)
  rw [run_succ, run_succ, step_v_eq, step_v_eq]
  simp only []
  rw [skipWs_blank h s]

theorem readValue_trivia_prefix (ctx : Ctx) (f d : Nat) (dm : Bool) (tr s : Bytes) (cl : List Call)
    (h : PlainTrivia tr) :
    readValue ctx (f + 1) d dm { rest := tr ++ s, calls := cl } = readValue ctx (f + 1) d dm { rest := s, calls := cl } :=
  readValue_blank_prefix ctx f d dm tr s cl (plain_toBlank h)

theorem discard_is_trivia (ctx : Ctx) (f d : Nat) (dm : Bool) (form s : Bytes) (cl cl' : List Call) (v : Val)
    (hd : d < Edn.Generated.Tables.maxNestingDepth)
    (hform : readValue ctx f (d + 1) true { rest := form ++ s, calls := cl } = .ok v { rest := s, calls := cl' }) :
    cl' = cl ∧
    readValue ctx (f + 1) d dm { rest := 0x23 :: 0x5F :: (form ++ s), calls := cl }
      = readValue ctx f d dm { rest := s, calls := cl } := by
  obtain rfl : cl' = cl := (congrArg (·.st.calls) hform).symm.trans (run_calls ctx f (c := .v (d + 1) true _) rfl)
  refine ⟨rfl, ?_⟩
  rw [readValue_at_discard ctx f d dm (form ++ s) cl' hd, hform]

theorem Evals.blank {ctx : Ctx} {d : Nat} {dm : Bool} {tr s : Bytes} {cl : List Call} {r : Res} (ht : Edn.Spec.Blank tr)
    (h : Evals ctx (.v d dm { rest := s, calls := cl }) r) : Evals ctx (.v d dm { rest := tr ++ s, calls := cl }) r :=
  .intro _ fun f hf => (readValue_blank_prefix ctx f d dm tr s cl ht).trans (h (f + 1) (Nat.le_succ_of_le hf))

theorem Evals.discard {ctx : Ctx} {d : Nat} {dm : Bool} {form s : Bytes} {cl : List Call} {w : Val} {r : Res}
    (hd : d < Edn.Generated.Tables.maxNestingDepth)
    (hdisc : Evals ctx (.v (d + 1) true { rest := form ++ s, calls := cl }) (.ok w { rest := s, calls := cl }))
    (h : Evals ctx (.v d dm { rest := s, calls := cl }) r) :
    Evals ctx (.v d dm { rest := 0x23 :: 0x5F :: (form ++ s), calls := cl }) r :=
  bind₃ hdisc h h fun f hw hv _ => (discard_is_trivia ctx f d dm form s cl cl w hd hw).2.trans hv

theorem readValue_trivia_only (ctx : Ctx) (f d : Nat) (dm : Bool) (s : Bytes) (cl : List Call)
    (h : skipWsScalar s = []) :
    readValue ctx (f + 1) d dm { rest := s, calls := cl } = eofErrOf d { rest := [], calls := cl } := by
  show run ctx (f + 1) (.v d dm _) = _
  rw [run_succ, step_v_eq]
  simp only []
  rw [skipWs_eq, h]

theorem PlainTrivia.blanks : ∀ k, PlainTrivia (List.replicate k 0x20)
  | 0 => .nil
  | k + 1 => .ws 0x20 _ (by decide) (blanks k)

theorem run_err_code (ctx : Ctx) (f : Nat) {c : Call6} {e : ErrInfo} {st' : St} (h : run ctx f c = .err e st') :
    e.code ≠ .ok :=
  errNotOk_err (run_errNotOk ctx f c) h

theorem read_value_xor_error (cfg : Cfg) (opts : Opts) (input : Bytes) :
    match (read cfg opts input).out with
    | .value _ => True
    | .eofValue => opts.eofValue = true
    | .error code _ _ => code ≠ .ok
    | .fuelOut => False := by
  obtain ⟨r, hr, ho⟩ := read_out cfg opts input
  generalize (read cfg opts input).out = o at ho
  cases ho with
  | value => trivial
  | eof h => exact h
  | error => exact run_err_code { cfg := cfg, opts := opts } (readFuel input) (c := .v 0 false { rest := input }) hr

theorem stray_closer (ctx : Ctx) (f : Nat) (dm : Bool) (c : UInt8) (s : Bytes) (cl : List Call)
    (hc : c = 0x29 ∨ c = 0x5D ∨ c = 0x7D) :
    readValue ctx (f + 1) 0 dm { rest := c :: s, calls := cl } =
      .err (mkErr .unmatchedDelimiter) { rest := c :: s, calls := cl } := by
  rw [readValue_at_closer ctx f 0 dm c s cl hc]
  rfl

theorem closer_inside (ctx : Ctx) (f d : Nat) (dm : Bool) (c : UInt8) (s : Bytes) (cl : List Call)
    (hc : c = 0x29 ∨ c = 0x5D ∨ c = 0x7D) :
    readValue ctx (f + 1) (d + 1) dm { rest := c :: s, calls := cl } = .closer { rest := c :: s, calls := cl } := by
  rw [readValue_at_closer ctx f (d + 1) dm c s cl hc]
  rfl

end Edn.Proofs
