/-
  The discard-mode lemma of the registry dispatch (C14), `run_discard`: in discard mode the
  registry is never consulted, the run with a registry is the run without one, on any call log.
  Its leaf lemmas (`readString_calls` …: the leaf readers only pass the call log through) also move
  a defective token of the whole-document theorems (C10) from one call log to another.
-/
import Edn.Proofs.Run

namespace Edn.Proofs
open Edn.Model Edn.Spec Edn.Generated

def _root_.Edn.Model.Res.setCalls (cl : List Call) : Res → Res
  | .ok v st => .ok v { st with calls := cl }
  | .closer st => .closer { st with calls := cl }
  | .err e st => .err e { st with calls := cl }

/-! Each leaf reader is a tree of conditionals on the input with the state only in the leaves:
`setCalls` is pushed to the leaves (`apply_ite`), where the two sides agree by computation. -/

theorem readString_calls (cfg : Cfg) (o0 o1 : Opts) (st : St) (cl : List Call) :
    readString { cfg := cfg, opts := o1 } { rest := st.rest, calls := cl }
      = (readString { cfg := cfg, opts := o0 } st).setCalls cl := by
  unfold readString
  simp only [apply_ite (Res.setCalls cl)]
  split
  · split <;> rfl
  · split <;> rfl

theorem readCharacter_calls (cfg : Cfg) (o0 o1 : Opts) (st : St) (cl : List Call) :
    readCharacter { cfg := cfg, opts := o1 } { rest := st.rest, calls := cl }
      = (readCharacter { cfg := cfg, opts := o0 } st).setCalls cl := by
  rw [readCharacter_eq, readCharacter_eq]
  show (if st.rest.tail.isEmpty then _ else match charBody { cfg := cfg, opts := o0 } st.rest.tail with
    | .error ee => _ | .ok (cp, rest) => _) = _
  cases charBody { cfg := cfg, opts := o0 } st.rest.tail <;>
    simp only [apply_ite (Res.setCalls cl)] <;> rfl

theorem readIdentifier_calls (cfg : Cfg) (o0 o1 : Opts) (st : St) (cl : List Call) :
    readIdentifier { cfg := cfg, opts := o1 } { rest := st.rest, calls := cl }
      = (readIdentifier { cfg := cfg, opts := o0 } st).setCalls cl := by
  unfold readIdentifier
  dsimp only
  generalize scanIdent st.rest = sc
  obtain ⟨valid, len, ns, nameOff, nameLen⟩ := sc
  cases ns <;> simp only [apply_ite (Res.setCalls cl)] <;> rfl

theorem readSymbolic_calls (cfg : Cfg) (o0 o1 : Opts) (st : St) (cl : List Call) :
    readSymbolic { cfg := cfg, opts := o1 } { rest := st.rest, calls := cl }
      = (readSymbolic { cfg := cfg, opts := o0 } st).setCalls cl := by
  unfold readSymbolic
  simp only [apply_ite (Res.setCalls cl)]
  rfl

theorem readNumberRes_calls (cfg : Cfg) (o0 o1 : Opts) (st : St) (cl : List Call) :
    readNumberRes { cfg := cfg, opts := o1 } { rest := st.rest, calls := cl }
      = (readNumberRes { cfg := cfg, opts := o0 } st).setCalls cl := by
  unfold readNumberRes
  dsimp only
  split <;> rfl

namespace RejectDoc
abbrev cctx (opts : Opts) : Ctx := { cfg := Cfg.core, opts := opts }
end RejectDoc
namespace RejectDocClj
abbrev xctx (cfg : Cfg) (opts : Opts) : Ctx := { cfg := cfg, opts := opts }
end RejectDocClj
open RejectDocClj (xctx)

def Call6.withCalls (cl : List Call) : Call6 → Call6
  | .v d dm st => .v d dm { st with calls := cl }
  | .s d dm kind start st acc => .s d dm kind start { st with calls := cl } acc
  | .m d dm start ns st ks vs => .m d dm start ns { st with calls := cl } ks vs
  | .n d dm start st => .n d dm start { st with calls := cl }
  | .t d dm start st => .t d dm start { st with calls := cl }
  | .me d dm start st => .me d dm start { st with calls := cl }

theorem Leaf.read_calls (cfg : Cfg) (o0 o1 : Opts) (st : St) (cl : List Call) (k : Leaf) :
    k.read (xctx cfg o1) { rest := st.rest, calls := cl } = (k.read (xctx cfg o0) st).setCalls cl := by
  cases k
  · exact readString_calls cfg o0 o1 st cl
  · exact readCharacter_calls cfg o0 o1 st cl
  · exact readSymbolic_calls cfg o0 o1 st cl
  · exact readNumberRes_calls cfg o0 o1 st cl
  · exact readIdentifier_calls cfg o0 o1 st cl

theorem tagOut_calls (cfg : Cfg) (o0 o1 : Opts) (start : Nat) (tag : Bytes) (v : Val) (st : St) (cl : List Call) :
    tagOut (xctx cfg o1) true start tag v { rest := st.rest, calls := cl } =
      (tagOut (xctx cfg o0) true start tag v st).setCalls cl := by
  unfold tagOut
  cases o0.registry <;> cases o1.registry <;> rfl

theorem StepRel.disc {cfg : Cfg} {o0 o1 : Opts} {R0 R1 : Call6 → Res}
    (hR : ∀ c cl, c.dm = true → R1 (c.withCalls cl) = (R0 c).setCalls cl) {c : Call6} {r : Res} (cl : List Call)
    (h : StepRel (xctx cfg o0) R0 c r) (hdm : c.dm = true) :
    StepRel (xctx cfg o1) R1 (c.withCalls cl) (r.setCalls cl) := by
  have tr {c r} (h : R0 c = r) (hdm : c.dm = true) : R1 (c.withCalls cl) = r.setCalls cl := h ▸ hR c cl hdm
  have trI {st r} (h : readIdentifier (xctx cfg o0) st = r) :
      readIdentifier (xctx cfg o1) { rest := st.rest, calls := cl } = r.setCalls cl :=
    h ▸ readIdentifier_calls cfg o0 o1 st cl
  have trK {st v st'} (h : readIdentifier (xctx cfg o0) st = .ok v st') :
      readIdentifier (xctx cfg o1) { rest := st.rest, calls := cl } = .ok v { rest := st'.rest, calls := cl } := trI h
  cases h with
  | tEof hs => exact .tEof hs
  | tWs hs hc => exact .tWs hs hc
  | tIdCloser hs hc hr => exact .tIdCloser hs hc (trI hr)
  | tIdErr hs hc hr => exact .tIdErr hs hc (trI hr)
  | @tNotSym _ _ _ st _ _ _ _ hs hc hr hn => exact .tNotSym (st := { rest := st.rest, calls := cl }) hs hc (trK hr) hn
  | @tCloser _ _ _ st _ _ _ _ _ _ _ _ hs hc hr hv =>
    exact .tCloser (st := { rest := st.rest, calls := cl }) hs hc (trK hr) (tr hv hdm)
  | @tErr _ _ _ st _ _ _ _ _ _ _ _ _ hs hc hr hv =>
    exact .tErr (st := { rest := st.rest, calls := cl }) hs hc (trK hr) (tr hv hdm)
  | @tOk d dm start st c t h md ns nm st' v st'' hs hc hr hv =>
    obtain rfl : dm = true := hdm
    have ok := StepRel.tOk (R := R1) (d := d) (dm := true) (start := start) (st := { rest := st.rest, calls := cl })
      (st'' := { rest := st''.rest, calls := cl }) hs hc (trK hr) (tr hv rfl)
    rw [tagOut_calls cfg o0 o1] at ok
    exact ok
  | vEof hw => exact .vEof hw
  | vLeaf hw hrt => exact Leaf.read_calls cfg o0 o1 _ cl _ ▸ .vLeaf hw hrt
  | vDeep hw hrt => exact .vDeep hw hrt
  | vStray hw hrt => exact .vStray hw hrt
  | vCloser hw hrt => exact .vCloser hw hrt
  | vSeq hw hrt hr => exact .vSeq hw hrt (tr hr hdm)
  | vMap hw hrt hr => exact .vMap hw hrt (tr hr hdm)
  | vNsmap hw hrt hr => exact .vNsmap hw hrt (tr hr hdm)
  | vTagged hw hrt hr => exact .vTagged hw hrt (tr hr hdm)
  | vMeta hw hrt hr => exact .vMeta hw hrt (tr hr hdm)
  | vSkipOk hw hrt hv hr => exact .vSkipOk hw hrt (tr hv rfl) (tr hr hdm)
  | vSkipCloser hw hrt hv => exact .vSkipCloser hw hrt (tr hv rfl)
  | vSkipErr hw hrt hv => exact .vSkipErr hw hrt (tr hv rfl)
  | sNext hv hr => exact .sNext (tr hv hdm) (tr hr hdm)
  | sErr hv => exact .sErr (tr hv hdm)
  | sStray hv hn => exact .sStray (tr hv hdm) hn
  | sList hv hs hk => exact .sList (tr hv hdm) hs hk
  | sVec hv hs hk => exact .sVec (tr hv hdm) hs hk
  | sDup hv hs hk0 hk1 hd => exact .sDup (tr hv hdm) hs hk0 hk1 hd
  | sSet hv hs hk0 hk1 hd => exact .sSet (tr hv hdm) hs hk0 hk1 hd
  | mNext hv hv2 hr => exact .mNext (tr hv hdm) (tr hv2 hdm) (tr hr hdm)
  | mErr hv => exact .mErr (tr hv hdm)
  | mErr₂ hv hv2 => exact .mErr₂ (tr hv hdm) (tr hv2 hdm)
  | mOdd hv hv2 => exact .mOdd (tr hv hdm) (tr hv2 hdm)
  | mEof hv hs => exact .mEof (tr hv hdm) hs
  | mStray hv hs hc => exact .mStray (tr hv hdm) hs hc
  | mDup hv hs hd => exact .mDup (tr hv hdm) hs hd
  | mOk hv hs hd => exact .mOk (tr hv hdm) hs hd
  | nCloser hv => exact .nCloser (tr hv hdm)
  | nErr hv => exact .nErr (tr hv hdm)
  | nBad hv hb => exact .nBad (tr hv hdm) hb
  | nNoBrace hv hn => exact .nNoBrace (tr hv hdm) hn
  | nNext hv hw hr => exact .nNext (tr hv hdm) hw (tr hr hdm)
  | meCloser hv => exact .meCloser (tr hv hdm)
  | meErr hv => exact .meErr (tr hv hdm)
  | meNoEntries hv hm => exact .meNoEntries (tr hv hdm) hm
  | meCloser₂ hv hm hv2 => exact .meCloser₂ (tr hv hdm) hm (tr hv2 hdm)
  | meErr₂ hv hm hv2 => exact .meErr₂ (tr hv hdm) hm (tr hv2 hdm)
  | meNoTarget hv hm hv2 ht => exact .meNoTarget (tr hv hdm) hm (tr hv2 hdm) ht
  | meOk hv hm hv2 ht => exact .meOk (tr hv hdm) hm (tr hv2 hdm) ht

theorem run_discard (cfg : Cfg) (o0 o1 : Opts) (f : Nat) : ∀ c cl, c.dm = true →
    run (xctx cfg o1) f (c.withCalls cl) = (run (xctx cfg o0) f c).setCalls cl := by
  induction f with
  | zero => intro c cl _; rw [run_zero, run_zero]; cases c <;> rfl
  | succ f ih =>
    intro c cl h
    rw [run_succ, run_succ]
    exact ((step_rel c).disc ih cl h).eq

end Edn.Proofs
