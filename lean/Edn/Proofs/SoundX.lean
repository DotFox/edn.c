/-
  In EVERY configuration the reader accepts only the language of `Edn.Spec.GrammarX`, and the tree
  it returns has the content (metadata included) the derivation names.  Number and string tokens
  enter through the abstract judgements `N`, `S` with the exactness hypotheses `NumExact`,
  `StrExact`; these are proved for the judgements of each configuration in `NumberExact` and
  `StrExact`, and `Sound` puts them in.
  One predicate, `Sound`, says what an answer of each of the six reader functions means; one lemma,
  `sound_step`, walks the rules of a step: the rules that answer an error hold trivially, a rule that
  answers a value names the grammar production, a rule that hands over passes the induction
  hypothesis on; what the dispatcher's decision says of the bytes it saw is `route_bytes`.
-/
import Edn.Proofs.GrammarXBase
import Edn.Proofs.CharSound
import Edn.Proofs.IdentSound

namespace Edn.Proofs.SndX
open Edn.Model Edn.Spec Edn.Generated Edn.Proofs

/-- The nesting a form read at depth `d` may have.  A form one level down has one level less room,
    so the statements below need no other bound on the nesting. -/
def room (d : Nat) : Nat := Tables.maxNestingDepth - d

theorem room_succ {d : Nat} (h : d < Tables.maxNestingDepth) : room d = room (d + 1) + 1 := by
  unfold room; omega

/-- A postcondition on a reader outcome: `ok` on a value, `cl` on "closing delimiter seen"; an error
    satisfies it (the theorems here say what was read, not that something is). -/
def Post (ok : Val → St → Prop) (cl : St → Prop) (r : Res) : Prop :=
  (∀ v st', r = .ok v st' → ok v st') ∧ (∀ st', r = .closer st' → cl st')

abbrev NoCloser : St → Prop := fun _ => False

section
variable {ok ok' : Val → St → Prop} {cl cl' : St → Prop} {r : Res}

theorem post_err (e : ErrInfo) (st : St) : Post ok cl (.err e st) :=
  ⟨fun _ _ h => (nomatch h), fun _ h => nomatch h⟩

theorem post_ok {v : Val} {st : St} (h : ok v st) : Post ok cl (.ok v st) :=
  ⟨fun _ _ e => (by cases e; exact h), fun _ e => nomatch e⟩

theorem Post.imp (h : Post ok cl r) (hok : ∀ v st', ok v st' → ok' v st') (hcl : ∀ st', cl st' → cl' st') :
    Post ok' cl' r :=
  ⟨fun v st' e => hok v st' (h.1 v st' e), fun st' e => hcl st' (h.2 st' e)⟩

theorem Post.weaken (h : Post ok NoCloser r) : Post ok cl r :=
  h.imp (fun _ _ h => h) (fun _ h => h.elim)

theorem post_leaf (hn : r.isCloser = false) (h : ∀ v st', r = .ok v st' → ok v st') : Post ok cl r :=
  ⟨h, fun st' e => by rw [e] at hn; cases hn⟩

end

section
variable (cfg : Cfg) (N : NumJ) (S : StrJ)

def OkV (d : Nat) (st : St) (v : Val) (st' : St) : Prop :=
  ∃ tok, st.rest = tok ++ st'.rest ∧ st'.calls = st.calls ∧ FormX cfg N S (room d) (stripM v) tok st'.rest

def CloserV (d : Nat) (st st' : St) : Prop :=
  ∃ tr, st.rest = tr ++ st'.rest ∧ st'.calls = st.calls ∧ TrailX cfg N S (room d) tr st'.rest ∧ 0 < d ∧
    ∃ c t, st'.rest = c :: t ∧ (c = 0x29 ∨ c = 0x5D ∨ c = 0x7D)

/-- `a` is the collection of kind `kind` (0 list, 1 vector, otherwise set, whose elements are then distinct)
    with the elements `ys` -/
def SeqVal (kind : Nat) (ys : List Val) (a : Val) : Prop :=
  if kind = 0 then a = .list hdr0 none ys
  else if kind = 1 then a = .vec hdr0 none ys
  else a = .set hdr0 none ys ∧ pairwiseDistinct cfg ys

/-- the rest of a body, the closing delimiter, and the collection of the elements read before
    (`acc`, reversed) and now -/
def OkS (d kind : Nat) (acc : List Val) (st : St) (v : Val) (st' : St) : Prop :=
  ∃ xs body, st.rest = body ++ closerByte kind :: st'.rest ∧ st'.calls = st.calls ∧
    FormSeqX cfg N S (room (d + 1)) xs body (closerByte kind :: st'.rest) ∧
    SeqVal cfg kind (stripML acc.reverse ++ xs) (stripM v)

/-- `OkS` for the body of a map (`ns`: the namespace of `#:ns{…}`): the elements are keys and values in
    turn, the keys read now are qualified (`qualC`), and all keys are distinct -/
def OkM (d : Nat) (ns : Option Bytes) (ks vs : List Val) (st : St) (v : Val) (st' : St) : Prop :=
  ∃ ks' vs' body, st.rest = body ++ 0x7D :: st'.rest ∧ st'.calls = st.calls ∧
    FormSeqX cfg N S (room (d + 1)) (interleaveKV ks' vs') body (0x7D :: st'.rest) ∧ ks'.length = vs'.length ∧
    stripM v = .map hdr0 none (stripML ks.reverse ++ qualC ns ks') (stripML vs.reverse ++ vs') ∧
    pairwiseDistinct cfg (stripML ks.reverse ++ qualC ns ks')

/-- What an answer of each of the six functions means.  `readTagged`, `readNsMap`, `readMeta` are called
    after the `#`, the `#`, the `^`: what they return is the form that begins there.  (`readTagged` is
    also called at the end of the input, beyond the depth limit.)  `Elems` is the reader invariant
    (`ReaderInv`) of what a loop has read so far, needed for the duplicate check. -/
def Sound : Call6 → Res → Prop
  | .v d _ st => Post (OkV cfg N S d st) (CloserV cfg N S d st)
  | .s d _ kind _ st acc => fun r => d < Tables.maxNestingDepth → Elems cfg acc → Post (OkS cfg N S d kind acc st) NoCloser r
  | .m d _ _ ns st ks vs => fun r => d < Tables.maxNestingDepth → Elems cfg ks → ks.length = vs.length →
      Post (OkM cfg N S d ns ks vs st) NoCloser r
  | .n d _ _ st => fun r => d < Tables.maxNestingDepth → cfg.clj = true → ∀ cs, st.rest = 0x3A :: cs →
      Post (OkV cfg N S d { st with rest := 0x23 :: st.rest }) NoCloser r
  | .t d _ _ st => fun r => (st.rest ≠ [] → d < Tables.maxNestingDepth) → st.rest.head? ≠ some 0x5F →
      Post (OkV cfg N S d { st with rest := 0x23 :: st.rest }) NoCloser r
  | .me d _ _ st => fun r => d < Tables.maxNestingDepth → cfg.clj = true →
      Post (OkV cfg N S d { st with rest := 0x5E :: st.rest }) NoCloser r

variable {cfg N S}

theorem seqVal_list {ys : List Val} {a : Val} : SeqVal cfg 0 ys a ↔ a = .list hdr0 none ys := by
  simp only [SeqVal, if_true]

theorem seqVal_vec {ys : List Val} {a : Val} : SeqVal cfg 1 ys a ↔ a = .vec hdr0 none ys := by
  simp only [SeqVal, Nat.one_ne_zero, if_false, if_true]

theorem seqVal_set {kind : Nat} (h0 : kind ≠ 0) (h1 : kind ≠ 1) {ys : List Val} {a : Val} :
    SeqVal cfg kind ys a ↔ a = .set hdr0 none ys ∧ pairwiseDistinct cfg ys := by
  simp only [SeqVal, if_neg h0, if_neg h1]

theorem sound_err (c : Call6) (e : ErrInfo) (st : St) : Sound cfg N S c (.err e st) := by
  cases c with
  | v => exact post_err _ _
  | s => exact fun _ _ => post_err _ _
  | m => exact fun _ _ _ => post_err _ _
  | n => exact fun _ _ _ _ => post_err _ _
  | t => exact fun _ _ => post_err _ _
  | me => exact fun _ _ => post_err _ _

end

section
variable {cfg : Cfg} {N : NumJ} {S : StrJ}

theorem string_ok (ctx : Ctx) (hS : StrExact ctx.cfg S) (d : Nat) (cs : Bytes) (cl : List Call) (v : Val) (st' : St)
    (h : readString ctx { rest := 0x22 :: cs, calls := cl } = .ok v st') :
    OkV ctx.cfg N S d { rest := 0x22 :: cs, calls := cl } v st' := by
  obtain ⟨hh, data, esc, rfl, hst⟩ := readString_shape ctx _ st' v h
  simp only [] at hst
  rw [hst] at h
  obtain ⟨tok, h1, h2⟩ := (hS ctx rfl (0x22 :: cs) st'.rest cl data esc rfl).mp ⟨hh, h⟩
  refine ⟨tok, h1, by rw [hst], ?_⟩
  simp only [stripM]
  refine .str _ tok st'.rest data esc ?_ h2
  rw [← h1]; rfl

theorem character_ok (ctx : Ctx) (d : Nat) (cs : Bytes) (cl : List Call) (v : Val) (st' : St)
    (h : readCharacter ctx { rest := 0x5C :: cs, calls := cl } = .ok v st') :
    OkV ctx.cfg N S d { rest := 0x5C :: cs, calls := cl } v st' := by
  obtain ⟨c0, body, cp, hs, hcl, htok, hcp, hds, rfl⟩ := readCharacter_sound ctx _ st' v h
  simp only [List.cons.injEq] at hs
  refine ⟨0x5C :: body, ?_, hcl, ?_⟩
  · show 0x5C :: cs = _
    rw [hs.2]; rfl
  · simp only [stripM]
    exact .char _ body st'.rest cp htok hcp hds

theorem symbolic_ok (d : Nat) (ctx : Ctx) (p : Bytes) (cl : List Call) (v : Val) (st' : St)
    (h : readSymbolic ctx { rest := 0x23 :: 0x23 :: p, calls := cl } = .ok v st') :
    OkV cfg N S d { rest := 0x23 :: 0x23 :: p, calls := cl } v st' := by
  obtain ⟨tok, bits, h1, hcl, htok, hv⟩ := Snd.readSymbolic_sound ctx p cl v st' h
  have hv' : stripM v = .float hdr0 bits := by
    cases v <;> simp only [strip, reduceCtorEq] at hv
    simp only [stripM]; exact hv
  refine ⟨tok, h1, hcl, ?_⟩
  rw [hv']
  exact .symbolic _ tok st'.rest bits htok

theorem number_ok (ctx : Ctx) (hN : NumExact ctx.cfg N) (d : Nat) (c : UInt8) (cs : Bytes) (cl : List Call)
    (v : Val) (st' : St)
    (hstart : is09 c = true ∨ ((c = 0x2B ∨ c = 0x2D) ∧ ∃ nx t', cs = nx :: t' ∧ is09 nx = true))
    (h : readNumberRes ctx { rest := c :: cs, calls := cl } = .ok v st') :
    OkV ctx.cfg N S d { rest := c :: cs, calls := cl } v st' := by
  unfold readNumberRes at h
  simp only [] at h
  cases hn : readNumber ctx.cfg (c :: cs) with
  | err cur => rw [hn] at h; cases h
  | ok nv rest =>
    rw [hn] at h
    simp only [Res.ok.injEq] at h
    obtain ⟨rfl, rfl⟩ := h
    have hst : NumStart (c :: cs) := ⟨c, cs, rfl, hstart⟩
    obtain ⟨tok, h1, h2⟩ := (hN (c :: cs) rest nv hst).mp hn
    refine ⟨tok, h1, rfl, ?_⟩
    rw [stripM_numToVal]
    refine .number _ tok rest nv ?_ h2
    show NumStart (tok ++ rest)
    rw [← h1]; exact hst

theorem identifier_ok (d : Nat) (ctx : Ctx) (c : UInt8) (cs : Bytes) (cl : List Call) (v : Val) (st' : St)
    (hstart : is09 c = false ∧ ((c = 0x2B ∨ c = 0x2D) → ∀ nx t', cs = nx :: t' → is09 nx = false))
    (hnm : dispatch cfg c ≠ .metadata)
    (h : readIdentifier ctx { rest := c :: cs, calls := cl } = .ok v st') : OkV cfg N S d { rest := c :: cs, calls := cl } v st' := by
  obtain ⟨tok, h1, hcl, hl, hds, hden⟩ := readIdentifier_sound ctx _ st' v h
  have hsv := readIdentifier_stripM ctx _ st' v h
  refine ⟨tok, h1, hcl, ?_⟩
  rw [hsv]
  refine .ident _ tok st'.rest _ hl ⟨?_, ?_⟩ hden hds
  · intro c' t' htok
    subst htok
    simp only [List.cons_append, List.cons.injEq] at h1
    obtain ⟨rfl, hcs⟩ := h1
    refine ⟨?_, ?_⟩
    · rw [← is09_iff]
      simp [hstart.1]
    · intro hsg d t'' ht
      subst ht
      rw [← is09_iff]
      simp [hstart.2 hsg d (t'' ++ st'.rest) hcs]
  · intro hclj hh
    cases tok with
    | nil => exact hl.1 rfl
    | cons c' t' =>
      simp only [List.cons_append, List.cons.injEq] at h1
      simp only [List.head?_cons, Option.some.injEq] at hh
      apply hnm
      rw [dispX_metadata_iff]
      exact ⟨hclj, by rw [h1.1, hh]⟩

theorem leaf_ok (ctx : Ctx) (hN : NumExact ctx.cfg N) (hS : StrExact ctx.cfg S) {d : Nat} {c : UInt8} {cs : Bytes}
    {cl : List Call} {k : Leaf} {v : Val} {st' : St} (hb : RouteBytes ctx.cfg d c cs (.leaf k))
    (h : k.read ctx { rest := c :: cs, calls := cl } = .ok v st') : OkV ctx.cfg N S d { rest := c :: cs, calls := cl } v st' := by
  cases k with
  | string => cases hb; exact string_ok ctx hS d cs cl v st' h
  | character => cases hb; exact character_ok ctx d cs cl v st' h
  | symbolic => obtain ⟨rfl, p, rfl⟩ := hb; exact symbolic_ok d ctx p cl v st' h
  | number => exact number_ok ctx hN d c cs cl v st' hb h
  | identifier => exact identifier_ok d ctx c cs cl v st' hb.1 hb.2 h

theorem leaf_noCloser (ctx : Ctx) (st : St) (k : Leaf) : (k.read ctx st).isCloser = false := by
  cases k
  · exact (readString_leafRes ctx st).closer
  · exact (readCharacter_leafRes ctx st).closer
  · exact (readSymbolic_leafRes ctx st).closer
  · exact (readNumberRes_leafRes ctx st).closer
  · exact (readIdentifier_leafRes ctx st).closer

end

open Edn.Proofs.Snd (interleaveKV_cons)

variable {N : NumJ} {S : StrJ}

theorem noDup_facts {cfg : Cfg} {xs : List Val} (hel : Elems cfg xs) (h : (hasDuplicates cfg xs).1 = false) :
    stripML (hasDuplicates cfg xs).2 = stripML xs ∧ pairwiseDistinct cfg (stripML xs) :=
  ⟨stripML_hasDuplicates cfg xs, (pairwiseDistinct_stripML cfg xs).mpr ((hasDuplicates_iff cfg xs hel).1.mp h)⟩

section
variable {cfg : Cfg} {d : Nat} {r : Res}

theorem post_blank {st : St} {c : UInt8} {cs : Bytes} (hw : skipWs st.rest = c :: cs)
    (h : Post (OkV cfg N S d { rest := c :: cs, calls := st.calls }) (CloserV cfg N S d { rest := c :: cs, calls := st.calls }) r) :
    Post (OkV cfg N S d st) (CloserV cfg N S d st) r := by
  obtain ⟨tr, hb, htr⟩ := Snd.skipWs_inv hw
  refine h.imp (fun v st' ⟨tok, e1, c1, f1⟩ => ⟨tr ++ tok, ?_, c1, .blank _ _ tr tok st'.rest hb f1⟩)
    (fun st' ⟨tr2, e1, c1, t1, hpos, hcl⟩ => ⟨tr ++ tr2, ?_, c1, trailX_blank hb t1, hpos, hcl⟩) <;>
  rw [htr, show c :: cs = _ from e1, List.append_assoc]

theorem post_discard {st0 st1 : St} {b : Val} (hd : d < Tables.maxNestingDepth) (h1 : OkV cfg N S (d + 1) st0 b st1)
    (h : Post (OkV cfg N S d st1) (CloserV cfg N S d st1) r) :
    Post (OkV cfg N S d { rest := 0x23 :: 0x5F :: st0.rest, calls := st0.calls })
      (CloserV cfg N S d { rest := 0x23 :: 0x5F :: st0.rest, calls := st0.calls }) r := by
  obtain ⟨tok1, e1, c1, f1⟩ := h1
  refine h.imp (fun v st' ⟨tok2, e2, c2, f2⟩ => ⟨0x23 :: 0x5F :: (tok1 ++ tok2), ?_, by rw [c2, c1], ?_⟩)
    (fun st' ⟨tr2, e2, c2, t2, hpos, hcl⟩ => ⟨[] ++ 0x23 :: 0x5F :: (tok1 ++ tr2), ?_, by rw [c2, c1], ?_, hpos, hcl⟩)
  · show 0x23 :: 0x5F :: st0.rest = _
    rw [e1, e2]; simp
  · rw [e2] at f1
    rw [room_succ hd] at f2 ⊢
    exact .discard _ (stripM v) (stripM b) tok1 tok2 st'.rest f1 f2
  · show 0x23 :: 0x5F :: st0.rest = _
    rw [e1, e2]; simp
  · rw [e2] at f1
    rw [room_succ hd] at t2 ⊢
    exact .discard _ (stripM b) [] tok1 tr2 st'.rest .nil f1 t2

end

theorem post_of_seq {cfg : Cfg} {d kind : Nat} {cs : Bytes} {cl : List Call} {r : Res}
    (h : Post (OkS cfg N S d kind [] { rest := cs, calls := cl }) NoCloser r) (hd : d < Tables.maxNestingDepth) (open_ : Bytes)
    (hform : ∀ k xs body rest a, FormSeqX cfg N S k xs body (closerByte kind :: rest) → SeqVal cfg kind xs a →
      FormX cfg N S (k + 1) a (open_ ++ (body ++ [closerByte kind])) rest) :
    Post (OkV cfg N S d { rest := open_ ++ cs, calls := cl }) (CloserV cfg N S d { rest := open_ ++ cs, calls := cl }) r := by
  refine h.imp (fun v st' h => ?_) (fun _ h => h.elim)
  obtain ⟨xs, body, h1, h2, h3, h4⟩ := h
  simp only [List.reverse_nil, stripML_nil, List.nil_append] at h4
  refine ⟨open_ ++ (body ++ [closerByte kind]), ?_, h2, ?_⟩
  · show open_ ++ cs = _
    rw [show cs = body ++ closerByte kind :: st'.rest from h1]; simp
  · rw [room_succ hd]
    exact hform _ xs body st'.rest (stripM v) h3 h4

theorem okV_of_mapBody {cfg : Cfg} {d : Nat} {ns : Option Bytes} {cs : Bytes} {cl : List Call} {v : Val} {st' : St}
    (hd : d < Tables.maxNestingDepth) (h : OkM cfg N S d ns [] [] { rest := cs, calls := cl } v st') (pre : Bytes)
    (hform : ∀ k ks vs body, FormSeqX cfg N S k (interleaveKV ks vs) body (0x7D :: st'.rest) → ks.length = vs.length →
      pairwiseDistinct cfg (qualC ns ks) →
      FormX cfg N S (k + 1) (.map hdr0 none (qualC ns ks) vs) (pre ++ 0x7B :: (body ++ [0x7D])) st'.rest) :
    OkV cfg N S d { rest := pre ++ 0x7B :: cs, calls := cl } v st' := by
  obtain ⟨ks', vs', body, h1, h2, h3, h4, h5, h6⟩ := h
  simp only [List.reverse_nil, stripML_nil, List.nil_append] at h5 h6
  refine ⟨pre ++ 0x7B :: (body ++ [0x7D]), ?_, h2, ?_⟩
  · show pre ++ 0x7B :: cs = _
    rw [show cs = body ++ 0x7D :: st'.rest from h1]; simp
  · rw [h5, room_succ hd]
    exact hform _ ks' vs' body h3 h4 h6

theorem okS_nil {cfg : Cfg} {d kind : Nat} {acc : List Val} {st st' : St} {r : Bytes} {w : Val}
    (h : CloserV cfg N S (d + 1) st st') (hs : st'.rest = closerByte kind :: r)
    (hw : SeqVal cfg kind (stripML acc.reverse ++ []) (stripM w)) :
    Post (OkS cfg N S d kind acc st) NoCloser (.ok w { st' with rest := r }) := by
  obtain ⟨tr, e1, c1, t1, -⟩ := h
  exact post_ok ⟨[], tr, by rw [e1, hs], c1, .nil _ tr _ (hs ▸ t1), hw⟩

theorem kw_token {tok name : Bytes} (h : IdentDenotes tok (.kw hdr0 none name)) : tok = 0x3A :: name := by
  rcases h with ⟨-, e⟩ | ⟨-, e⟩ | ⟨-, e⟩ | ⟨body, ns, nm, rfl, -, -, -, hsp, e⟩ | ⟨-, -, -, -, ns, nm, -, e⟩
  · cases e
  · cases e
  · cases e
  · simp only [Val.kw.injEq, true_and] at e
    obtain ⟨rfl, rfl⟩ := e
    -- `splitIdent body` answers "no namespace" in its two first branches only, and there the name is `body`
    unfold splitIdent at hsp
    split at hsp
    · simp only [Option.some.injEq, Prod.mk.injEq, true_and] at hsp
      rw [hsp]
    · split at hsp
      · simp only [Option.some.injEq, Prod.mk.injEq, true_and] at hsp
        rw [hsp]
      · split at hsp
        · cases hsp
        · simp at hsp
  · cases e

theorem readIdentifier_ne_closer {ctx : Ctx} {st st' : St} (h : readIdentifier ctx st = .closer st') : False := by
  have := (readIdentifier_leafRes ctx st).closer
  rw [h] at this
  cases this

theorem run_colon {ctx : Ctx} {f d : Nat} {dm : Bool} {st : St} {cs : Bytes} {r : Res} (hs : st.rest = 0x3A :: cs)
    (h : run ctx f (.v d dm st) = r) (hr : r.isFuelOut = false) : readIdentifier ctx st = r := by
  obtain ⟨rest, cl⟩ := st
  cases hs
  cases f with
  | zero => rw [← h, run_zero] at hr; cases hr
  | succ f => exact (readValue_colon ctx f d dm cs cl).symm.trans h

theorem sound_step (ctx : Ctx) (hreg : ctx.opts.registry = none) (hN : NumExact ctx.cfg N) (hS : StrExact ctx.cfg S)
    {f : Nat} (ih : ∀ c, Sound ctx.cfg N S c (run ctx f c)) {c : Call6} {r : Res} (h : StepRel ctx (run ctx f) c r) :
    Sound ctx.cfg N S c r := by
  have hand {c r} (h : run ctx f c = r) : Sound ctx.cfg N S c r := h ▸ ih c
  have handV {d dm st r} (h : run ctx f (.v d dm st) = r) :
      Post (OkV ctx.cfg N S d st) (CloserV ctx.cfg N S d st) r := hand h
  have inv {d dm st v st'} (h : run ctx f (.v (d + 1) dm st) = .ok v st') (hd : d < Tables.maxNestingDepth) :
      VOK ctx.cfg (d + 1) v := readValue_inv ctx hreg f (d + 1) dm st st' v hd h
  cases h with
  | vEof | vDeep | vStray | vSkipCloser | vSkipErr | sErr | sStray | sDup | mErr | mErr₂ | mOdd | mEof | mStray | mDup
  | nErr | nBad | nNoBrace | tEof | tWs | tIdErr | tNotSym | tCloser | tErr
  | meCloser | meErr | meNoEntries | meCloser₂ | meErr₂ | meNoTarget => exact sound_err ..
  | vLeaf hw hrt =>
    exact post_blank hw (post_leaf (leaf_noCloser ..) fun v st' h => leaf_ok ctx hN hS (route_bytes hrt) h)
  | @vCloser d dm st c cs hw hrt =>
    obtain ⟨hpos, hc⟩ := route_bytes hrt
    refine post_blank hw ⟨nofun, fun st' e => ?_⟩
    cases e
    exact ⟨[], rfl, rfl, .blank _ [] _ .nil, hpos, c, cs, rfl, hc⟩
  | vSeq hw hrt hr =>
    obtain ⟨hd, hk⟩ := route_bytes hrt
    have hs := hand hr hd no_mem_nil
    refine post_blank hw ?_
    rcases hk with ⟨rfl, rfl, rfl⟩ | ⟨rfl, rfl, rfl⟩ | ⟨rfl, rfl, rfl⟩
    · refine post_of_seq hs hd [0x28] fun k xs body rest a hseq hval => ?_
      obtain rfl := seqVal_list.mp hval
      exact .list k xs body rest hseq
    · refine post_of_seq hs hd [0x5B] fun k xs body rest a hseq hval => ?_
      obtain rfl := seqVal_vec.mp hval
      exact .vec k xs body rest hseq
    · refine post_of_seq hs hd [0x23, 0x7B] fun k xs body rest a hseq hval => ?_
      obtain ⟨rfl, hpd⟩ := (seqVal_set (by decide) (by decide)).mp hval
      exact .set k xs body rest hseq hpd
  | vMap hw hrt hr =>
    obtain ⟨hd, rfl⟩ := route_bytes hrt
    refine post_blank hw ((hand hr hd no_mem_nil rfl).imp (fun v st' h => okV_of_mapBody hd h [] ?_) (fun _ h => h.elim))
    exact fun k ks vs body hseq hl hpd => .map k ks vs body st'.rest hseq hl hpd
  | vNsmap hw hrt hr =>
    obtain ⟨hd, hclj, rfl, t, rfl⟩ := route_bytes hrt
    exact post_blank hw (hand hr hd hclj t rfl).weaken
  | vTagged hw hrt hr =>
    obtain ⟨rfl, hd, hne⟩ := route_bytes hrt
    exact post_blank hw (hand hr hd.resolve_right hne).weaken
  | vMeta hw hrt hr =>
    obtain ⟨hd, hclj, rfl⟩ := route_bytes hrt
    exact post_blank hw (hand hr hd hclj).weaken
  | vSkipOk hw hrt hv hr =>
    obtain ⟨hd, rfl, rfl⟩ := route_bytes hrt
    exact post_blank hw (post_discard hd ((handV hv).1 _ _ rfl) (handV hr))
  | @sNext d dm kind start st acc v st' r hv hr =>
    intro hd hel
    obtain ⟨tok, e1, c1, f1⟩ := (handV hv).1 _ _ rfl
    refine (hand hr hd (mem_cons_all (AllocSim.El_of_VOK (inv hv hd)) hel)).imp (fun w st2 h => ?_) (fun _ h => h)
    obtain ⟨xs, body, e2, c2, hseq, hval⟩ := h
    refine ⟨stripM v :: xs, tok ++ body, ?_, by rw [c2, c1], ?_, ?_⟩
    · rw [e1, e2]; simp
    · rw [e2] at f1
      exact .cons _ (stripM v) xs tok body _ f1 hseq
    · rw [stripML_snoc] at hval
      exact hval
  | sList hv hs hk =>
    intro _ _
    subst hk
    exact okS_nil ((handV hv).2 _ rfl) hs (seqVal_list.mpr (by simp [stripM, stripMO_none]))
  | sVec hv hs hk =>
    intro _ _
    subst hk
    exact okS_nil ((handV hv).2 _ rfl) hs (seqVal_vec.mpr (by simp [stripM, stripMO_none]))
  | @sSet d dm kind start st acc st' r hv hs hk0 hk1 hdup =>
    intro _ hel
    obtain ⟨hs1, hs2⟩ := noDup_facts (mem_reverse_all hel) hdup
    refine okS_nil ((handV hv).2 _ rfl) hs ((seqVal_set hk0 hk1).mpr ?_)
    simp only [stripM, stripMO_none, List.append_nil, hs1]
    exact ⟨trivial, hs2⟩
  | @mNext d dm start ns st ks vs kv st1 v st2 r hv hv2 hr =>
    intro hd hel hlen
    obtain ⟨tok1, e1, c1, f1⟩ := (handV hv).1 _ _ rfl
    obtain ⟨tok2, e2, c2, f2⟩ := (handV hv2).1 _ _ rfl
    have hkv : VOK ctx.cfg (d + 1) (qualifyNs ns kv) := VOK_qualifyNs ns (by omega) (inv hv hd)
    refine (hand hr hd (mem_cons_all (AllocSim.El_of_VOK hkv) hel) (by simp [hlen])).imp (fun w st' h => ?_) (fun _ h => h)
    obtain ⟨ks', vs', body, e3, c3, hseq, hl, hval, hpd⟩ := h
    refine ⟨stripM kv :: ks', stripM v :: vs', tok1 ++ (tok2 ++ body), ?_, by rw [c3, c2, c1], ?_, by simp [hl], ?_, ?_⟩
    · rw [e1, e2, e3]; simp
    · rw [interleaveKV_cons]
      rw [e2, e3] at f1
      rw [e3] at f2
      exact .cons _ (stripM kv) _ tok1 (tok2 ++ body) _ (by simpa using f1) (.cons _ (stripM v) _ tok2 body _ f2 hseq)
    · rw [stripML_snoc, stripML_snoc] at hval
      rw [qualC_cons]
      exact hval
    · rw [stripML_snoc] at hpd
      rw [qualC_cons]
      exact hpd
  | @mOk d dm start ns st ks vs st' r hv hs hdup =>
    intro _ hel _
    obtain ⟨tr, e1, c1, t1, -⟩ := (handV hv).2 _ rfl
    obtain ⟨hs1, hs2⟩ := noDup_facts (mem_reverse_all hel) hdup
    refine post_ok ⟨[], [], tr, by rw [e1, hs], c1, .nil _ tr _ (hs ▸ t1), rfl, ?_, ?_⟩
    · simp only [stripM, stripMO_none, qualC_nil, List.append_nil, hs1]
    · simp only [qualC_nil, List.append_nil]; exact hs2
  | nCloser hv => exact fun _ _ _ hcs => (readIdentifier_ne_closer (run_colon hcs hv rfl)).elim
  | @nNext d dm start st hh name st' r res hv hw hr =>
    intro hd hclj cs hcs
    obtain ⟨tok, e1, c1, hl, hds, hden⟩ := readIdentifier_sound ctx st st' _ (run_colon hcs hv rfl)
    have hden' : IdentDenotes tok (.kw hdr0 none name) := by simpa [strip] using hden
    obtain rfl : tok = 0x3A :: name := kw_token hden'
    obtain ⟨tr, hb, htr⟩ := Snd.skipWs_inv hw
    refine (hand hr hd no_mem_nil rfl).imp (fun v st2 h => ?_) (fun _ h => h)
    obtain ⟨tok, h1, h2, h3⟩ := okV_of_mapBody hd h (0x23 :: 0x3A :: (name ++ tr)) fun k ks vs body hseq hlen hpd => by
      have e : (0x23 :: 0x3A :: (name ++ tr)) ++ 0x7B :: (body ++ [0x7D]) =
          0x23 :: 0x3A :: (name ++ (tr ++ 0x7B :: (body ++ [0x7D]))) := by simp
      rw [e]
      exact .nsmap k name tr body st2.rest ks vs hclj hl hden' hb hseq hlen hpd
    exact ⟨tok, by rw [← h1]; show 0x23 :: st.rest = _; rw [e1, htr]; simp, by rw [h2, c1], h3⟩
  | tIdCloser _ _ hr => exact (readIdentifier_ne_closer hr).elim
  | @tOk d dm start st c t hh md ns nm st' v st'' hs hc hr hv =>
    intro hd hne
    have hdd := hd (by rw [hs]; exact List.cons_ne_nil _ _)
    rw [tagOut_none hreg]
    obtain ⟨tag, e1, c1, hl, hds, hden⟩ := readIdentifier_sound ctx st st' _ hr
    obtain ⟨tok, e2, c2, f2⟩ := (handV hv).1 _ _ rfl
    have htag : slice st.rest st'.rest = tag := by rw [e1, slice_append]
    refine post_ok ⟨0x23 :: (tag ++ tok), ?_, by rw [c2, c1], ?_⟩
    · show 0x23 :: st.rest = _
      rw [e1, e2]; simp
    · simp only [stripM, stripMO_none, htag]
      rw [room_succ hdd]
      refine .tagged _ tag ns nm (stripM v) tok st''.rest hl (by simpa [strip] using hden) ?_ ?_ f2
      · -- the tag starts with the byte after the `#`
        cases tag with
        | nil => exact absurd rfl hl.1
        | cons t0 tt => rw [e1] at hne; exact hne
      · -- the element is not empty (a value costs a byte), and the tag ended at a delimiter byte
        have hlt : st''.rest.length < st'.rest.length := run_ok_lt (c := .v (d + 1) dm st') hv
        cases tok with
        | nil => rw [e2] at hlt; exact absurd hlt (Nat.lt_irrefl _)
        | cons t0 tt =>
          refine ⟨t0, tt, rfl, ?_⟩
          rcases hds with h0 | ⟨c', t', h0, hdl⟩
          · rw [h0] at e2; cases e2
          · rw [h0] at e2
            simp only [List.cons_append, List.cons.injEq] at e2
            rw [← e2.1]; exact hdl
  | @meOk d dm start st m st1 p form st2 hv hme hv2 hmt =>
    intro hd hclj
    obtain ⟨nks, nvs⟩ := p
    obtain ⟨tokm, e1, c1, f1⟩ := (handV hv).1 _ _ rfl
    obtain ⟨tokf, e2, c2, f2⟩ := (handV hv2).1 _ _ rfl
    have hn := AllocSim.El_metaEntries (inv hv hd) hme
    refine post_ok ⟨0x5E :: (tokm ++ tokf), ?_, by rw [c2, c1], ?_⟩
    · show 0x5E :: st.rest = _
      rw [e1, e2]; simp
    · rw [stripM_setHdr, stripM_attachMeta ctx.cfg m form nks nvs hn (readValue_mdOK ctx hreg f (d + 1) dm st1 st2 form hd hv2)]
      rw [e2] at f1
      rw [room_succ hd]
      exact .withMeta _ (stripM m) (stripM form) (stripML nks) (stripML nvs) tokm tokf st2.rest hclj f1
        (metaEntriesC_of_some hme) f2 (by rw [metaTarget_stripM]; exact hmt)

theorem run_sound (ctx : Ctx) (hreg : ctx.opts.registry = none) (hN : NumExact ctx.cfg N) (hS : StrExact ctx.cfg S) (f : Nat) :
    ∀ c, Sound ctx.cfg N S c (run ctx f c) :=
  run_ind ctx (P := fun _ R => ∀ c, Sound ctx.cfg N S c (R c)) (fun _ => sound_err ..)
    (fun _ ih c => sound_step ctx hreg hN hS ih (step_rel c)) f

end Edn.Proofs.SndX

namespace Edn.Proofs
open Edn.Model Edn.Spec

/-- **Soundness in every configuration**: at a depth within the limit, a returned value means that
    a form of the grammar was consumed, exactly its bytes, no handler call was recorded, the form's
    nesting fits the rest of the limit, and the value's content — metadata included — is the form's -/
theorem readValue_sound_X (cfg : Cfg) (opts : Opts) (hreg : opts.registry = none) (N : NumJ) (S : StrJ)
    (hN : NumExact cfg N) (hS : StrExact cfg S) (f d : Nat) (dm : Bool) (st st' : St) (v : Val)
    (h : readValue { cfg := cfg, opts := opts } f d dm st = .ok v st') (hd : d ≤ Edn.Generated.Tables.maxNestingDepth) :
    ∃ k tok, d + k ≤ Edn.Generated.Tables.maxNestingDepth ∧ st.rest = tok ++ st'.rest ∧ st'.calls = st.calls ∧
      FormX cfg N S k (stripM v) tok st'.rest := by
  obtain ⟨tok, h1, h2, h3⟩ := (SndX.run_sound { cfg := cfg, opts := opts } hreg hN hS f (.v d dm st)).1 v st' h
  exact ⟨SndX.room d, tok, by unfold SndX.room; omega, h1, h2, h3⟩

theorem readValue_closer_X (cfg : Cfg) (opts : Opts) (hreg : opts.registry = none) (N : NumJ) (S : StrJ)
    (hN : NumExact cfg N) (hS : StrExact cfg S) (f d : Nat) (dm : Bool) (st st' : St)
    (h : readValue { cfg := cfg, opts := opts } f d dm st = .closer st') :
    ∃ k tr, st.rest = tr ++ st'.rest ∧ st'.calls = st.calls ∧ TrailX cfg N S k tr st'.rest ∧ 0 < d ∧
      ∃ c t, st'.rest = c :: t ∧ (c = 0x29 ∨ c = 0x5D ∨ c = 0x7D) := by
  obtain ⟨tr, h1, h2, h3, h5⟩ := (SndX.run_sound { cfg := cfg, opts := opts } hreg hN hS f (.v d dm st)).2 st' h
  exact ⟨SndX.room d, tr, h1, h2, h3, h5⟩

end Edn.Proofs
