/-
  C16 for the payloads an accessor materialises after the read
  (`materialiseA` = `edn_string_get`, `edn_bigint_get`, `edn_bigdec_get`): under every oracle an
  accessor call returns the complete payload or NULL, never part of it.
-/
import Edn.Proofs.AllocFrame
import Edn.Proofs.AllocLedger

namespace Edn.Proofs.AllocSim
open Edn.Model Edn.Proofs.AllocBasic Edn.Proofs

/-- what an accessor call returns when memory is available: the text a string literal denotes
    (`none` when its escapes do not decode), the digits of a big number without separators -/
def materialise (cfg : Cfg) (v : Val) : Option Bytes :=
  match v with
  | .str _ data esc => if (stringContent cfg data esc).1 then some (stringContent cfg data esc).2 else none
  | .bigint _ _ _ d | .bigdec _ _ d => some (cleanDigits cfg d)
  | _ => none

/-- the ledger's description of the same thing (`AllocLedger.accessPure`, in the terms of `stringGet`) -/
theorem accessPure_eq_materialise (cfg : Cfg) (v : Val) : AllocLedger.accessPure cfg v = materialise cfg v := by
  have clean : ∀ d : Bytes, (if (cfg.exp && d.contains 0x5F) = true then cleanDigits cfg d else d) = cleanDigits cfg d :=
    fun d => by
      split
      · rfl
      · next hc => rw [cleanDigits_plain cfg d (by rw [Bool.not_eq_true] at hc; rw [hc]; rfl)]
  cases v <;> try rfl
  case str h data esc =>
    cases esc
    · rfl
    · show decodeString cfg (data.length + 1) data = _
      simp only [materialise, stringContent, Bool.not_true, Bool.false_eq_true, ↓reduceIte]
      cases decodeString cfg (data.length + 1) data <;> rfl
  case bigint h n r d => exact congrArg some (clean d)
  case bigdec h n d => exact congrArg some (clean d)

theorem materialiseA_out (x : ACtx) (v : Val) (a : ASt) :
    (materialiseA x v a).1 = materialise x.ctx.cfg v ∨ (materialiseA x v a).1 = none ∧ ¬ Quiet x a :=
  (AllocLedger.materialiseA_ledger x v a).2.2.imp (fun e => e.trans (accessPure_eq_materialise _ v))
    (fun h => ⟨h.1, not_quiet_of_refused h.2.1⟩)

end Edn.Proofs.AllocSim
