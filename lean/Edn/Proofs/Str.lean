/-
  String literals from the grammar to the decoder (for C06): decoding a content of the full relation
  `StrContentX` (Edn.Spec.StringLit, Edn.Spec.StringFull) yields exactly the denoted bytes, NUL bytes
  included.  Unit by unit: an octal escape (`decodeEscape_oct`, `decode_octal`; the decoder takes as many
  digits as it can, hence `Maximal`), any unit for one unit of fuel (`decode_unitX`), a content followed
  by anything that does not extend its last unit (`decode_contentX_append`), then `stringGet`,
  `stringContent` and the reader on a whole literal (`readString_literalX`).  `decodeEscape_sound` is the
  converse for one escape (used by StrSound).  The contents of the basic relation `StrContent` are among
  those of `StrContentX` (`strContent_toX`).  Where the closing quote is found is in Scan
  (`findQuoteScalar_quote`); the theorems of C06 are put together in Edn.Properties.C06.
-/
import Edn.Spec.StringFull
import Edn.Proofs.Scan
import Edn.Model.Reader

namespace Edn.Proofs
open Edn.Model Edn.Spec

theorem hexDigit?_not_special {a : UInt8} {w : Nat} (h : hexDigit? a = some w) : isQuoteSpecial a = false := by
  cases hq : isQuoteSpecial a with
  | false => rfl
  | true =>
    rw [isQuoteSpecial, Bool.or_eq_true, beq_iff_eq, beq_iff_eq] at hq
    rcases hq with rfl | rfl
    · rw [show hexDigit? 0x22 = none by decide] at h; cases h
    · rw [show hexDigit? 0x5C = none by decide] at h; cases h

theorem oct_ne {c : UInt8} (h : isOct c = true) (b : UInt8) (hb : b < 0x30 ∨ 0x37 < b) : (c == b) = false := by
  simp only [isOct, Bool.and_eq_true, decide_eq_true_eq] at h
  refine beq_eq_false_iff_ne.mpr ?_
  rintro rfl
  rcases hb with hb | hb
  · exact absurd h.1 (UInt8.not_le.mpr hb)
  · exact absurd h.2 (UInt8.not_le.mpr hb)

theorem oct_le {c : UInt8} (h : isOct c = true) : c.toNat - 0x30 ≤ 7 := by
  simp only [isOct, Bool.and_eq_true, decide_eq_true_eq] at h
  have := UInt8.le_iff_toNat_le.mp h.2
  exact Nat.sub_le_of_le_add this

theorem octValue_one (a : UInt8) : octValue [a] = a.toNat - 0x30 := by
  simp [octValue]

theorem octValue_two (a b : UInt8) : octValue [a, b] = (a.toNat - 0x30) * 8 + (b.toNat - 0x30) := by
  simp [octValue]

theorem octValue_three (a b c : UInt8) :
    octValue [a, b, c] = ((a.toNat - 0x30) * 8 + (b.toNat - 0x30)) * 8 + (c.toNat - 0x30) := by
  simp [octValue]

theorem decodeEscape_oct (cfg : Cfg) (hc : cfg.clj = true) (c : UInt8) (r : Bytes) (ho : isOct c = true) :
    decodeEscape cfg (c :: r) =
      match r with
      | d1 :: r1 =>
        if isOct d1 && (c.toNat - 0x30) * 8 + (d1.toNat - 0x30) ≤ 255 then
          match r1 with
          | d2 :: r2 =>
            if isOct d2 && ((c.toNat - 0x30) * 8 + (d1.toNat - 0x30)) * 8 + (d2.toNat - 0x30) ≤ 255 then
              some ([UInt8.ofNat (((c.toNat - 0x30) * 8 + (d1.toNat - 0x30)) * 8 + (d2.toNat - 0x30))], r2)
            else some ([UInt8.ofNat ((c.toNat - 0x30) * 8 + (d1.toNat - 0x30))], r1)
          | [] => some ([UInt8.ofNat ((c.toNat - 0x30) * 8 + (d1.toNat - 0x30))], r1)
        else some ([UInt8.ofNat (c.toNat - 0x30)], r)
      | [] => some ([UInt8.ofNat (c.toNat - 0x30)], r) := by
  have ne := oct_ne ho
  unfold decodeEscape
  simp only [ne 0x22 (by decide), ne 0x5C (by decide), ne 0x6E (by decide), ne 0x74 (by decide), ne 0x72 (by decide),
    ne 0x66 (by decide), ne 0x62 (by decide), ne 0x75 (by decide), hc, ho, Bool.false_eq_true, if_false, if_true]
  rfl

theorem octDigits_cases {ds : Bytes} (ho : OctDigits ds) :
    (∃ a, ds = [a]) ∨ (∃ a b, ds = [a, b]) ∨ (∃ a b c, ds = [a, b, c]) := by
  obtain ⟨h1, h3, -, -⟩ := ho
  cases ds with
  | nil => exact absurd h1 (by decide)
  | cons a ds =>
  cases ds with
  | nil => exact .inl ⟨a, rfl⟩
  | cons b ds =>
  cases ds with
  | nil => exact .inr (.inl ⟨a, b, rfl⟩)
  | cons c ds =>
  cases ds with
  | nil => exact .inr (.inr ⟨a, b, c, rfl⟩)
  | cons _ _ => exact absurd h3 (by simp)

theorem octDigits_one {a : UInt8} (ha : isOct a = true) : OctDigits [a] :=
  ⟨by simp, by simp, by simpa using ha, by rw [octValue_one]; exact Nat.le_trans (oct_le ha) (by decide)⟩

theorem octDigits_two {a b : UInt8} (ha : isOct a = true) (hb : isOct b = true)
    (hv : (a.toNat - 0x30) * 8 + (b.toNat - 0x30) ≤ 255) : OctDigits [a, b] :=
  ⟨by simp, by simp, by simp [ha, hb], by rw [octValue_two]; exact hv⟩

theorem octDigits_three {a b c : UInt8} (ha : isOct a = true) (hb : isOct b = true) (hc : isOct c = true)
    (hv : ((a.toNat - 0x30) * 8 + (b.toNat - 0x30)) * 8 + (c.toNat - 0x30) ≤ 255) : OctDigits [a, b, c] :=
  ⟨by simp, by simp, by simp [ha, hb, hc], by rw [octValue_three]; exact hv⟩

theorem maximal_nil (sp : Bytes) : Maximal sp [] := by
  intro d t h; cases h

theorem maximal_of_not_oct (c : UInt8) (u t : Bytes) (h : isOct c = false) : Maximal (0x5C :: c :: u) t := by
  rintro d t' _ ⟨ds, hds, ho⟩
  simp only [List.cons_append, List.cons.injEq, true_and] at hds
  have := ho.octal c (by rw [← hds]; simp)
  rw [h] at this; cases this

theorem maximal_plain (b : UInt8) (h : b ≠ 0x5C) (t : Bytes) : Maximal [b] t := by
  rintro d t' _ ⟨ds, hds, _⟩
  simp only [List.cons_append, List.nil_append, List.cons.injEq] at hds
  exact h hds.1

theorem maximal_base (cfg : Cfg) (sp dn : Bytes) (h : StrUnit cfg sp dn) (t : Bytes) : Maximal sp t := by
  cases h with
  | plain b h1 h2 => exact maximal_plain b h2 t
  | _ => exact maximal_of_not_oct _ _ t (by decide)

theorem maximal_three (a b c : UInt8) (t : Bytes) : Maximal [0x5C, a, b, c] t := by
  rintro d t' _ ⟨ds, hds, ho⟩
  simp only [List.cons_append, List.nil_append, List.cons.injEq, true_and] at hds
  have := ho.atMost3
  rw [← hds] at this
  simp at this

theorem maximal_stop (ds : Bytes) (d : UInt8) (t : Bytes)
    (h : ¬ (isOct d = true ∧ octValue (ds ++ [d]) ≤ 255)) : Maximal (0x5C :: ds) (d :: t) := by
  rintro d' t' ht ⟨ds', hds, hod⟩
  simp only [List.cons.injEq] at ht
  obtain ⟨rfl, rfl⟩ := ht
  simp only [List.cons_append, List.cons.injEq, true_and] at hds
  subst hds
  exact h ⟨hod.octal d (by simp), hod.byte⟩

theorem decode_octal (cfg : Cfg) (hc : cfg.clj = true) (ds : Bytes) (ho : OctDigits ds) (t : Bytes)
    (hm : Maximal (0x5C :: ds) t) :
    decodeEscape cfg (ds ++ t) = some ([UInt8.ofNat (octValue ds)], t) := by
  have hv := ho.byte
  rcases octDigits_cases ho with ⟨a, rfl⟩ | ⟨a, b, rfl⟩ | ⟨a, b, c, rfl⟩
  · have ha := ho.octal a (by simp)
    rw [List.singleton_append, decodeEscape_oct cfg hc a t ha, octValue_one]
    cases t with
    | nil => rfl
    | cons d t' =>
      have hcond : (isOct d && decide ((a.toNat - 0x30) * 8 + (d.toNat - 0x30) ≤ 255)) = false := by
        cases hq : (isOct d && decide ((a.toNat - 0x30) * 8 + (d.toNat - 0x30) ≤ 255))
        · rfl
        · exfalso
          rw [Bool.and_eq_true, decide_eq_true_eq] at hq
          exact hm d t' rfl ⟨[a, d], rfl, octDigits_two ha hq.1 hq.2⟩
      simp only [hcond, Bool.false_eq_true, if_false]
  · have ha := ho.octal a (by simp)
    have hb := ho.octal b (by simp)
    rw [octValue_two] at hv
    have hcond : (isOct b && decide ((a.toNat - 0x30) * 8 + (b.toNat - 0x30) ≤ 255)) = true := by
      simp [hb, hv]
    show decodeEscape cfg (a :: b :: t) = _
    rw [decodeEscape_oct cfg hc a (b :: t) ha, octValue_two]
    simp only [hcond, if_true]
    cases t with
    | nil => rfl
    | cons d t' =>
      have hcond2 : (isOct d &&
          decide (((a.toNat - 0x30) * 8 + (b.toNat - 0x30)) * 8 + (d.toNat - 0x30) ≤ 255)) = false := by
        cases hq : (isOct d &&
          decide (((a.toNat - 0x30) * 8 + (b.toNat - 0x30)) * 8 + (d.toNat - 0x30) ≤ 255))
        · rfl
        · exfalso
          rw [Bool.and_eq_true, decide_eq_true_eq] at hq
          exact hm d t' rfl ⟨[a, b, d], rfl, octDigits_three ha hb hq.1 hq.2⟩
      simp only [hcond2, Bool.false_eq_true, if_false]
  · have ha := ho.octal a (by simp)
    have hb := ho.octal b (by simp)
    have hc' := ho.octal c (by simp)
    rw [octValue_three] at hv
    have hcond : (isOct b && decide ((a.toNat - 0x30) * 8 + (b.toNat - 0x30) ≤ 255)) = true := by
      have : (a.toNat - 0x30) * 8 + (b.toNat - 0x30) ≤ 255 := by omega
      simp [hb, this]
    have hcond2 : (isOct c &&
        decide (((a.toNat - 0x30) * 8 + (b.toNat - 0x30)) * 8 + (c.toNat - 0x30) ≤ 255)) = true := by
      simp [hc', hv]
    show decodeEscape cfg (a :: b :: c :: t) = _
    rw [decodeEscape_oct cfg hc a (b :: c :: t) ha, octValue_three]
    simp only [hcond, hcond2, if_true]

theorem unitX_shape {cfg : Cfg} {sp dn : Bytes} (h : StrUnitX cfg sp dn) :
    (∃ b, b ≠ 0x22 ∧ b ≠ 0x5C ∧ sp = [b] ∧ dn = [b]) ∨
      ∃ e u, sp = 0x5C :: e :: u ∧ u.all (fun c => !isQuoteSpecial c) = true := by
  cases h with
  | base h =>
    cases h with
    | plain b h1 h2 => exact .inl ⟨b, h1, h2, rfl, rfl⟩
    | unicode hc a b c d cp out hx hu =>
      obtain ⟨w, x, y, z, hw, hx', hy, hz, _, _⟩ := hex4?_cons_some hx
      refine .inr ⟨_, _, rfl, ?_⟩
      simp only [List.all_cons, List.all_nil, hexDigit?_not_special hw, hexDigit?_not_special hx',
        hexDigit?_not_special hy, hexDigit?_not_special hz, Bool.not_false, Bool.and_self]
    | _ => exact .inr ⟨_, [], rfl, rfl⟩
  | octal hc ds ho =>
    match ds, ho.nonempty with
    | a :: ds', _ =>
      refine .inr ⟨a, ds', rfl, List.all_eq_true.mpr fun d hd => ?_⟩
      have ne := oct_ne (ho.octal d (List.mem_cons_of_mem _ hd))
      rw [isQuoteSpecial, ne 0x22 (by decide), ne 0x5C (by decide)]
      rfl

theorem unitX_length_pos (cfg : Cfg) (sp dn : Bytes) (h : StrUnitX cfg sp dn) : 1 ≤ sp.length := by
  rcases unitX_shape h with ⟨b, _, _, rfl, _⟩ | ⟨e, u, rfl, _⟩ <;> exact Nat.succ_le_succ (Nat.zero_le _)

theorem rawStr_append {a b : Bytes} (ha : RawStr a) (hb : RawStr b) : RawStr (a ++ b) := by
  induction ha with
  | nil => exact hb
  | plain c u h1 h2 _ ih => exact .plain c _ h1 h2 ih
  | esc c u _ ih => exact .esc c _ ih

theorem rawStr_of_plain : ∀ {u : Bytes}, u.all (fun c => !isQuoteSpecial c) = true → RawStr u
  | [], _ => .nil
  | c :: u, h => by
    simp only [List.all_cons, Bool.and_eq_true, isQuoteSpecial, Bool.not_eq_eq_eq_not, Bool.not_true,
      Bool.or_eq_false_iff, beq_eq_false_iff_ne] at h
    exact .plain c u h.1.1 h.1.2 (rawStr_of_plain h.2)

theorem unitX_rawStr {cfg : Cfg} {sp dn : Bytes} (h : StrUnitX cfg sp dn) : RawStr sp := by
  rcases unitX_shape h with ⟨b, h1, h2, rfl, _⟩ | ⟨e, u, rfl, hu⟩
  · exact .plain b [] h1 h2 .nil
  · exact .esc e u (rawStr_of_plain hu)

theorem contentX_rawStr {cfg : Cfg} {sp dn : Bytes} (h : StrContentX cfg sp dn) : RawStr sp := by
  induction h with
  | nil => exact .nil
  | cons hu _ _ ih => exact rawStr_append (unitX_rawStr hu) ih

theorem unitX_no_backslash (cfg : Cfg) (sp dn : Bytes) (h : StrUnitX cfg sp dn)
    (hb : sp.contains 0x5C = false) : dn = sp := by
  rcases unitX_shape h with ⟨b, _, _, rfl, rfl⟩ | ⟨e, u, rfl, _⟩
  · rfl
  · rw [List.contains_cons, beq_self_eq_true, Bool.true_or] at hb
    cases hb

theorem decode_escape {cfg : Cfg} {u out t : Bytes} (h : decodeEscape cfg (u ++ t) = some (out, t)) (f : Nat) :
    decodeString cfg (f + 1) (0x5C :: u ++ t) = (decodeString cfg f t).map (out ++ ·) := by
  rw [List.cons_append, decodeString, if_pos (beq_self_eq_true _), h]

theorem decode_unitX (cfg : Cfg) (sp dn : Bytes) (h : StrUnitX cfg sp dn) (f : Nat) (t : Bytes)
    (hm : Maximal sp t) :
    decodeString cfg (f + 1) (sp ++ t) = (decodeString cfg f t).map (dn ++ ·) := by
  cases h with
  | octal hc ds ho => exact decode_escape (decode_octal cfg hc ds ho t hm) f
  | base h =>
    cases h with
    | plain b h1 h2 => rw [List.singleton_append, decodeString, if_neg (by simpa using h2)]; rfl
    | unicode hc a b c d cp out hx hu =>
      refine decode_escape (u := [0x75, a, b, c, d]) ?_ f
      obtain ⟨clj, exp⟩ := cfg
      cases hc
      show (match hex4? (a :: b :: c :: d :: t) with
        | none => none
        | some (cp, r') => (utf8Bmp cp).map (·, r')) = _
      rw [hex4?_append hx t]
      show (utf8Bmp cp).map (·, t) = _
      rw [hu]
      rfl
    | formfeed hc => obtain ⟨clj, exp⟩ := cfg; cases hc; exact decode_escape (u := [0x66]) (by rfl) f
    | backspace hc => obtain ⟨clj, exp⟩ := cfg; cases hc; exact decode_escape (u := [0x62]) (by rfl) f
    | quote => exact decode_escape (u := [0x22]) (by rfl) f
    | backslash => exact decode_escape (u := [0x5C]) (by rfl) f
    | newline => exact decode_escape (u := [0x6E]) (by rfl) f
    | tab => exact decode_escape (u := [0x74]) (by rfl) f
    | ret => exact decode_escape (u := [0x72]) (by rfl) f

theorem exists_maximal_oct (c : UInt8) (r : Bytes) (ho : isOct c = true) :
    ∃ ds t, c :: r = ds ++ t ∧ OctDigits ds ∧ Maximal (0x5C :: ds) t := by
  cases r with
  | nil => exact ⟨[c], [], rfl, octDigits_one ho, maximal_nil _⟩
  | cons d1 r1 =>
    by_cases h1 : isOct d1 = true ∧ octValue ([c] ++ [d1]) ≤ 255
    · have o2 : OctDigits [c, d1] := octDigits_two ho h1.1 (octValue_two c d1 ▸ h1.2)
      cases r1 with
      | nil => exact ⟨[c, d1], [], rfl, o2, maximal_nil _⟩
      | cons d2 r2 =>
        by_cases h2 : isOct d2 = true ∧ octValue ([c, d1] ++ [d2]) ≤ 255
        · exact ⟨[c, d1, d2], r2, rfl, octDigits_three ho h1.1 h2.1 (octValue_three c d1 d2 ▸ h2.2),
            maximal_three _ _ _ _⟩
        · exact ⟨[c, d1], d2 :: r2, rfl, o2, maximal_stop _ _ _ h2⟩
    · exact ⟨[c], d1 :: r1, rfl, octDigits_one ho, maximal_stop _ _ _ h1⟩

theorem decodeEscape_sound (cfg : Cfg) (r out r' : Bytes) (h : decodeEscape cfg r = some (out, r')) :
    ∃ u, r = u ++ r' ∧ StrUnitX cfg (0x5C :: u) out ∧ Maximal (0x5C :: u) r' := by
  cases r with
  | nil => simp [decodeEscape] at h
  | cons c r =>
    by_cases ho : isOct c = true
    · -- octal (or nothing, without the flag)
      have ne := oct_ne ho
      cases hc : cfg.clj with
      | false =>
        unfold decodeEscape at h
        simp [ne 0x22 (by decide), ne 0x5C (by decide), ne 0x6E (by decide), ne 0x74 (by decide),
          ne 0x72 (by decide), hc] at h
      | true =>
        obtain ⟨ds, t, hs, hod, hm⟩ := exists_maximal_oct c r ho
        rw [hs, decode_octal cfg hc ds hod t hm] at h
        cases h
        exact ⟨ds, hs, .octal hc ds hod, hm⟩
    · -- not an octal digit: the escapes of the basic relation
      have ho' : isOct c = false := by simpa using ho
      have hmax : ∀ u t, Maximal (0x5C :: c :: u) t := fun u t => maximal_of_not_oct c u t ho'
      -- one `if` of the decoder at a time: taken (`hit`) or passed over
      have hit : ∀ {o : UInt8} {rest : Option (Bytes × Bytes)}, StrUnit cfg [0x5C, c] [o] →
          (if (c == c) = true then some ([o], r) else rest) = some (out, r') →
          ∃ u, c :: r = u ++ r' ∧ StrUnitX cfg (0x5C :: u) out ∧ Maximal (0x5C :: u) r' := by
        intro o rest hu h
        rw [if_pos (beq_self_eq_true c)] at h
        cases h
        exact ⟨[c], rfl, .base hu, hmax _ _⟩
      have pass : ∀ {b : UInt8}, c ≠ b → ¬ (c == b) = true := fun e => by simpa using e
      rw [decodeEscape] at h
      by_cases e1 : c = 0x22
      · subst e1; exact hit .quote h
      rw [if_neg (pass e1)] at h
      by_cases e2 : c = 0x5C
      · subst e2; exact hit .backslash h
      rw [if_neg (pass e2)] at h
      by_cases e3 : c = 0x6E
      · subst e3; exact hit .newline h
      rw [if_neg (pass e3)] at h
      by_cases e4 : c = 0x74
      · subst e4; exact hit .tab h
      rw [if_neg (pass e4)] at h
      by_cases e5 : c = 0x72
      · subst e5; exact hit .ret h
      rw [if_neg (pass e5)] at h
      cases hc : cfg.clj with
      | false => rw [hc, if_neg Bool.false_ne_true] at h; cases h
      | true =>
        rw [hc, if_pos rfl] at h
        by_cases e6 : c = 0x66
        · subst e6; exact hit (.formfeed hc) h
        rw [if_neg (pass e6)] at h
        by_cases e7 : c = 0x62
        · subst e7; exact hit (.backspace hc) h
        rw [if_neg (pass e7)] at h
        by_cases e8 : c = 0x75
        · subst e8
          rw [if_pos (beq_self_eq_true _)] at h
          cases hx : hex4? r with
          | none => rw [hx] at h; cases h
          | some x =>
            obtain ⟨cp, r''⟩ := x
            simp only [hx, Option.map_eq_some_iff, Prod.mk.injEq] at h
            obtain ⟨o, hu, rfl, rfl⟩ := h
            obtain ⟨a, b, c, d, w, x, y, z, rfl, hw, hx', hy, hz, rfl⟩ := hex4?_some hx
            exact ⟨[0x75, a, b, c, d], rfl, .base (.unicode hc a b c d _ o (hex4?_digits hw hx' hy hz []) hu),
              hmax _ _⟩
        · rw [if_neg (pass e8), if_neg (by rw [ho']; exact Bool.false_ne_true)] at h
          cases h

theorem not_octEscape_snoc {sp : Bytes} {d : UInt8} (hne : sp ≠ []) (hd : isOct d = false) :
    ¬ IsOctEscape (sp ++ [d]) := by
  rintro ⟨ds, hds, ho⟩
  cases sp with
  | nil => exact hne rfl
  | cons c sp' =>
    simp only [List.cons_append, List.cons.injEq] at hds
    have := ho.octal d (by rw [← hds.2]; simp)
    rw [hd] at this; cases this

/-- `ht`: an octal digit after the content could extend its last unit; `k` is the number of units -/
theorem decode_contentX_append (cfg : Cfg) (sp dn : Bytes) (h : StrContentX cfg sp dn) (t : Bytes)
    (ht : ∀ d t', t = d :: t' → isOct d = false) :
    ∃ k, k ≤ sp.length ∧ ∀ (f : Nat),
      decodeString cfg (f + k) (sp ++ t) = (decodeString cfg f t).map (dn ++ ·) := by
  induction h with
  | nil => exact ⟨0, Nat.le_refl _, fun f => by simp⟩
  | @cons sp dn sps dns hu hm _ ih =>
    obtain ⟨k, hk, hdec⟩ := ih
    have hpos := unitX_length_pos cfg _ _ hu
    have hm' : Maximal sp (sps ++ t) := by
      intro d t' e
      cases sps with
      | nil => exact not_octEscape_snoc (fun e0 => by rw [e0] at hpos; simp at hpos) (ht d t' e)
      | cons c sps' =>
        simp only [List.cons_append, List.cons.injEq] at e
        exact e.1 ▸ hm c sps' rfl
    refine ⟨k + 1, ?_, ?_⟩
    · simp only [List.length_append]; omega
    · intro f
      rw [List.append_assoc, ← Nat.add_assoc, decode_unitX cfg _ _ hu _ _ hm', hdec, Option.map_map]
      congr 1
      funext x
      simp

theorem decode_contentX (cfg : Cfg) (sp dn : Bytes) (h : StrContentX cfg sp dn) (f : Nat) (hf : sp.length < f) :
    decodeString cfg f sp = some dn := by
  obtain ⟨k, hk, hdec⟩ := decode_contentX_append cfg sp dn h [] (fun _ _ e => nomatch e)
  obtain ⟨g, rfl⟩ : ∃ g, f = (g + 1) + k := ⟨f - k - 1, by omega⟩
  have := hdec (g + 1)
  simpa [decodeString] using this

/-- a content without backslash denotes itself (zero-copy path) -/
theorem no_backslash_plainX (cfg : Cfg) (sp dn : Bytes) (h : StrContentX cfg sp dn) (hb : sp.contains 0x5C = false) :
    dn = sp := by
  induction h with
  | nil => rfl
  | cons hu _ _ ih =>
    rw [List.contains_append, Bool.or_eq_false_iff] at hb
    rw [unitX_no_backslash cfg _ _ hu hb.1, ih hb.2]

theorem strContent_toX {cfg : Cfg} {sp dn : Bytes} (h : StrContent cfg sp dn) : StrContentX cfg sp dn := by
  induction h with
  | nil => exact .nil
  | cons hu _ ih => exact .cons (.base hu) (maximal_base cfg _ _ hu _) ih

theorem stringGet_raw (cfg : Cfg) (sp : Bytes) : stringGet cfg sp false = some sp := rfl

theorem stringGet_complete (cfg : Cfg) (sp dn : Bytes) (h : StrContentX cfg sp dn) :
    stringGet cfg sp true = some dn := by
  unfold stringGet
  simpa using decode_contentX cfg sp dn h (sp.length + 1) (by omega)

theorem stringGet_contentX (cfg : Cfg) (sp dn : Bytes) (h : StrContentX cfg sp dn) :
    stringGet cfg sp (sp.contains 0x5C) = some dn := by
  cases hb : sp.contains 0x5C
  · rw [stringGet_raw, no_backslash_plainX cfg sp dn h hb]
  · exact stringGet_complete cfg sp dn h

theorem stringContent_eq_get (cfg : Cfg) (data : Bytes) (esc : Bool) :
    stringContent cfg data esc = match stringGet cfg data esc with | some b => (true, b) | none => (false, data) := by
  cases esc <;> rfl

theorem stringContent_contentX (cfg : Cfg) (sp dn : Bytes) (h : StrContentX cfg sp dn) :
    stringContent cfg sp (sp.contains 0x5C) = (true, dn) := by
  rw [stringContent_eq_get, stringGet_contentX cfg sp dn h]

theorem not_textBlock_opener {exp : Bool} {s : Bytes} (hnb : ¬ (exp = true ∧ ∃ t, s = 0x22 :: 0x22 :: 0x22 :: 0x0A :: t)) :
    (exp && startsWith s [0x22, 0x22, 0x22, 0x0A]) = false := by
  cases hc : (exp && startsWith s [0x22, 0x22, 0x22, 0x0A])
  · rfl
  · exfalso
    rw [Bool.and_eq_true] at hc
    obtain ⟨t, ht⟩ := List.isPrefixOf_iff_prefix.mp hc.2
    exact hnb ⟨hc.1, t, ht.symm⟩

theorem readString_literalX (ctx : Ctx) (sp dn rest : Bytes) (cl : List Call)
    (h : StrContentX ctx.cfg sp dn)
    (hnb : ¬ (ctx.cfg.exp = true ∧ ∃ t, (0x22 :: (sp ++ 0x22 :: rest)) = 0x22 :: 0x22 :: 0x22 :: 0x0A :: t)) :
    readString ctx { rest := 0x22 :: (sp ++ 0x22 :: rest), calls := cl } =
        .ok (.str (mkHdr (sp.length + 2 + rest.length) rest.length) sp (sp.contains 0x5C))
          { rest := rest, calls := cl } := by
  refine (readString_literal_iff ctx _ _ cl _ _ (not_textBlock_opener hnb)).mpr ⟨sp, rest, contentX_rawStr h, rfl, ?_, rfl⟩
  rw [List.length_append, List.length_cons, show sp.length + (rest.length + 1) + 1 = sp.length + 2 + rest.length by omega]

theorem readString_literal (ctx : Ctx) (sp dn rest : Bytes) (cl : List Call)
    (h : StrContent ctx.cfg sp dn)
    (hnb : ¬ (ctx.cfg.exp = true ∧ ∃ t, (0x22 :: (sp ++ 0x22 :: rest)) = 0x22 :: 0x22 :: 0x22 :: 0x0A :: t)) :
    readString ctx { rest := 0x22 :: (sp ++ 0x22 :: rest), calls := cl } =
        .ok (.str (mkHdr (sp.length + 2 + rest.length) rest.length) sp (sp.contains 0x5C))
          { rest := rest, calls := cl } :=
  readString_literalX ctx sp dn rest cl (strContent_toX h) hnb

end Edn.Proofs
