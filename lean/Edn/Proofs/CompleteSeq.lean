/-
  What completeness (`CompleteX`) and the frames of `RejectFrames` share.
  `strip` (content of a tree) is transparent (`transp_strip`): structural equality, nesting depth and the
  duplicate check do not see it.  What starts with a terminator (`IsCloser`, `TermStart_…`).
  `ReadsAs`: "the reader reads this token in front of that follower as a value with property `P`".
  The first step of `readValue` at `(` `[` `{` `#{` and `#` before a tag (`readValue_listOpen` …
  `readValue_tagOpen`).
  `ReadsSeq`: a fuel-independent description of "the forms up to the closing delimiter are read as
  `ws`", which drives the element loops `readSeq` and `readMap`: a loop that reads `ws` answers what
  the rule that fires at the closing delimiter answers (`readSeq_of_ReadsSeq`, `readMap_of_ReadsSeq`);
  hence the collection readers on a body that is read (`readValue_list_of_body` … `readMap_of_body`).
  A tag in front of a form (`tag_facts`, `evals_tag`).
  Runs are stated as `Evals` (at every sufficient fuel): a rule applied to answers is an answer
  (`Evals.rule`), a leaf is read at some fuel (`ReadsAs.of_run`); nothing here counts fuel.
  Last (`CmplX`): the first step of `readValue` at `^`, at `#:` and at `:`, and `TrailRX`, "this trailer is
  read as the closing delimiter behind it".
-/
import Edn.Spec.DispatchClj
import Edn.Proofs.ReaderInv
import Edn.Proofs.IdentSound

namespace Edn.Proofs.Cmpl
open Edn.Model Edn.Spec Edn.Generated Edn.Proofs

theorem stripL_nil : stripL [] = [] := by rw [stripL]
theorem stripL_cons (x : Val) (xs : List Val) : stripL (x :: xs) = strip x :: stripL xs := by rw [stripL]

theorem stripL_eq_map : ∀ xs : List Val, stripL xs = xs.map strip := by
  intro xs
  induction xs with
  | nil => rw [stripL_nil]; rfl
  | cons x xs ih => rw [stripL_cons, ih]; rfl

theorem length_stripL (xs : List Val) : (stripL xs).length = xs.length := by
  rw [stripL_eq_map, List.length_map]

theorem stripL_append (xs ys : List Val) : stripL (xs ++ ys) = stripL xs ++ stripL ys := by
  rw [stripL_eq_map, stripL_eq_map, stripL_eq_map, List.map_append]

theorem stripL_reverse (xs : List Val) : stripL xs.reverse = (stripL xs).reverse := by
  rw [stripL_eq_map, stripL_eq_map, List.map_reverse]

theorem transp_strip : Transp strip := by
  intro v
  cases v <;> try rfl
  all_goals simp only [strip, view, stripL_eq_map, List.map_id]

theorem eqvF_strip (cfg : Cfg) (f : Nat) (a b : Val) : eqvF cfg f (strip a) (strip b) = eqvF cfg f a b :=
  transp_strip.eqvF transp_strip cfg f a b

theorem depth_strip (a : Val) : depth (strip a) = depth a := transp_strip.depth a

theorem depthL_nil : depthL [] = 0 := by rw [depthL]

theorem Eqv_strip_iff (cfg : Cfg) (a b : Val) : Eqv cfg (strip a) (strip b) ↔ Eqv cfg a b :=
  transp_strip.Eqv transp_strip cfg a b

theorem pairwiseDistinct_stripL (cfg : Cfg) (xs : List Val) :
    pairwiseDistinct cfg (stripL xs) ↔ pairwiseDistinct cfg xs := by
  rw [stripL_eq_map]; exact transp_strip.pairwiseDistinct cfg xs

theorem strip_setHdr (v : Val) (h : Hdr) : strip (v.setHdr h) = strip v := by
  cases v <;> rfl

theorem map_hasDuplicates {α : Type} (g : Val → α) (hg : ∀ v h, g (v.setHdr h) = g v) (cfg : Cfg) (xs : List Val) :
    (hasDuplicates cfg xs).2.map g = xs.map g :=
  (hasDuplicates_elems cfg xs).map_eq g g fun _ _ _ _ ⟨_, e⟩ => by rw [e, hg]

theorem stripL_hasDuplicates (cfg : Cfg) (xs : List Val) :
    stripL (hasDuplicates cfg xs).2 = stripL xs := by
  rw [stripL_eq_map, stripL_eq_map]
  exact map_hasDuplicates strip strip_setHdr cfg xs

theorem ws_or_semi_term {c : UInt8} (h : (isWs c || c == 0x3B) = true) :
    isNumTerm c = true ∧ isDelim c = true := by
  have := ws_terminates c
  simp only [wsTerminates, h, Bool.not_true, Bool.false_or, Bool.and_eq_true] at this
  exact this

theorem blank_head_term {c : UInt8} {t : Bytes} (h : Blank (c :: t)) :
    isNumTerm c = true ∧ isDelim c = true := by
  apply ws_or_semi_term
  cases h with
  | ws _ _ hw _ => simp [hw]
  | comment body t' hb _ => simp

def IsCloser (c : UInt8) : Prop := c = 0x29 ∨ c = 0x5D ∨ c = 0x7D

theorem IsCloser.term {c : UInt8} (h : IsCloser c) : isNumTerm c = true := by
  rcases h with rfl | rfl | rfl <;> decide +kernel

theorem TermStart_cons {c : UInt8} {t : Bytes} (h : isNumTerm c = true) : TermStart (c :: t) :=
  Or.inr ⟨c, t, rfl, h⟩

theorem TermStart_blank {sep : Bytes} (x : Bytes) (h : Blank sep) (hne : sep ≠ []) : TermStart (sep ++ x) := by
  cases sep with
  | nil => exact absurd rfl hne
  | cons c t => exact TermStart_cons (blank_head_term h).1

theorem TermStart_blank_closer {tr : Bytes} {c : UInt8} (rest : Bytes) (h : Blank tr) (hc : IsCloser c) :
    TermStart (tr ++ c :: rest) := by
  cases tr with
  | nil => exact TermStart_cons hc.term
  | cons c0 t => exact TermStart_cons (blank_head_term h).1

/-- In every context: any discard mode, call log and sufficient fuel.  `Edn.Spec.Reads` is this for
    every follower that starts with a terminator, `P` fixing the content without metadata; the converse
    of the grammar theorems fixes the follower, and the content with metadata. -/
def ReadsAs (ctx : Ctx) (d : Nat) (P : Val → Prop) (tok rest : Bytes) : Prop :=
  ∀ (dm : Bool) (cl : List Call), ∃ v, P v ∧
    Evals ctx (.v d dm { rest := tok ++ rest, calls := cl }) (.ok v { rest := rest, calls := cl })

namespace ReadsAs
variable {ctx : Ctx} {d : Nat} {P : Val → Prop} {tok rest : Bytes}

theorem of_run
    (h : ∀ (dm : Bool) (cl : List Call), ∃ f v,
      readValue ctx f d dm { rest := tok ++ rest, calls := cl } = .ok v { rest := rest, calls := cl } ∧ P v) :
    ReadsAs ctx d P tok rest := fun dm cl =>
  let ⟨_, v, hv, hp⟩ := h dm cl
  ⟨v, hp, .of_run hv rfl⟩

/-- the form in which `Edn.Spec.Reads` and the theorems of `Edn.Properties.C03` state it -/
theorem run (h : ReadsAs ctx d P tok rest) (dm : Bool) (cl : List Call) (f : Nat)
    (hf : 2 * (tok.length + rest.length) + 2 ≤ f) :
    ∃ v, readValue ctx f d dm { rest := tok ++ rest, calls := cl } = .ok v { rest := rest, calls := cl } ∧ P v :=
  let ⟨v, hp, hv⟩ := h dm cl
  ⟨v, hv f (show 2 * (tok ++ rest).length + 2 ≤ f by rw [List.length_append]; exact hf), hp⟩

theorem ne_nil (h : ReadsAs ctx d P tok rest) : tok ≠ [] := by
  obtain ⟨v, -, hv⟩ := h false []
  have := run_ok_lt (hv _ (Nat.le_refl _))
  intro e
  rw [e] at this
  exact Nat.lt_irrefl _ this

theorem blank {tr : Bytes} (ht : Blank tr) (h : ReadsAs ctx d P tok rest) : ReadsAs ctx d P (tr ++ tok) rest := fun dm cl =>
  let ⟨v, hp, hv⟩ := h dm cl
  ⟨v, hp, List.append_assoc tr tok rest ▸ hv.blank ht⟩

theorem discard {Q : Val → Prop} {tok1 tok2 : Bytes} (hd : d < Tables.maxNestingDepth)
    (hdisc : ReadsAs ctx (d + 1) Q tok1 (tok2 ++ rest)) (h : ReadsAs ctx d P tok2 rest) :
    ReadsAs ctx d P (0x23 :: 0x5F :: (tok1 ++ tok2)) rest := fun dm cl =>
  let ⟨_, _, hw⟩ := hdisc true cl
  let ⟨v, hp, hv⟩ := h dm cl
  ⟨v, hp, (List.append_assoc tok1 tok2 rest ▸ Evals.discard hd hw hv :
    Evals ctx (.v d dm { rest := 0x23 :: 0x5F :: (tok1 ++ tok2 ++ rest), calls := cl }) _)⟩

end ReadsAs

theorem not_tooDeep {d : Nat} (hd : d < Tables.maxNestingDepth) : decide (d ≥ Tables.maxNestingDepth) = false :=
  decide_eq_false (by omega)

theorem readValue_listOpen (ctx : Ctx) (f d : Nat) (dm : Bool) (cs : Bytes) (cl : List Call)
    (hd : d < Tables.maxNestingDepth) :
    readValue ctx (f + 1) d dm { rest := 0x28 :: cs, calls := cl } =
      readSeq ctx f d dm 0 (cs.length + 1) { rest := cs, calls := cl } [] := by
  have hdisp : dispatch ctx.cfg 0x28 = .listOpen := (dispatch_eq ..).trans rfl
  rw [readValue_at _ _ _ _ _ _ _ (by decide +kernel)]
  unfold route
  simp only [hdisp, not_tooDeep hd, Bool.false_eq_true, ↓reduceIte]
  rfl

theorem readValue_vecOpen (ctx : Ctx) (f d : Nat) (dm : Bool) (cs : Bytes) (cl : List Call)
    (hd : d < Tables.maxNestingDepth) :
    readValue ctx (f + 1) d dm { rest := 0x5B :: cs, calls := cl } =
      readSeq ctx f d dm 1 (cs.length + 1) { rest := cs, calls := cl } [] := by
  have hdisp : dispatch ctx.cfg 0x5B = .vectorOpen := (dispatch_eq ..).trans rfl
  rw [readValue_at _ _ _ _ _ _ _ (by decide +kernel)]
  unfold route
  simp only [hdisp, not_tooDeep hd, Bool.false_eq_true, ↓reduceIte]
  rfl

theorem readValue_mapOpen (ctx : Ctx) (f d : Nat) (dm : Bool) (cs : Bytes) (cl : List Call)
    (hd : d < Tables.maxNestingDepth) :
    readValue ctx (f + 1) d dm { rest := 0x7B :: cs, calls := cl } =
      readMap ctx f d dm (cs.length + 1) none { rest := cs, calls := cl } [] [] := by
  have hdisp : dispatch ctx.cfg 0x7B = .mapOpen := (dispatch_eq ..).trans rfl
  rw [readValue_at _ _ _ _ _ _ _ (by decide +kernel)]
  unfold route
  simp only [hdisp, not_tooDeep hd, Bool.false_eq_true, ↓reduceIte]
  rfl

theorem readValue_setOpen (ctx : Ctx) (f d : Nat) (dm : Bool) (cs : Bytes) (cl : List Call)
    (hd : d < Tables.maxNestingDepth) :
    readValue ctx (f + 1) d dm { rest := 0x23 :: 0x7B :: cs, calls := cl } =
      readSeq ctx f d dm 2 (cs.length + 2) { rest := cs, calls := cl } [] := by
  rw [readValue_at _ _ _ _ _ _ _ (by decide +kernel)]
  unfold route
  simp only [dispatch_hash, not_tooDeep hd, Bool.false_eq_true, ↓reduceIte]
  have e1 : ((0x7B : UInt8) == 0x23) = false := by decide
  simp only [e1, Bool.false_eq_true, ↓reduceIte, beq_self_eq_true]
  rfl

theorem readValue_tagOpen (ctx : Ctx) (f d : Nat) (dm : Bool) (c : UInt8) (cs : Bytes) (cl : List Call)
    (hd : d < Tables.maxNestingDepth)
    (h1 : c ≠ 0x23) (h2 : c ≠ 0x7B) (h3 : c ≠ 0x5F) (h4 : c ≠ 0x3A) :
    readValue ctx (f + 1) d dm { rest := 0x23 :: c :: cs, calls := cl } =
      readTagged ctx f d dm (cs.length + 2) { rest := c :: cs, calls := cl } := by
  rw [readValue_at _ _ _ _ _ _ _ (by decide +kernel)]
  unfold route
  simp only [dispatch_hash, not_tooDeep hd, Bool.false_eq_true, ↓reduceIte]
  have e1 : (c == 0x23) = false := by simpa using h1
  have e2 : (c == 0x7B) = false := by simpa using h2
  have e3 : (c == 0x5F) = false := by simpa using h3
  have e4 : (c == 0x3A) = false := by simpa using h4
  simp only [e1, e2, e3, e4, Bool.false_eq_true, ↓reduceIte, Bool.and_false]
  rfl

inductive ReadsSeq (ctx : Ctx) (d : Nat) (dm : Bool) : St → List Val → St → Prop
  | done (st st' : St)
      (h : ∀ f, 2 * st.rest.length + 2 ≤ f → readValue ctx f (d + 1) dm st = .closer st') :
      ReadsSeq ctx d dm st [] st'
  | step (st st1 st' : St) (v : Val) (vs : List Val)
      (h : ∀ f, 2 * st.rest.length + 2 ≤ f → readValue ctx f (d + 1) dm st = .ok v st1)
      (hlt : st1.rest.length < st.rest.length)
      (hr : ReadsSeq ctx d dm st1 vs st') :
      ReadsSeq ctx d dm st (v :: vs) st'

theorem ReadsSeq.blank {ctx : Ctx} {d : Nat} {dm : Bool} {s : Bytes} {cl : List Call} {ws : List Val} {st' : St}
    (tr : Bytes) (ht : Blank tr)
    (h : ReadsSeq ctx d dm { rest := s, calls := cl } ws st') :
    ReadsSeq ctx d dm { rest := tr ++ s, calls := cl } ws st' := by
  cases h with
  | done _ _ h1 => exact .done _ _ (Evals.blank ht h1)
  | step _ st1 _ v vs h1 hlt hr =>
    exact .step _ st1 _ v vs (Evals.blank ht h1) (by rw [List.length_append]; exact Nat.lt_add_left _ hlt) hr

theorem ReadsSeq.vok {ctx : Ctx} {d : Nat} {dm : Bool} {st st' : St} {ws : List Val}
    (hreg : ctx.opts.registry = none) (hd : d + 1 ≤ Tables.maxNestingDepth)
    (h : ReadsSeq ctx d dm st ws st') : ∀ w ∈ ws, VOK ctx.cfg (d + 1) w := by
  induction h with
  | done => intro w hw; cases hw
  | step st st1 st' v vs h1 _ _ ih =>
    intro w hw
    rcases List.mem_cons.mp hw with rfl | hw
    · exact readValue_inv ctx hreg _ (d + 1) dm st st1 w hd (h1 _ (Nat.le_refl _))
    · exact ih w hw

theorem readSeq_of_ReadsSeq {ctx : Ctx} {d : Nat} {dm : Bool} {st st' : St} {ws : List Val}
    {kind start : Nat} (h : ReadsSeq ctx d dm st ws st') :
    ∀ (acc : List Val) {r : Res},
      (∀ R stc, R (.v (d + 1) dm stc) = .closer st' →
        StepRel ctx R (.s d dm kind start stc (ws.reverse ++ acc)) r) →
      Evals ctx (.s d dm kind start st acc) r := by
  induction h with
  | done st st' h1 => exact fun acc r hcl => Evals.rule (c1 := .v (d + 1) dm st) h1 fun R hv => hcl R st hv
  | step st st1 st' v vs h1 hlt _ ih =>
    intro acc r hcl
    refine Evals.rule₂ (c1 := .v (d + 1) dm st) h1 (ih (v :: acc) fun R stc hv => ?_) fun R a b => .sNext a b
    have := hcl R stc hv
    rwa [List.reverse_cons, List.append_assoc] at this

theorem map_qualV_none (ks : List Val) : ks.map (qualifyNs none) = ks := List.map_id'' (fun _ => rfl) ks

theorem readMap_of_ReadsSeq {ctx : Ctx} {d : Nat} {dm : Bool} {st' : St} (start : Nat) (ns : Option Bytes) :
    ∀ (ks vs : List Val), ks.length = vs.length → ∀ (st : St),
      ReadsSeq ctx d dm st (interleaveKV ks vs) st' →
      ∀ (aks avs : List Val) {r : Res},
        (∀ R stc, R (.v (d + 1) dm stc) = .closer st' →
          StepRel ctx R (.m d dm start ns stc ((ks.map (qualifyNs ns)).reverse ++ aks) (vs.reverse ++ avs)) r) →
        Evals ctx (.m d dm start ns st aks avs) r := by
  intro ks
  induction ks with
  | nil =>
    intro vs hl st h aks avs r hcl
    cases vs with
    | cons _ _ => cases hl
    | nil =>
      cases h with
      | done _ _ h1 => exact Evals.rule (c1 := .v (d + 1) dm st) h1 fun R hv => hcl R st hv
  | cons k ks ih =>
    intro vs hl st h aks avs r hcl
    cases vs with
    | nil => cases hl
    | cons v vs =>
      have hl' : ks.length = vs.length := by simpa using hl
      have hi : interleaveKV (k :: ks) (v :: vs) = k :: v :: interleaveKV ks vs := rfl
      rw [hi] at h
      cases h with
      | step _ st1 _ _ _ h1 hlt1 hr1 =>
        cases hr1 with
        | step _ st2 _ _ _ h2 hlt2 hr2 =>
          refine Evals.rule₃ (c1 := .v (d + 1) dm st) (c2 := .v (d + 1) dm st1) h1 h2
            (ih vs hl' st2 hr2 (qualifyNs ns k :: aks) (v :: avs) fun R stc hv => ?_) fun R a b c => .mNext a b c
          have := hcl R stc hv
          rwa [List.map_cons, List.reverse_cons, List.append_assoc, List.reverse_cons, List.append_assoc] at this

theorem interleave_split (g : Val → Val) : ∀ (ks vs : List Val), ks.length = vs.length → ∀ (ws : List Val),
    ws.map g = interleaveKV ks vs →
    ∃ ks' vs', ws = interleaveKV ks' vs' ∧ ks'.map g = ks ∧ vs'.map g = vs ∧ ks'.length = vs'.length
  | [], [], _, [], _ => ⟨[], [], rfl, rfl, rfl, rfl⟩
  | [], [], _, _ :: _, h => nomatch h
  | k :: ks, v :: vs, hl, ws, h => by
    have hi : interleaveKV (k :: ks) (v :: vs) = k :: v :: interleaveKV ks vs := rfl
    rw [hi] at h
    match ws, h with
    | w1 :: w2 :: ws, h =>
      rw [List.map_cons, List.map_cons] at h
      injection h with e1 h
      injection h with e2 h
      obtain ⟨ks', vs', e, hk, hv, hlen⟩ := interleave_split g ks vs (Nat.succ.inj hl) ws h
      exact ⟨w1 :: ks', w2 :: vs', by rw [e]; rfl, by rw [List.map_cons, e1, hk], by rw [List.map_cons, e2, hv],
        congrArg Nat.succ hlen⟩

theorem mem_interleave_left : ∀ (ks vs : List Val), ks.length = vs.length → ∀ x ∈ ks, x ∈ interleaveKV ks vs := by
  intro ks
  induction ks with
  | nil => intro vs _ x hx; cases hx
  | cons k ks ih =>
    intro vs hl x hx
    cases vs with
    | nil => cases hl
    | cons v vs =>
      show x ∈ k :: v :: interleaveKV ks vs
      rcases List.mem_cons.mp hx with rfl | hx
      · exact List.mem_cons_self
      · exact List.mem_cons_of_mem _ (List.mem_cons_of_mem _ (ih vs (by simpa using hl) x hx))

def SeqGoal (cfg : Cfg) (opts : Opts) (d : Nat) (xs : List Val) (body : Bytes) : Prop :=
  ∀ (dm : Bool) (c : UInt8) (rest : Bytes) (cl : List Call), IsCloser c →
    ∃ ws, stripL ws = xs ∧
      ReadsSeq { cfg := cfg, opts := opts } d dm { rest := body ++ c :: rest, calls := cl } ws
        { rest := c :: rest, calls := cl }

theorem ReadsSeq.closer (ctx : Ctx) (d : Nat) (dm : Bool) (c : UInt8) (rest : Bytes) (cl : List Call)
    (hc : IsCloser c) :
    ReadsSeq ctx d dm { rest := c :: rest, calls := cl } [] { rest := c :: rest, calls := cl } :=
  .done _ _ (Evals.intro (c := .v (d + 1) dm _) 0 fun f _ => closer_inside ctx f d dm c rest cl hc)

theorem ReadsSeq.cons_of_readsAs {ctx : Ctx} {d : Nat} {P : Val → Prop} {s r : Bytes}
    (h : ReadsAs ctx (d + 1) P s r) (dm : Bool) (cl : List Call) {ws : List Val} {st' : St}
    (hr : ReadsSeq ctx d dm { rest := r, calls := cl } ws st') :
    ∃ v, P v ∧ ReadsSeq ctx d dm { rest := s ++ r, calls := cl } (v :: ws) st' := by
  obtain ⟨v, hs, hv⟩ := h dm cl
  refine ⟨v, hs, .step _ { rest := r, calls := cl } _ v ws hv ?_ hr⟩
  have := List.length_pos_iff.mpr h.ne_nil
  show r.length < (s ++ r).length
  rw [List.length_append]
  omega

theorem opener_append (o : UInt8) (body : Bytes) (c : UInt8) (rest : Bytes) :
    (o :: (body ++ [c])) ++ rest = o :: (body ++ c :: rest) := by
  simp

section
variable {ctx : Ctx} {d : Nat} {dm : Bool} {body rest : Bytes} {cl : List Call}

theorem readValue_list_of_body {ws : List Val} (hd : d < Tables.maxNestingDepth)
    (hr : ReadsSeq ctx d dm { rest := body ++ 0x29 :: rest, calls := cl } ws { rest := 0x29 :: rest, calls := cl }) :
    Evals ctx (.v d dm { rest := 0x28 :: (body ++ 0x29 :: rest), calls := cl })
      (.ok (.list (mkHdr ((body ++ 0x29 :: rest).length + 1) rest.length) none ws) { rest := rest, calls := cl }) := by
  refine (readSeq_of_ReadsSeq hr [] fun R stc hv => ?_).of_eq fun f => readValue_listOpen _ f d dm _ cl hd
  rw [List.append_nil]
  have := StepRel.sList (ctx := ctx) (kind := 0) (start := (body ++ 0x29 :: rest).length + 1) (acc := ws.reverse) hv rfl rfl
  rwa [List.reverse_reverse] at this

theorem readValue_vec_of_body {ws : List Val} (hd : d < Tables.maxNestingDepth)
    (hr : ReadsSeq ctx d dm { rest := body ++ 0x5D :: rest, calls := cl } ws { rest := 0x5D :: rest, calls := cl }) :
    Evals ctx (.v d dm { rest := 0x5B :: (body ++ 0x5D :: rest), calls := cl })
      (.ok (.vec (mkHdr ((body ++ 0x5D :: rest).length + 1) rest.length) none ws) { rest := rest, calls := cl }) := by
  refine (readSeq_of_ReadsSeq hr [] fun R stc hv => ?_).of_eq fun f => readValue_vecOpen _ f d dm _ cl hd
  rw [List.append_nil]
  have := StepRel.sVec (ctx := ctx) (kind := 1) (start := (body ++ 0x5D :: rest).length + 1) (acc := ws.reverse) hv rfl rfl
  rwa [List.reverse_reverse] at this

theorem readValue_set_of_body {ws : List Val} (hreg : ctx.opts.registry = none) (hd : d < Tables.maxNestingDepth)
    (hr : ReadsSeq ctx d dm { rest := body ++ 0x7D :: rest, calls := cl } ws { rest := 0x7D :: rest, calls := cl })
    (hpw : pairwiseDistinct ctx.cfg ws) :
    Evals ctx (.v d dm { rest := 0x23 :: 0x7B :: (body ++ 0x7D :: rest), calls := cl })
      (.ok (.set (mkHdr ((body ++ 0x7D :: rest).length + 2) rest.length) none (hasDuplicates ctx.cfg ws).2)
        { rest := rest, calls := cl }) := by
  obtain ⟨h1, -, -, -, -⟩ := hasDuplicates_iff ctx.cfg ws (Elems_of_VOK (hr.vok hreg hd))
  refine (readSeq_of_ReadsSeq hr [] fun R stc hv => ?_).of_eq fun f => readValue_setOpen _ f d dm _ cl hd
  rw [List.append_nil]
  have := StepRel.sSet (ctx := ctx) (kind := 2) (start := (body ++ 0x7D :: rest).length + 2) (acc := ws.reverse) hv rfl
    (by decide) (by decide) (by rw [List.reverse_reverse]; exact h1.mpr hpw)
  rwa [List.reverse_reverse] at this

theorem readMap_of_body (start : Nat) (ns : Option Bytes) (ks vs : List Val) (hl : ks.length = vs.length)
    (hr : ReadsSeq ctx d dm { rest := body ++ 0x7D :: rest, calls := cl } (interleaveKV ks vs)
      { rest := 0x7D :: rest, calls := cl })
    (hel : Elems ctx.cfg (ks.map (qualifyNs ns))) (hpw : pairwiseDistinct ctx.cfg (ks.map (qualifyNs ns))) :
    Evals ctx (.m d dm start ns { rest := body ++ 0x7D :: rest, calls := cl } [] [])
      (.ok (.map (mkHdr start rest.length) none (hasDuplicates ctx.cfg (ks.map (qualifyNs ns))).2 vs)
        { rest := rest, calls := cl }) := by
  obtain ⟨h1, -, -, -, -⟩ := hasDuplicates_iff ctx.cfg (ks.map (qualifyNs ns)) hel
  refine readMap_of_ReadsSeq start ns ks vs hl _ hr [] [] fun R stc hv => ?_
  rw [List.append_nil, List.append_nil]
  have := StepRel.mOk (ctx := ctx) (start := start) (ns := ns) (ks := (ks.map (qualifyNs ns)).reverse) (vs := vs.reverse) hv rfl
    (by rw [List.reverse_reverse]; exact h1.mpr hpw)
  rwa [List.reverse_reverse, List.reverse_reverse] at this

end

theorem tagWs_delim {c : UInt8} (h : tagWs c = true) : isDelim c = true := by
  simp only [tagWs, Bool.or_eq_true, beq_iff_eq] at h
  rcases h with (((rfl | rfl) | rfl) | rfl) | rfl <;> decide +kernel

theorem readIdentifier_mdNone {ctx : Ctx} {st st' : St} {v : Val}
    (h : readIdentifier ctx st = .ok v st') : v.md = none :=
  isLeaf_md ((readIdentifier_leafRes ctx st).ok_leaf h).1

/-- what the dispatcher and `readTagged` test of a tag -/
theorem tag_facts (ctx : Ctx) (tg : Bytes) (ns : Option Bytes) (nm : Bytes) (r : Bytes) (cl : List Call)
    (hl : IdentLex tg) (hden : IdentDenotes tg (.sym hdr0 none ns nm)) (hu : tg.head? ≠ some 0x5F) (hsep : DelimStart r) :
    ∃ c0 tg', tg = c0 :: tg' ∧ c0 ≠ 0x23 ∧ c0 ≠ 0x7B ∧ c0 ≠ 0x5F ∧ c0 ≠ 0x3A ∧ tagWs c0 = false ∧
      ∃ h ns' nm', readIdentifier ctx { rest := tg ++ r, calls := cl } = .ok (.sym h none ns' nm') { rest := r, calls := cl } := by
  cases tg with
  | nil => exact absurd rfl hl.1
  | cons c0 tg' =>
    have hc0 : isDelim c0 = false := hl.2.1 c0 (by simp)
    have h4 : c0 ≠ 0x3A := by
      intro he
      subst he
      rcases hden with ⟨e, -⟩ | ⟨e, -⟩ | ⟨e, -⟩ | ⟨body, ns', nm', -, -, -, -, -, e⟩ | ⟨e, -⟩
      · rw [nil_bytes] at e; cases e
      · rw [true_bytes] at e; cases e
      · rw [false_bytes] at e; cases e
      · cases e
      · exact e rfl
    refine ⟨c0, tg', rfl, fun he => ?_, fun he => ?_, fun he => hu (by rw [he]; rfl), h4,
      Bool.eq_false_iff.mpr fun hw => Bool.noConfusion (hc0.symm.trans (tagWs_delim hw)), ?_⟩
    · rw [he] at hc0; revert hc0; decide +kernel
    · rw [he] at hc0; revert hc0; decide +kernel
    · obtain ⟨tv, htv, hstv⟩ := readIdentifier_complete ctx (c0 :: tg') r cl _ hl hsep hden
      cases tv with
      | sym h md ns' nm' =>
        have : md = none := readIdentifier_mdNone htv
        subst this
        exact ⟨h, ns', nm', htv⟩
      | _ => simp [strip] at hstv

/-- a tag in front of `x`: whichever rule of `readTagged` fires on the answer at `x` (`rule`), `readValue` at
    `#tag x` answers the same -/
theorem evals_tag {ctx : Ctx} {d : Nat} {dm : Bool} {tg : Bytes} {ns : Option Bytes} {nm x : Bytes} {cl : List Call}
    {r1 r2 : Res} (hd : d < Tables.maxNestingDepth) (hl : IdentLex tg) (hden : IdentDenotes tg (.sym hdr0 none ns nm))
    (hu : tg.head? ≠ some 0x5F) (hsep : DelimStart x)
    (h : Evals ctx (.v (d + 1) dm { rest := x, calls := cl }) r1)
    (rule : ∀ R c t hh ns' nm', tg ++ x = c :: t → tagWs c = false →
      readIdentifier ctx { rest := tg ++ x, calls := cl } = .ok (.sym hh none ns' nm') { rest := x, calls := cl } →
      R (.v (d + 1) dm { rest := x, calls := cl }) = r1 →
      StepRel ctx R (.t d dm ((tg ++ x).length + 1) { rest := tg ++ x, calls := cl }) r2) :
    Evals ctx (.v d dm { rest := 0x23 :: (tg ++ x), calls := cl }) r2 := by
  obtain ⟨c0, tg', rfl, h1, h2, h3, h4, h5, hh, ns', nm', hsym⟩ := tag_facts ctx tg ns nm x cl hl hden hu hsep
  exact (h.rule fun R hv => rule R c0 _ hh ns' nm' rfl h5 hsym hv).of_eq
    fun f => readValue_tagOpen _ f d dm c0 _ cl hd h1 h2 h3 h4

end Edn.Proofs.Cmpl

namespace Edn.Proofs.CmplX
open Edn.Model Edn.Spec Edn.Generated Edn.Proofs Edn.Proofs.Cmpl Edn.Proofs.SndX

/-- in every context, `readValue` inside a collection at depth `d` reads through `tr` and answers
    "closing delimiter" in front of `after` -/
def TrailRX (cfg : Cfg) (opts : Opts) (d : Nat) (tr after : Bytes) : Prop :=
  ∀ (dm : Bool) (cl : List Call),
    Evals { cfg := cfg, opts := opts } (.v (d + 1) dm { rest := tr ++ after, calls := cl }) (.closer { rest := after, calls := cl })

theorem readValue_metaOpen (ctx : Ctx) (hclj : ctx.cfg.clj = true) (f d : Nat) (dm : Bool) (cs : Bytes) (cl : List Call)
    (hd : d < Tables.maxNestingDepth) :
    readValue ctx (f + 1) d dm { rest := 0x5E :: cs, calls := cl } =
      readMeta ctx f d dm (cs.length + 1) { rest := cs, calls := cl } := by
  have hdisp : dispatch ctx.cfg 0x5E = .metadata := (dispX_metadata_iff 0x5E).mpr ⟨hclj, rfl⟩
  have hp : isPreWs 0x5E = false := by decide +kernel
  rw [readValue_at ctx f d dm _ cs cl hp]
  simp only [route, hdisp, not_tooDeep hd, Bool.false_eq_true, if_false]
  rfl

theorem readValue_nsOpen (ctx : Ctx) (hclj : ctx.cfg.clj = true) (f d : Nat) (dm : Bool) (cs : Bytes) (cl : List Call)
    (hd : d < Tables.maxNestingDepth) :
    readValue ctx (f + 1) d dm { rest := 0x23 :: 0x3A :: cs, calls := cl } =
      readNsMap ctx f d dm (cs.length + 2) { rest := 0x3A :: cs, calls := cl } := by
  have hp : isPreWs 0x23 = false := by decide +kernel
  have h1 : ((0x3A : UInt8) == 0x23) = false := by decide
  have h2 : ((0x3A : UInt8) == 0x7B) = false := by decide
  have h3 : ((0x3A : UInt8) == 0x5F) = false := by decide
  rw [readValue_at ctx f d dm _ _ cl hp]
  simp only [route, dispatch_hash, h1, h2, h3, not_tooDeep hd, hclj, BEq.rfl, Bool.and_self, Bool.false_eq_true, if_false, if_true]
  rfl

theorem evals_meta {ctx : Ctx} {d : Nat} {dm : Bool} (hclj : ctx.cfg.clj = true) {x : Bytes} {cl : List Call} {r1 : Res}
    (hd : d < Tables.maxNestingDepth) (h : Evals ctx (.me d dm (x.length + 1) { rest := x, calls := cl }) r1) :
    Evals ctx (.v d dm { rest := 0x5E :: x, calls := cl }) r1 :=
  h.of_eq fun f => readValue_metaOpen _ hclj f d dm x cl hd

theorem evals_ns {ctx : Ctx} {d : Nat} {dm : Bool} (hclj : ctx.cfg.clj = true) {cs : Bytes} {cl : List Call} {r1 : Res}
    (hd : d < Tables.maxNestingDepth) (h : Evals ctx (.n d dm (cs.length + 2) { rest := 0x3A :: cs, calls := cl }) r1) :
    Evals ctx (.v d dm { rest := 0x23 :: 0x3A :: cs, calls := cl }) r1 :=
  h.of_eq fun f => readValue_nsOpen _ hclj f d dm cs cl hd

theorem evals_colon (ctx : Ctx) (d : Nat) (dm : Bool) (cs : Bytes) (cl : List Call) :
    Evals ctx (.v d dm { rest := 0x3A :: cs, calls := cl }) (readIdentifier ctx { rest := 0x3A :: cs, calls := cl }) :=
  .intro 0 fun f _ => readValue_colon ctx f d dm cs cl

theorem evals_kwPrefix (ctx : Ctx) (d : Nat) (dm : Bool) {q x : Bytes} (cl : List Call) {ns : Option Bytes} {nm : Bytes}
    (hl : IdentLex (0x3A :: q)) (hden : IdentDenotes (0x3A :: q) (.kw hdr0 ns nm)) (hsep : DelimStart x) :
    ∃ h, Evals ctx (.v d dm { rest := 0x3A :: (q ++ x), calls := cl }) (.ok (.kw h ns nm) { rest := x, calls := cl }) := by
  obtain ⟨tv, htv, hstv⟩ := readIdentifier_complete ctx (0x3A :: q) x cl _ hl hsep hden
  cases tv <;> simp only [strip, reduceCtorEq] at hstv
  case kw h0 ns0 nm0 =>
    simp only [Val.kw.injEq, true_and] at hstv
    obtain ⟨rfl, rfl⟩ := hstv
    exact ⟨h0, htv ▸ evals_colon ctx d dm _ cl⟩

theorem skipWs_blank_brace {tr : Bytes} (ht : Blank tr) (s : Bytes) : skipWs (tr ++ 0x7B :: s) = 0x7B :: s := by
  rw [skipWs_blank ht _]
  exact skipWs_nonws 0x7B s (by decide +kernel)

theorem delimStart_blank_brace {tr : Bytes} (ht : Blank tr) (s : Bytes) : DelimStart (tr ++ 0x7B :: s) := by
  cases tr with
  | nil => exact .inr ⟨0x7B, s, rfl, by decide +kernel⟩
  | cons c t => exact .inr ⟨c, t ++ 0x7B :: s, rfl, (blank_head_term ht).2⟩

end Edn.Proofs.CmplX
