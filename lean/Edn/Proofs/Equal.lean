/-
  value algebra (properties C07, C08, C09): structural equality is an
  equivalence on well-formed values, hashing is a congruence for it, the cached-hash short
  circuit never changes an answer, the duplicate check decides "two elements are equal"
  for every strategy and every outcome of its scratch allocations (src/uniqueness.c with its
  fall-backs, `hasDuplicatesF`), and lookup finds exactly the entry whose key is equal to the probe.

  All inductions are on the recursion fuel (which is the C code's depth budget); values
  are related to a fuel by `depth v < f`.

  `eqvF_refl` and `Edn.Properties.C07.reflexive` take `WF cfg a`, and it cannot be dropped (`eqvF_refl_needs_WF`): the
  map with keys `[nil, nil]` and values `[true, false]` is not equal to itself (the second entry finds
  the first key and compares `false` with `true`), nor is a map with more keys than values.
-/
import Edn.Model.Uniq
import Edn.Proofs.EqualBody
import Edn.Proofs.Ite

namespace Edn.Proofs
open Edn.Model Edn.Spec

theorem eqvF_fuel (cfg : Cfg) : ∀ (f f' : Nat) (a b : Val), depth a < f → depth a < f' →
    eqvF cfg f a b = eqvF cfg f' a b := by
  intro f
  induction f with
  | zero => intro f' a b h; exact absurd h (Nat.not_lt_zero _)
  | succ f ih =>
    intro f' a b h1 h2
    cases f' with
    | zero => exact absurd h2 (Nat.not_lt_zero _)
    | succ f' =>
      rw [eqvF_succ, eqvF_succ]
      apply body_congr_left
      intro x hx y
      have := depth_child hx
      exact ih f' x y (by omega) (by omega)

theorem Eqv_iff (cfg : Cfg) {a b : Val} {f : Nat} (h : depth a < f) :
    Eqv cfg a b ↔ eqvF cfg f a b = true := by
  unfold Eqv
  rw [eqvF_fuel cfg (depth a + 1) f a b (Nat.lt_succ_self _) h]

def Good (cfg : Cfg) (f : Nat) (x : Val) : Prop := depth x < f ∧ WF cfg x

theorem Good.child {cfg : Cfg} {f : Nat} {a x : Val} (hg : Good cfg (f + 1) a) (hx : x ∈ children a) :
    Good cfg f x := by
  have := depth_child hx
  exact ⟨by have := hg.1; omega, WF_child cfg hg.2 hx⟩

theorem Good.entries {cfg : Cfg} {f : Nat} {h : Hdr} {m : Option Val} {ks vs : List Val}
    (hg : Good cfg (f + 1) (.map h m ks vs)) :
    (∀ x ∈ ks, Good cfg f x) ∧ (∀ x ∈ vs, Good cfg f x) ∧ pairwiseDistinct cfg ks ∧
      ks.length = vs.length :=
  ⟨fun _ hx => hg.child (List.mem_append_left _ hx), fun _ hx => hg.child (List.mem_append_right _ hx),
    (WF_map hg.2).1, (WF_map hg.2).2.1⟩

theorem distinct_at (cfg : Cfg) (f : Nat) (xs : List Val) (hd : pairwiseDistinct cfg xs)
    (hg : ∀ x ∈ xs, depth x < f) : xs.Pairwise (fun a b => ¬ eqvF cfg f a b = true) := by
  refine List.Pairwise.imp_of_mem ?_ hd
  intro a b ha _ h
  rw [← Eqv_iff cfg (hg a ha)]
  exact h.1

/-- A comparison that succeeds at fuel `f` can be turned round, its operands hash alike, and the right
    operand is no deeper than the left, which puts it within the fuel.  The three are one statement:
    for sets and maps each is read off the same matching of the operands one level down. -/
def SymAt (cfg : Cfg) (f : Nat) : Prop :=
  ∀ a b, Good cfg f a → WF cfg b → eqvF cfg f a b = true →
    eqvF cfg f b a = true ∧ hashV cfg a = hashV cfg b ∧ depth b ≤ depth a

def TransAt (cfg : Cfg) (f : Nat) : Prop :=
  ∀ a b c, Good cfg f a → Good cfg f b → Good cfg f c →
    eqvF cfg f a b = true → eqvF cfg f b c = true → eqvF cfg f a c = true

theorem SymAt.good {cfg : Cfg} {f : Nat} (hS : SymAt cfg f) {x y : Val} (gx : Good cfg f x) (wy : WF cfg y)
    (r : eqvF cfg f x y = true) : Good cfg f y :=
  ⟨Nat.lt_of_le_of_lt (hS x y gx wy r).2.2 gx.1, wy⟩

/-- Two operands matched to the same operand `y` on the right are equal to each other; with no
    duplicates on the left this is what `exists_matching` asks for. -/
theorem inj_at {cfg : Cfg} {f : Nat} (hS : SymAt cfg f) (hT : TransAt cfg f) {xs ys : List Val}
    (gx : ∀ x ∈ xs, Good cfg f x) (wy : ∀ y ∈ ys, WF cfg y) :
    ∀ x1 ∈ xs, ∀ x2 ∈ xs, ∀ y ∈ ys, eqvF cfg f x1 y = true → eqvF cfg f x2 y = true →
      eqvF cfg f x1 x2 = true :=
  fun x1 hx1 x2 hx2 y hy r1 r2 => hT x1 y x2 (gx x1 hx1) (hS.good (gx x1 hx1) (wy y hy) r1) (gx x2 hx2) r1
    (hS x2 y (gx x2 hx2) (wy y hy) r2).1

theorem set_matching_at {cfg : Cfg} {f : Nat} (hS : SymAt cfg f) (hT : TransAt cfg f)
    {xs ys : List Val} (gx : ∀ x ∈ xs, Good cfg f x) (hd : pairwiseDistinct cfg xs)
    (wy : ∀ y ∈ ys, WF cfg y) (h : setBody (eqvF cfg f) xs ys = true) :
    ∃ ys', ys'.Perm ys ∧ All₂ (fun x y => eqvF cfg f x y = true) xs ys' := by
  rw [setBody_iff] at h
  exact exists_matching _ (fun x1 x2 => eqvF cfg f x1 x2 = true) xs ys h.1
    (distinct_at cfg f xs hd fun x hx => (gx x hx).1) (inj_at hS hT gx wy) h.2

theorem map_matching_at {cfg : Cfg} {f : Nat} (hS : SymAt cfg f) (hT : TransAt cfg f)
    {ks vs ks' vs' : List Val} (hl : ks.length = vs.length) (hl' : ks'.length = vs'.length)
    (gk : ∀ x ∈ ks, Good cfg f x) (hd : pairwiseDistinct cfg ks) (wk' : ∀ y ∈ ks', WF cfg y)
    (h : mapBody (eqvF cfg f) ks vs ks' vs' = true) :
    ∃ qs, qs.Perm (ks'.zip vs') ∧ All₂ (EntryRel (eqvF cfg f)) (ks.zip vs) qs := by
  obtain ⟨hlk, hall⟩ := mapBody_elim ks vs ks' vs' hl h
  refine exists_matching _ (fun q1 q2 => eqvF cfg f q1.1 q2.1 = true) (ks.zip vs) (ks'.zip vs')
    (by rw [List.length_zip, List.length_zip]; omega)
    (List.pairwise_map.mp (by
      rw [List.map_fst_zip (Nat.le_of_eq hl)]
      exact distinct_at cfg f ks hd fun x hx => (gk x hx).1)) ?_ hall
  intro q1 h1 q2 h2 q' h' r1 r2
  exact inj_at hS hT gk wk' q1.1 (List.of_mem_zip (a := q1.1) (b := q1.2) h1).1 q2.1
    (List.of_mem_zip (a := q2.1) (b := q2.2) h2).1 q'.1
    (List.of_mem_zip (a := q'.1) (b := q'.2) h').1 r1.1 r2.1

theorem pairHashes_map {α : Type} (g : α → UInt64) : ∀ (ks vs : List α),
    pairHashes (ks.map g) (vs.map g) = (ks.zip vs).map fun q => g q.1 ^^^ (g q.2 * fnvPrime) := by
  intro ks
  induction ks with
  | nil => intro vs; rfl
  | cons k ks ih =>
    intro vs
    cases vs with
    | nil => rfl
    | cons v vs =>
      show (g k ^^^ (g v * fnvPrime)) :: pairHashes (ks.map g) (vs.map g) = _
      rw [ih vs]; rfl

theorem body_symm_step (cfg : Cfg) (f : Nat) (hS : SymAt cfg f) (hT : TransAt cfg f) (a b : Val)
    (ha : Good cfg (f + 1) a) (hwb : WF cfg b) (h : body cfg (eqvF cfg f) a b = true) :
    body cfg (eqvF cfg f) b a = true ∧ hashV cfg a = hashV cfg b ∧ depth b ≤ depth a := by
  have seq : ∀ {xs ys : List Val}, (∀ x ∈ xs, Good cfg f x) → (∀ y ∈ ys, WF cfg y) →
      seqBody (eqvF cfg f) xs ys = true →
      seqBody (eqvF cfg f) ys xs = true ∧ hashList cfg xs = hashList cfg ys ∧
        depthL ys + 1 ≤ depthL xs + 1 := by
    intro xs ys gx wy e
    have e := (seqBody_iff xs ys).mp e
    refine ⟨(seqBody_iff ys xs).mpr (e.symm' fun x hx y hy r => (hS x y (gx x hx) (wy y hy) r).1), ?_, ?_⟩
    · rw [hashList_eq_map, hashList_eq_map]
      exact e.map_eq _ _ fun x hx y hy r => (hS x y (gx x hx) (wy y hy) r).2.1
    · refine Nat.succ_le_succ (depthL_le ys _ fun y hy => ?_)
      obtain ⟨x, hx, r⟩ := e.mem_right y hy
      exact Nat.le_trans (hS x y (gx x hx) (wy y hy) r).2.2 (depth_le_depthL hx)
  by_cases hl : leaf a = true
  · obtain ⟨lb, hh, e⟩ := body_leaf_eq cfg _ a b hl h
    exact ⟨by rw [← e (eqvF cfg f) (eqvF cfg f) a]; exact body_leaf_refl cfg _ a hl, hh,
      by rw [leaf_depth b lb]; exact Nat.zero_le _⟩
  cases a <;> try (exact absurd rfl hl)
  case set h1 m1 xs =>
    obtain ⟨h2, m2, ys, rfl, h'⟩ := body_set_inv h
    have gx : ∀ x ∈ xs, Good cfg f x := fun x hx => ha.child hx
    have wy : ∀ y ∈ ys, WF cfg y := fun y hy => WF_child cfg hwb hy
    obtain ⟨ys', hperm, hrel⟩ := set_matching_at hS hT gx (WF_set ha.2).1 wy h'
    -- the matching is onto: what symmetry and the depth bound need of it
    have onto : ∀ y ∈ ys, ∃ x ∈ xs, eqvF cfg f x y = true :=
      fun y hy => hrel.mem_right y (hperm.mem_iff.mpr hy)
    refine ⟨?_, ?_, ?_⟩
    · show setBody (eqvF cfg f) ys xs = true
      rw [setBody_iff] at h' ⊢
      refine ⟨h'.1.symm, fun y hy => ?_⟩
      obtain ⟨x, hx, r⟩ := onto y hy
      exact ⟨x, hx, (hS x y (gx x hx) (wy y hy) r).1⟩
    · have e1 : xs.map (hashV cfg) = ys'.map (hashV cfg) :=
        hrel.map_eq _ _ fun x hx y hy r => (hS x y (gx x hx) (wy y (hperm.mem_iff.mp hy)) r).2.1
      show fnvStep _ (xorAll (hashList cfg xs)) = fnvStep _ (xorAll (hashList cfg ys))
      rw [hashList_eq_map, hashList_eq_map, e1]
      exact congrArg _ (foldl_xor_perm (hperm.map _) 0)
    · refine Nat.succ_le_succ (depthL_le ys _ fun y hy => ?_)
      obtain ⟨x, hx, r⟩ := onto y hy
      exact Nat.le_trans (hS x y (gx x hx) (wy y hy) r).2.2 (depth_le_depthL hx)
  case map h1 m1 ks vs =>
    obtain ⟨h2, m2, ks', vs', rfl, h'⟩ := body_map_inv h
    obtain ⟨gk, gv, hd, hl1⟩ := ha.entries
    have wk' : ∀ x ∈ ks', WF cfg x := fun x hx => WF_child cfg hwb (List.mem_append_left _ hx)
    have wv' : ∀ x ∈ vs', WF cfg x := fun x hx => WF_child cfg hwb (List.mem_append_right _ hx)
    have hl2 := (WF_map hwb).2.1
    obtain ⟨qs, hperm, hrel⟩ := map_matching_at hS hT hl1 hl2 gk hd wk' h'
    -- matched entries: turned round, with the same hashes, the right one no deeper
    have entry : ∀ q ∈ ks.zip vs, ∀ q' ∈ ks'.zip vs', EntryRel (eqvF cfg f) q q' →
        EntryRel (eqvF cfg f) q' q ∧
        (hashV cfg q.1 = hashV cfg q'.1 ∧ depth q'.1 ≤ depthL ks) ∧
        (hashV cfg q.2 = hashV cfg q'.2 ∧ depth q'.2 ≤ depthL vs) := by
      intro q hq q' hq' r
      have m := List.of_mem_zip (a := q.1) (b := q.2) hq
      have m' := List.of_mem_zip (a := q'.1) (b := q'.2) hq'
      have i1 := hS _ _ (gk _ m.1) (wk' _ m'.1) r.1
      have i2 := hS _ _ (gv _ m.2) (wv' _ m'.2) r.2
      exact ⟨⟨i1.1, i2.1⟩, ⟨i1.2.1, Nat.le_trans i1.2.2 (depth_le_depthL m.1)⟩,
        ⟨i2.2.1, Nat.le_trans i2.2.2 (depth_le_depthL m.2)⟩⟩
    have onto : ∀ q' ∈ ks'.zip vs', ∃ q ∈ ks.zip vs, EntryRel (eqvF cfg f) q q' :=
      fun q' hq' => hrel.mem_right q' (hperm.mem_iff.mpr hq')
    have e1 : depthL ks' ≤ depthL ks := by
      refine depthL_le ks' _ fun k' hk' => ?_
      rw [← List.map_fst_zip (Nat.le_of_eq hl2)] at hk'
      obtain ⟨q', hm, rfl⟩ := List.mem_map.mp hk'
      obtain ⟨q, hq, r⟩ := onto q' hm
      exact (entry q hq q' hm r).2.1.2
    have e2 : depthL vs' ≤ depthL vs := by
      refine depthL_le vs' _ fun v' hv' => ?_
      rw [← List.map_snd_zip (Nat.le_of_eq hl2.symm)] at hv'
      obtain ⟨q', hm, rfl⟩ := List.mem_map.mp hv'
      obtain ⟨q, hq, r⟩ := onto q' hm
      exact (entry q hq q' hm r).2.2.2
    have hda : max (depthL ks) (depthL vs) + 1 < f + 1 := ha.1
    have gk' : ∀ k' ∈ ks', Good cfg f k' := fun k' hk' =>
      ⟨by have := depth_le_depthL hk'; omega, wk' k' hk'⟩
    refine ⟨?_, ?_, ?_⟩
    · show mapBody (eqvF cfg f) ks' vs' ks vs = true
      refine mapBody_intro ks' vs' ks vs hl2 (mapBody_elim ks vs ks' vs' hl1 h').1.symm
        (distinct_at cfg f ks hd fun x hx => (gk x hx).1) ?_ ?_
      · intro k' hk' k1 hk1 k2 hk2 r1 r2
        exact hT k1 k' k2 (gk k1 hk1) (gk' k' hk') (gk k2 hk2)
          (hS k' k1 (gk' k' hk') (gk k1 hk1).2 r1).1 r2
      · intro q' hq'
        obtain ⟨q, hq, r⟩ := onto q' hq'
        exact ⟨q, hq, (entry q hq q' hq' r).1⟩
    · have e : (ks.zip vs).map (fun q => hashV cfg q.1 ^^^ (hashV cfg q.2 * fnvPrime))
          = qs.map (fun q => hashV cfg q.1 ^^^ (hashV cfg q.2 * fnvPrime)) := by
        refine hrel.map_eq _ _ fun q hq q' hq' r => ?_
        obtain ⟨-, ⟨i1, -⟩, i2, -⟩ := entry q hq q' (hperm.mem_iff.mp hq') r
        show hashV cfg q.1 ^^^ (hashV cfg q.2 * fnvPrime) = hashV cfg q'.1 ^^^ (hashV cfg q'.2 * fnvPrime)
        rw [i1, i2]
      show fnvStep _ (xorAll (pairHashes (hashList cfg ks) (hashList cfg vs)))
        = fnvStep _ (xorAll (pairHashes (hashList cfg ks') (hashList cfg vs')))
      rw [hashList_eq_map, hashList_eq_map, hashList_eq_map, hashList_eq_map,
        pairHashes_map, pairHashes_map, e]
      exact congrArg _ (foldl_xor_perm (hperm.map _) 0)
    · show max (depthL ks') (depthL vs') + 1 ≤ max (depthL ks) (depthL vs) + 1
      omega
  case tagged h1 m1 t v =>
    obtain ⟨h2, m2, v', rfl, h'⟩ := body_tagged_inv h
    obtain ⟨s, e, d⟩ := hS v v' (ha.child (List.mem_singleton.mpr rfl)) hwb h'
    exact ⟨show (t == t && eqvF cfg f v' v) = true by rw [beq_self_eq_true, Bool.true_and]; exact s,
      show fnvStep (fnvBytes _ t) (hashV cfg v) = fnvStep (fnvBytes _ t) (hashV cfg v') by rw [e],
      Nat.succ_le_succ d⟩
  case list h1 m1 xs =>
    obtain ⟨h2, m2, ys, rfl | rfl, h'⟩ := body_list_inv h <;>
      exact (seq (fun x hx => ha.child hx) (fun y hy => WF_child cfg hwb hy) h').imp id
        (.imp_left (congrArg (List.foldl fnvStep _)))
  case vec h1 m1 xs =>
    obtain ⟨h2, m2, ys, rfl | rfl, h'⟩ := body_vec_inv h <;>
      exact (seq (fun x hx => ha.child hx) (fun y hy => WF_child cfg hwb hy) h').imp id
        (.imp_left (congrArg (List.foldl fnvStep _)))

theorem body_trans_step (cfg : Cfg) (f : Nat) (hS : SymAt cfg f) (hT : TransAt cfg f) (a b c : Val)
    (ha : Good cfg (f + 1) a) (hb : Good cfg (f + 1) b) (hc : Good cfg (f + 1) c)
    (h : body cfg (eqvF cfg f) a b = true) (h' : body cfg (eqvF cfg f) b c = true) :
    body cfg (eqvF cfg f) a c = true := by
  have seq : ∀ {xs ys zs : List Val}, (∀ x ∈ xs, Good cfg f x) → (∀ y ∈ ys, Good cfg f y) →
      (∀ z ∈ zs, Good cfg f z) → seqBody (eqvF cfg f) xs ys = true →
      seqBody (eqvF cfg f) ys zs = true → seqBody (eqvF cfg f) xs zs = true :=
    fun gx gy gz e e' => (seqBody_iff _ _).mpr (((seqBody_iff _ _).mp e).trans' ((seqBody_iff _ _).mp e')
      fun x hx y hy z hz => hT x y z (gx x hx) (gy y hy) (gz z hz))
  by_cases hl : leaf a = true
  · rw [(body_leaf_eq cfg _ a b hl h).2.2 (eqvF cfg f) (eqvF cfg f) c]
    exact h'
  cases a <;> try (exact absurd rfl hl)
  case set h1 m1 xs =>
    obtain ⟨h2, m2, ys, rfl, e⟩ := body_set_inv h
    obtain ⟨h3, m3, zs, rfl, e'⟩ := body_set_inv h'
    show setBody (eqvF cfg f) xs zs = true
    rw [setBody_iff] at e e' ⊢
    refine ⟨e.1.trans e'.1, ?_⟩
    intro x hx
    obtain ⟨y, hy, r1⟩ := e.2 x hx
    obtain ⟨z, hz, r2⟩ := e'.2 y hy
    exact ⟨z, hz, hT x y z (ha.child hx) (hb.child hy) (hc.child hz) r1 r2⟩
  case map h1 m1 ks vs =>
    obtain ⟨h2, m2, ks', vs', rfl, e⟩ := body_map_inv h
    obtain ⟨h3, m3, ks'', vs'', rfl, e'⟩ := body_map_inv h'
    show mapBody (eqvF cfg f) ks vs ks'' vs'' = true
    obtain ⟨gk, gv, -, hl1⟩ := ha.entries
    obtain ⟨gk', gv', -, hl2⟩ := hb.entries
    obtain ⟨gk'', gv'', hd3, -⟩ := hc.entries
    obtain ⟨n1, r1⟩ := mapBody_elim ks vs ks' vs' hl1 e
    obtain ⟨n2, r2⟩ := mapBody_elim ks' vs' ks'' vs'' hl2 e'
    refine mapBody_intro ks vs ks'' vs'' hl1 (n1.trans n2)
      (distinct_at cfg f ks'' hd3 fun x hx => (gk'' x hx).1) ?_ ?_
    · intro k hk k1 hk1 k2 hk2 s1 s2
      exact hT k1 k k2 (gk'' k1 hk1) (gk k hk) (gk'' k2 hk2)
        (hS k k1 (gk k hk) (gk'' k1 hk1).2 s1).1 s2
    · intro q hq
      obtain ⟨q', hq', s1⟩ := r1 q hq
      obtain ⟨q'', hq'', s2⟩ := r2 q' hq'
      have m := List.of_mem_zip (a := q.1) (b := q.2) hq
      have m' := List.of_mem_zip (a := q'.1) (b := q'.2) hq'
      have m'' := List.of_mem_zip (a := q''.1) (b := q''.2) hq''
      exact ⟨q'', hq'', hT _ _ _ (gk _ m.1) (gk' _ m'.1) (gk'' _ m''.1) s1.1 s2.1,
        hT _ _ _ (gv _ m.2) (gv' _ m'.2) (gv'' _ m''.2) s1.2 s2.2⟩
  case tagged h1 m1 t v =>
    obtain ⟨h2, m2, v', rfl, e⟩ := body_tagged_inv h
    obtain ⟨h3, m3, v'', rfl, e'⟩ := body_tagged_inv h'
    show (t == t && eqvF cfg f v v'') = true
    rw [beq_self_eq_true, Bool.true_and]
    exact hT v v' v'' (ha.child (List.mem_singleton.mpr rfl))
      (hb.child (List.mem_singleton.mpr rfl)) (hc.child (List.mem_singleton.mpr rfl)) e e'
  case list h1 m1 xs =>
    obtain ⟨h2, m2, ys, rfl | rfl, e⟩ := body_list_inv h
    · obtain ⟨h3, m3, zs, rfl | rfl, e'⟩ := body_list_inv h' <;>
        exact seq (fun x hx => ha.child hx) (fun y hy => hb.child hy) (fun z hz => hc.child hz) e e'
    · obtain ⟨h3, m3, zs, rfl | rfl, e'⟩ := body_vec_inv h' <;>
        exact seq (fun x hx => ha.child hx) (fun y hy => hb.child hy) (fun z hz => hc.child hz) e e'
  case vec h1 m1 xs =>
    obtain ⟨h2, m2, ys, rfl | rfl, e⟩ := body_vec_inv h
    · obtain ⟨h3, m3, zs, rfl | rfl, e'⟩ := body_list_inv h' <;>
        exact seq (fun x hx => ha.child hx) (fun y hy => hb.child hy) (fun z hz => hc.child hz) e e'
    · obtain ⟨h3, m3, zs, rfl | rfl, e'⟩ := body_vec_inv h' <;>
        exact seq (fun x hx => ha.child hx) (fun y hy => hb.child hy) (fun z hz => hc.child hz) e e'

/-- One induction for all: turning a comparison of sets or maps round at fuel `f + 1` matches the
    operands one to one (`inj_at`), which takes symmetry *and* transitivity at `f`; transitivity of maps
    at `f + 1` turns key comparisons round, which takes symmetry at `f`. -/
theorem symm_trans_at (cfg : Cfg) : ∀ f, SymAt cfg f ∧ TransAt cfg f := by
  intro f
  induction f with
  | zero =>
    exact ⟨fun a _ ha _ _ => absurd ha.1 (Nat.not_lt_zero _),
      fun a _ _ ha _ _ _ _ => absurd ha.1 (Nat.not_lt_zero _)⟩
  | succ f ih =>
    refine ⟨?_, ?_⟩
    · intro a b ha hwb h
      rw [eqvF_succ] at h ⊢
      exact body_symm_step cfg f ih.1 ih.2 a b ha hwb h
    · intro a b c ha hb hc h h'
      rw [eqvF_succ] at h h' ⊢
      exact body_trans_step cfg f ih.1 ih.2 a b c ha hb hc h h'

theorem eqvF_symm (cfg : Cfg) (f : Nat) {a b : Val} (ha : Good cfg f a) (hb : WF cfg b)
    (h : eqvF cfg f a b = true) : eqvF cfg f b a = true :=
  ((symm_trans_at cfg f).1 a b ha hb h).1

theorem eqvF_hash_depth (cfg : Cfg) (f : Nat) (a b : Val) (ha : Good cfg f a) (hb : WF cfg b)
    (h : eqvF cfg f a b = true) : hashV cfg a = hashV cfg b ∧ depth b ≤ depth a :=
  ((symm_trans_at cfg f).1 a b ha hb h).2

theorem eqvF_trans (cfg : Cfg) (f : Nat) : TransAt cfg f := (symm_trans_at cfg f).2

theorem eqvF_refl (cfg : Cfg) : ∀ (f : Nat) (a : Val), Good cfg f a → eqvF cfg f a a = true := by
  intro f
  induction f with
  | zero => intro a ha; exact absurd ha.1 (Nat.not_lt_zero _)
  | succ f ih =>
    intro a ha
    rw [eqvF_succ]
    by_cases hl : leaf a = true
    · exact body_leaf_refl cfg _ a hl
    cases a <;> try (exact absurd rfl hl)
    case set h m xs =>
      exact (setBody_iff xs xs).mpr ⟨rfl, fun x hx => ⟨x, hx, ih x (ha.child hx)⟩⟩
    case map h m ks vs =>
      show mapBody (eqvF cfg f) ks vs ks vs = true
      obtain ⟨gk, gv, hd, hl1⟩ := ha.entries
      refine mapBody_intro ks vs ks vs hl1 rfl (distinct_at cfg f ks hd fun x hx => (gk x hx).1) ?_ ?_
      · intro k hk k1 hk1 k2 hk2 r1 r2
        exact eqvF_trans cfg f k1 k k2 (gk k1 hk1) (gk k hk) (gk k2 hk2)
          (eqvF_symm cfg f (gk k hk) (gk k1 hk1).2 r1) r2
      · intro q hq
        have m := List.of_mem_zip (a := q.1) (b := q.2) hq
        exact ⟨q, hq, ih _ (gk _ m.1), ih _ (gv _ m.2)⟩
    case tagged h m t v =>
      show (t == t && eqvF cfg f v v) = true
      rw [beq_self_eq_true, Bool.true_and]
      exact ih v (ha.child (List.mem_singleton.mpr rfl))
    all_goals
      rename_i h m xs
      exact (seqBody_iff xs xs).mpr (All₂.refl' xs fun x hx => ih x (ha.child hx))

theorem eqvF_refl_needs_WF :
    ¬ ∀ (cfg : Cfg) (f : Nat) (a : Val), depth a < f → eqvF cfg f a a = true := by
  intro h
  have := h Cfg.core 2
    (.map (mkHdr 0 0) none [.nil (mkHdr 0 0), .nil (mkHdr 0 0)]
      [.bool (mkHdr 0 0) true, .bool (mkHdr 0 0) false]) (by decide)
  exact absurd this (by decide)

theorem equalF_eq_eqvF (cfg : Cfg) : ∀ (f : Nat) (a b : Val), Good cfg f a → Good cfg f b →
    cacheOK cfg a = true → cacheOK cfg b = true → equalF cfg f a b = eqvF cfg f a b := by
  intro f
  induction f with
  | zero => intro a b _ _ _ _; rfl
  | succ f ih =>
    intro a b ha hb hca hcb
    have hbody : body cfg (equalF cfg f) a b = body cfg (eqvF cfg f) a b :=
      body_congr cfg a b fun x hx y hy =>
        ih x y (ha.child hx) (hb.child hy) (cacheOK_child cfg hca hx) (cacheOK_child cfg hcb hy)
    rw [equalF_level, hbody, ← eqvF_succ]
    -- where the cache test of `equalF` fires, `eqvF` is false as well
    cases he : eqvF cfg (f + 1) a b with
    | false => rw [ite_self]
    | true =>
      have hh := (eqvF_hash_depth cfg (f + 1) a b ha hb.2 he).1
      have hcc : (a.hdr.hc != 0 && b.hdr.hc != 0 && a.hdr.hc != b.hdr.hc) = false := by
        rcases cacheOK_top cfg hca with h0 | h1
        · rw [h0]; rfl
        · rcases cacheOK_top cfg hcb with h0' | h1'
          · rw [h0', bne_self_eq_false, Bool.and_false, Bool.false_and]
          · rw [h1, h1', hh, bne_self_eq_false, Bool.and_false]
      rw [hcc]; rfl

theorem cacheOf_ne_zero (h : UInt64) : cacheOf h ≠ 0 := by
  unfold cacheOf
  by_cases h0 : (h == 0) = true
  · rw [if_pos h0]; decide
  · rw [if_neg h0]; intro h1; rw [h1] at h0; exact h0 rfl

theorem hashOp_hc (cfg : Cfg) (v : Val) (hc : cacheOK cfg v = true) :
    (hashOp cfg v).2.hdr.hc = cacheOf (hashV cfg v) := by
  rcases hashOp_cases cfg v with ⟨h, e⟩ | ⟨_, e⟩ <;> rw [e]
  · exact (cacheOK_top cfg hc).resolve_left h
  · show (v.setHdr _).hdr.hc = _
    rw [hdr_setHdr]

theorem hashV_hashOp (cfg : Cfg) (v : Val) : hashV cfg (hashOp cfg v).2 = hashV cfg v :=
  Sees.hashV Transp.id cfg (hashOp_sees cfg v)

theorem depth_hashOp (cfg : Cfg) (v : Val) : depth (hashOp cfg v).2 = depth v :=
  Sees.depth Transp.id (hashOp_sees cfg v)

theorem WF_hashOp (cfg c : Cfg) (v : Val) : WF cfg (hashOp c v).2 = WF cfg v := by
  obtain ⟨_, e⟩ := hashOp_cacheOnly c v
  rw [e, WF_setHdr]

theorem cacheOK_hashOp (cfg : Cfg) (v : Val) (h : cacheOK cfg v = true) :
    cacheOK cfg (hashOp cfg v).2 = true := by
  rcases hashOp_cases cfg v with ⟨_, e⟩ | ⟨_, e⟩ <;> rw [e]
  · exact h
  · exact cacheOK_setHdr cfg v _ h (Or.inr rfl)

/- `Eqv` is read at the fuel of its left operand; the right operand of a comparison that succeeds is no
   deeper, so that fuel serves every reading. -/
theorem Eqv_symm (cfg : Cfg) (a b : Val) (ha : WF cfg a) (hb : WF cfg b) : Eqv cfg a b → Eqv cfg b a := fun h =>
  have ⟨s, _, d⟩ := (symm_trans_at cfg _).1 a b ⟨Nat.lt_succ_self _, ha⟩ hb h
  (Eqv_iff cfg (Nat.lt_succ_of_le d)).mpr s

theorem Eqv_trans (cfg : Cfg) (a b c : Val) (ha : WF cfg a) (hb : WF cfg b) (hc : WF cfg c) :
    Eqv cfg a b → Eqv cfg b c → Eqv cfg a c := fun h h' =>
  have db := (eqvF_hash_depth cfg _ a b ⟨Nat.lt_succ_self _, ha⟩ hb h).2
  have dc := (eqvF_hash_depth cfg _ b c ⟨Nat.lt_succ_self _, hb⟩ hc h').2
  eqvF_trans cfg _ a b c ⟨Nat.lt_succ_self _, ha⟩ ⟨Nat.lt_succ_of_le db, hb⟩
    ⟨Nat.lt_succ_of_le (Nat.le_trans dc db), hc⟩ h ((Eqv_iff cfg (Nat.lt_succ_of_le db)).mp h')

theorem Eqv_hash (cfg : Cfg) (a b : Val) (ha : WF cfg a) (hb : WF cfg b) :
    Eqv cfg a b → hashV cfg a = hashV cfg b :=
  fun h => (eqvF_hash_depth cfg _ a b ⟨Nat.lt_succ_self _, ha⟩ hb h).1

/-- the model's `edn_value_equal` decides `Eqv` for all values within the depth the reader
    can produce, whatever the (valid) state of the caches -/
theorem equal_iff_Eqv (cfg : Cfg) (a b : Val)
    (hda : depth a < maxDepthFuel) (hdb : depth b < maxDepthFuel)
    (ha : WF cfg a) (hb : WF cfg b) (hca : cacheOK cfg a = true) (hcb : cacheOK cfg b = true) :
    equal cfg a b = true ↔ Eqv cfg a b := by
  unfold equal
  rw [equalF_eq_eqvF cfg maxDepthFuel a b ⟨hda, ha⟩ ⟨hdb, hb⟩ hca hcb]
  exact (Eqv_iff cfg hda).symm

def Elems (cfg : Cfg) (xs : List Val) : Prop :=
  ∀ x ∈ xs, depth x < maxDepthFuel ∧ WF cfg x ∧ cacheOK cfg x = true

theorem Elems.tail {cfg : Cfg} {x : Val} {xs : List Val} (h : Elems cfg (x :: xs)) : Elems cfg xs :=
  fun y hy => h y (List.mem_cons_of_mem _ hy)

theorem Elems.equal_iff {cfg : Cfg} {xs ys : List Val} (h : Elems cfg xs) (h' : Elems cfg ys)
    {x y : Val} (hx : x ∈ xs) (hy : y ∈ ys) : equal cfg x y = true ↔ Eqv cfg x y :=
  equal_iff_Eqv cfg x y (h x hx).1 (h' y hy).1 (h x hx).2.1 (h' y hy).2.1 (h x hx).2.2 (h' y hy).2.2

theorem hasDupLinear_iff (cfg : Cfg) (xs : List Val) (h : Elems cfg xs) :
    hasDupLinear cfg xs = false ↔ pairwiseDistinct cfg xs := by
  induction xs with
  | nil => exact ⟨fun _ => List.Pairwise.nil, fun _ => rfl⟩
  | cons x xs ih =>
    show ((xs.any fun y => equal cfg x y) || hasDupLinear cfg xs) = false ↔ _
    unfold pairwiseDistinct
    rw [Bool.or_eq_false_iff, List.any_eq_false, List.pairwise_cons, ih h.tail]
    unfold pairwiseDistinct
    have e : (∀ y ∈ xs, ¬ equal cfg x y = true) ↔ (∀ y ∈ xs, ¬ Eqv cfg x y ∧ ¬ Eqv cfg y x) := by
      constructor
      · intro h1 y hy
        have hxy : ¬ Eqv cfg x y := fun he =>
          h1 y hy ((h.equal_iff h List.mem_cons_self (List.mem_cons_of_mem _ hy)).mpr he)
        exact ⟨hxy, fun he => hxy (Eqv_symm cfg y x (h y (List.mem_cons_of_mem _ hy)).2.1
          (h x List.mem_cons_self).2.1 he)⟩
      · intro h1 y hy he
        exact (h1 y hy).1 ((h.equal_iff h List.mem_cons_self (List.mem_cons_of_mem _ hy)).mp he)
    rw [e]

theorem hasDupHashed_eq_linear (cfg : Cfg) (ys : List Val) (h : Elems cfg ys)
    (hh : ∀ y ∈ ys, y.hdr.hc = cacheOf (hashV cfg y)) :
    hasDupHashed cfg ys = hasDupLinear cfg ys := by
  induction ys with
  | nil => rfl
  | cons x ys ih =>
    show ((ys.any fun y => x.hdr.hc == y.hdr.hc && equal cfg x y) || hasDupHashed cfg ys)
      = ((ys.any fun y => equal cfg x y) || hasDupLinear cfg ys)
    rw [ih h.tail fun y hy => hh y (List.mem_cons_of_mem _ hy)]
    congr 1
    apply any_congr_mem
    intro y hy
    cases he : equal cfg x y with
    | false => rw [Bool.and_false]
    | true =>
      have hm := List.mem_cons_of_mem x hy
      have hE := (h.equal_iff h List.mem_cons_self hm).mp he
      have := Eqv_hash cfg x y (h x List.mem_cons_self).2.1 (h y hm).2.1 hE
      rw [hh x List.mem_cons_self, hh y hm, this, Bool.and_true]
      exact beq_self_eq_true _

theorem Elems_hashOp (cfg : Cfg) (xs : List Val) (h : Elems cfg xs) :
    Elems cfg (xs.map fun x => (hashOp cfg x).2) := by
  intro y hy
  obtain ⟨x, hx, rfl⟩ := List.mem_map.mp hy
  obtain ⟨hd, hw, hc⟩ := h x hx
  exact ⟨by rw [depth_hashOp]; exact hd, by rw [WF_hashOp]; exact hw, cacheOK_hashOp cfg x hc⟩

theorem pairwiseDistinct_hashOp (cfg : Cfg) (xs : List Val) :
    pairwiseDistinct cfg (xs.map fun x => (hashOp cfg x).2) ↔ pairwiseDistinct cfg xs :=
  pairwiseDistinct_map Transp.id (hashOp_sees cfg) cfg xs

theorem depthL_hashOp (cfg : Cfg) (xs : List Val) :
    depthL (xs.map fun x => (hashOp cfg x).2) = depthL xs :=
  depthL_map xs fun x _ => depth_hashOp cfg x

theorem pairwiseDistinct_small (cfg : Cfg) (xs : List Val) (h : xs.length ≤ 1) :
    pairwiseDistinct cfg xs := by
  unfold pairwiseDistinct
  match xs, h with
  | [], _ => exact List.Pairwise.nil
  | [x], _ => exact List.pairwise_singleton _ _
  | _ :: _ :: _, h => simp at h

theorem bool_eq_of_false_iff {a b : Bool} (h : a = false ↔ b = false) : a = b := by
  cases b with
  | false => exact h.mpr rfl
  | true => cases a with
    | true => rfl
    | false => exact (h.mp rfl).symm

/-- What an answer `r` of the duplicate check on `xs` owes: the verdict is "no duplicates" iff the
    elements are pairwise non-equal, and the elements handed back are operands again, as many, as
    deep, and duplicate-free if `xs` was. -/
def DupSpec (cfg : Cfg) (xs : List Val) (r : Bool × List Val) : Prop :=
  (r.1 = false ↔ pairwiseDistinct cfg xs) ∧ Elems cfg r.2 ∧ r.2.length = xs.length ∧
  (pairwiseDistinct cfg xs → pairwiseDistinct cfg r.2) ∧ depthL r.2 = depthL xs

theorem hashedStrategy_spec (cfg : Cfg) (xs : List Val) (h : Elems cfg xs) :
    DupSpec cfg xs (hasDupHashed cfg (xs.map fun x => (hashOp cfg x).2), xs.map fun x => (hashOp cfg x).2) := by
  have hE := Elems_hashOp cfg xs h
  have hh : ∀ y ∈ xs.map (fun x => (hashOp cfg x).2), y.hdr.hc = cacheOf (hashV cfg y) := by
    intro y hy
    obtain ⟨x, hx, rfl⟩ := List.mem_map.mp hy
    rw [hashOp_hc cfg x (h x hx).2.2, hashV_hashOp]
  refine ⟨?_, hE, List.length_map _, (pairwiseDistinct_hashOp cfg xs).mpr, depthL_hashOp cfg xs⟩
  show hasDupHashed cfg _ = false ↔ _
  rw [hasDupHashed_eq_linear cfg _ hE hh, hasDupLinear_iff cfg _ hE, pairwiseDistinct_hashOp cfg xs]

/-- `hasDuplicatesF` answers with one of three strategies, whatever the outcome of its two scratch
    allocations: none (at most one element), the pairwise one, the hash-restricted one on the
    hashed elements.  Thresholds and fall-backs are gone through here only. -/
theorem hasDuplicatesF_ind {C : Bool × List Val → Prop} (cfg : Cfg) (callocOk mallocOk : Bool) (xs : List Val)
    (small : xs.length ≤ 1 → C (false, xs)) (linear : C (hasDupLinear cfg xs, xs))
    (hashed : C (hasDupHashed cfg (xs.map fun x => (hashOp cfg x).2), xs.map fun x => (hashOp cfg x).2)) :
    C (hasDuplicatesF cfg callocOk mallocOk xs) := by
  have sorted : C (hasDupSortedF cfg mallocOk xs) := by
    unfold hasDupSortedF
    cases mallocOk
    · exact linear
    · exact hashed
  unfold hasDuplicatesF
  exact ite_ind small fun _ => ite_ind (fun _ => linear) fun _ => ite_ind (fun _ => sorted) fun _ =>
    ite_ind (fun _ => hashed) fun _ => sorted

/-- with both allocations succeeding this is the function the reader model uses -/
theorem hasDuplicatesF_nofault (cfg : Cfg) (xs : List Val) : hasDuplicatesF cfg true true xs = hasDuplicates cfg xs := by
  unfold hasDuplicatesF hasDuplicates hasDupSortedF
  by_cases h1 : xs.length ≤ 1
  · rw [if_pos h1, if_pos h1]
  · rw [if_neg h1, if_neg h1]
    by_cases h2 : xs.length ≤ Generated.Tables.linearThreshold
    · rw [if_pos h2, if_pos h2]
    · rw [if_neg h2, if_neg h2]
      simp

/-- All the duplicate check does to its elements is to fill cache cells: what does not read that
    cell is the same on the returned elements (by `All₂.map_eq`, `.mem_left`, `.length_eq`). -/
theorem hasDuplicatesF_elems (cfg : Cfg) (c m : Bool) (xs : List Val) :
    All₂ CacheOnly (hasDuplicatesF cfg c m xs).2 xs := by
  have self : All₂ CacheOnly xs xs := All₂.refl' xs fun x _ => .refl x
  have hashed : ∀ (ys : List Val), All₂ CacheOnly (ys.map fun x => (hashOp cfg x).2) ys := by
    intro ys
    induction ys with
    | nil => exact .nil
    | cons y ys ih => exact .cons (hashOp_cacheOnly cfg y) ih
  exact hasDuplicatesF_ind (C := fun r => All₂ CacheOnly r.2 xs) cfg c m xs (fun _ => self) self (hashed xs)

theorem hasDuplicates_elems (cfg : Cfg) (xs : List Val) : All₂ CacheOnly (hasDuplicates cfg xs).2 xs := by
  rw [← hasDuplicatesF_nofault]; exact hasDuplicatesF_elems cfg true true xs

theorem hasDuplicatesF_spec (cfg : Cfg) (c m : Bool) (xs : List Val) (h : Elems cfg xs) :
    DupSpec cfg xs (hasDuplicatesF cfg c m xs) :=
  hasDuplicatesF_ind cfg c m xs
    (fun h1 => ⟨⟨fun _ => pairwiseDistinct_small cfg xs h1, fun _ => rfl⟩, h, rfl, id, rfl⟩)
    ⟨hasDupLinear_iff cfg xs h, h, rfl, id, rfl⟩ (hashedStrategy_spec cfg xs h)

theorem hasDuplicates_iff (cfg : Cfg) (xs : List Val) (h : Elems cfg xs) :
    DupSpec cfg xs (hasDuplicates cfg xs) := by
  rw [← hasDuplicatesF_nofault]; exact hasDuplicatesF_spec cfg true true xs h

/-- duplicate detection: the verdict does not depend on which scratch allocations fail -/
theorem hasDuplicatesF_verdict (cfg : Cfg) (callocOk mallocOk : Bool) (xs : List Val) (h : Elems cfg xs) :
    ((hasDuplicatesF cfg callocOk mallocOk xs).1 = (hasDuplicates cfg xs).1) ∧
    ((hasDuplicatesF cfg callocOk mallocOk xs).1 = false ↔ pairwiseDistinct cfg xs) ∧
    Elems cfg (hasDuplicatesF cfg callocOk mallocOk xs).2 ∧
    (hasDuplicatesF cfg callocOk mallocOk xs).2.length = xs.length := by
  obtain ⟨e1, e2, e3, -, -⟩ := hasDuplicatesF_spec cfg callocOk mallocOk xs h
  exact ⟨bool_eq_of_false_iff (e1.trans (hasDuplicates_iff cfg xs h).1.symm), e1, e2, e3⟩

theorem hasDuplicates_perm (cfg : Cfg) (xs ys : List Val) (h : Elems cfg xs) (hp : xs.Perm ys) :
    (hasDuplicates cfg xs).1 = (hasDuplicates cfg ys).1 := by
  have h' : Elems cfg ys := fun y hy => h y (hp.mem_iff.mpr hy)
  have e : pairwiseDistinct cfg xs ↔ pairwiseDistinct cfg ys :=
    List.Perm.pairwise_iff (fun hxy => ⟨hxy.2, hxy.1⟩) hp
  exact bool_eq_of_false_iff ((hasDuplicates_iff cfg xs h).1.trans (e.trans (hasDuplicates_iff cfg ys h').1.symm))

theorem Elems.children {cfg : Cfg} {a : Val} (hd : depth a < maxDepthFuel) (hw : WF cfg a)
    (hc : cacheOK cfg a = true) : Elems cfg (children a) :=
  fun _ hx => ⟨Nat.lt_trans (depth_child hx) hd, WF_child cfg hw hx, cacheOK_child cfg hc hx⟩

theorem Elems.single {cfg : Cfg} {v : Val} (hd : depth v < maxDepthFuel) (hw : WF cfg v)
    (hc : cacheOK cfg v = true) : Elems cfg [v] :=
  fun x hx => by rw [List.mem_singleton.mp hx]; exact ⟨hd, hw, hc⟩

theorem map_keys_Elems (cfg : Cfg) (h : Hdr) (md : Option Val) (ks vs : List Val)
    (hm : WF cfg (.map h md ks vs)) (hd : depth (.map h md ks vs) < maxDepthFuel)
    (hc : cacheOK cfg (.map h md ks vs) = true) : Elems cfg ks :=
  fun k hk => Elems.children hd hm hc k (List.mem_append_left _ hk)

/-- `edn_map_lookup` is `findKey` with the stored key as the left operand of the comparison -/
theorem mapLookup_go_eq_findKey (cfg : Cfg) (probe : Val) : ∀ (ks vs : List Val),
    mapLookup.go cfg probe ks vs = findKey (fun pr k => equal cfg k pr) probe ks vs
  | [], _ => rfl
  | _ :: _, [] => rfl
  | k :: ks, v :: vs => by
    show (if equal cfg k probe = true then some v else mapLookup.go cfg probe ks vs) =
      if equal cfg k probe = true then some v else findKey _ probe ks vs
    rw [mapLookup_go_eq_findKey cfg probe ks vs]

theorem mapLookup_go_index (cfg : Cfg) (probe : Val) (hP : Elems cfg [probe]) (ks vs : List Val) (i : Nat)
    (hl : ks.length = vs.length) (hd : pairwiseDistinct cfg ks) (hE : Elems cfg ks) (hi : i < ks.length)
    (heq : Eqv cfg ks[i] probe) : mapLookup.go cfg probe ks vs = vs[i]? := by
  have me := List.mem_singleton_self probe
  have wp := (hP probe me).2.1
  have key : ∀ {k}, k ∈ ks → (equal cfg k probe = true ↔ Eqv cfg k probe) := fun hk => hE.equal_iff hP hk me
  rw [mapLookup_go_eq_findKey, List.getElem?_eq_getElem (hl ▸ hi)]
  refine findKey_of_mem probe ks vs ?_ ?_ ks[i] (vs[i]'(hl ▸ hi)) ?_ ((key (List.getElem_mem hi)).mpr heq)
  · exact List.Pairwise.imp_of_mem (fun ha hb h e => h.2 ((hE.equal_iff hE hb ha).mp e)) hd
  · -- two keys equal to the probe are equal to each other
    intro k1 h1 k2 h2 e1 e2
    exact (hE.equal_iff hE h2 h1).mpr (Eqv_trans cfg k2 probe k1 (hE k2 h2).2.1 wp (hE k1 h1).2.1
      ((key h2).mp e2) (Eqv_symm cfg k1 probe (hE k1 h1).2.1 wp ((key h1).mp e1)))
  · rw [← List.getElem_zip (h := by rw [List.length_zip, ← hl, Nat.min_self]; exact hi)]
    exact List.getElem_mem _

theorem mapLookup_go_absent (cfg : Cfg) (probe : Val) (hP : Elems cfg [probe]) (ks vs : List Val) (hl : ks.length = vs.length)
    (hE : Elems cfg ks) (hne : ∀ k ∈ ks, ¬ Eqv cfg k probe) : mapLookup.go cfg probe ks vs = none := by
  rw [mapLookup_go_eq_findKey, findKey_eq_none_iff _ _ ks vs hl]
  exact fun k hk => Bool.eq_false_iff.mpr fun e =>
    hne k hk ((hE.equal_iff hP hk (List.mem_singleton_self probe)).mp e)
end Edn.Proofs
