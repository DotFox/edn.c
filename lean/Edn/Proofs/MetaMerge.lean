/-
  The lemmas of C19's metadata half (its theorems are in `Edn.Properties.C19`), on one merge of a new
  annotation into the metadata map: `keepOld` is a filter on the old keys (`keepOld_spec`, through `keepBy`),
  a lookup through appended and through filtered entries (`findKey_append`, `keepOld_findKey`), `attachMeta`
  by cases on the metadata the target has (`attachMeta_cases`); `AllocSim.El`, `AllocSim.MdOK`: what the merge
  needs of the keys it compares.
-/
import Edn.Proofs.Equal
import Edn.Model.Reader

namespace Edn.Proofs
open Edn.Model Edn.Spec

theorem keepOld_cons (cfg : Cfg) (newKs : List Val) (k v : Val) (ks vs : List Val) :
    keepOld cfg newKs (k :: ks) (v :: vs) =
      if newKs.any (fun nk => equal cfg k nk) then keepOld cfg newKs ks vs
      else (k :: (keepOld cfg newKs ks vs).1, v :: (keepOld cfg newKs ks vs).2) := by
  rw [keepOld]

/-- `keepOld` with the test on the key abstracted -/
def keepBy (drop : Val → Bool) : List Val → List Val → List Val × List Val
  | k :: ks, v :: vs =>
    if drop k then keepBy drop ks vs else (k :: (keepBy drop ks vs).1, v :: (keepBy drop ks vs).2)
  | _, _ => ([], [])

theorem keepOld_eq_keepBy (cfg : Cfg) (nks : List Val) : ∀ (ks vs : List Val),
    keepOld cfg nks ks vs = keepBy (fun k => nks.any fun nk => equal cfg k nk) ks vs
  | [], _ => by rw [keepOld, keepBy] <;> (intros; contradiction)
  | _ :: _, [] => by rw [keepOld, keepBy] <;> (intros; contradiction)
  | k :: ks, v :: vs => by rw [keepOld_cons, keepBy, keepOld_eq_keepBy cfg nks ks vs]

theorem keepBy_rel {R : Val → Val → Prop} {d d' : Val → Bool} {ks ks' : List Val}
    (hk : All₂ R ks ks') (hd : ∀ k ∈ ks, ∀ k' ∈ ks', R k k' → d k = d' k') :
    ∀ {vs vs' : List Val}, All₂ R vs vs' →
      All₂ R (keepBy d ks vs).1 (keepBy d' ks' vs').1 ∧ All₂ R (keepBy d ks vs).2 (keepBy d' ks' vs').2 := by
  induction hk with
  | nil => intro vs vs' _; rw [keepBy, keepBy] <;> first | exact ⟨.nil, .nil⟩ | (intros; contradiction)
  | @cons k k' ks ks' hr _ ih =>
    intro vs vs' hv
    cases hv with
    | nil => rw [keepBy, keepBy] <;> first | exact ⟨.nil, .nil⟩ | (intros; contradiction)
    | @cons v v' vs vs' hrv hv =>
      have i := ih (fun x hx y hy => hd x (List.mem_cons_of_mem _ hx) y (List.mem_cons_of_mem _ hy)) hv
      rw [keepBy, keepBy, ← hd k List.mem_cons_self k' List.mem_cons_self hr]
      cases d k
      · exact ⟨.cons hr i.1, .cons hrv i.2⟩
      · exact i

theorem keepBy_map (g : Val → Val) {d d' : Val → Bool} (ks vs : List Val)
    (hd : ∀ k ∈ ks, d k = d' (g k)) :
    keepBy d' (ks.map g) (vs.map g) = (((keepBy d ks vs).1.map g), ((keepBy d ks vs).2.map g)) := by
  have := keepBy_rel (R := fun x y => y = g x) (d := d) (d' := d') (all₂_map g ks)
    (fun k hk k' _ e => by rw [e]; exact hd k hk) (all₂_map g vs)
  exact Prod.ext (all₂_map_eq this.1) (all₂_map_eq this.2)

theorem keepBy_sublist (d : Val → Bool) (ks vs : List Val) :
    (keepBy d ks vs).1.Sublist ks ∧ (keepBy d ks vs).2.Sublist vs := by
  fun_induction keepBy d ks vs with
  | case1 k ks v vs hd ih => exact ⟨ih.1.cons _, ih.2.cons _⟩
  | case2 k ks v vs hd ih => exact ⟨ih.1.cons_cons _, ih.2.cons_cons _⟩
  | case3 ks vs hne => exact ⟨List.nil_sublist _, List.nil_sublist _⟩

theorem keepBy_spec (d : Val → Bool) (ks vs : List Val) : ks.length = vs.length →
    (keepBy d ks vs).1.length = (keepBy d ks vs).2.length ∧
    (keepBy d ks vs).1 = ks.filter fun k => !d k := by
  fun_induction keepBy d ks vs with
  | case1 k ks v vs hd ih =>
    intro hl
    rw [List.filter_cons, hd]
    exact ih (Nat.succ.inj hl)
  | case2 k ks v vs hd ih =>
    intro hl
    obtain ⟨i1, i2⟩ := ih (Nat.succ.inj hl)
    rw [List.filter_cons, Bool.not_eq_true _ |>.mp hd]
    exact ⟨congrArg (· + 1) i1, congrArg (k :: ·) i2⟩
  | case3 ks vs hne =>
    intro hl
    cases ks with
    | nil => exact ⟨rfl, rfl⟩
    | cons k ks => cases vs with
      | nil => cases hl
      | cons v vs => exact absurd rfl (hne k ks v vs rfl)
theorem findKey_append (p : Val → Val → Bool) (k : Val) (ks2 vs2 : List Val) :
    ∀ (ks vs : List Val), ks.length = vs.length →
    findKey p k (ks ++ ks2) (vs ++ vs2) =
      match findKey p k ks vs with
      | some v => some v
      | none => findKey p k ks2 vs2 := by
  intro ks
  induction ks with
  | nil =>
    intro vs hl
    cases vs with
    | nil => rfl
    | cons v vs => simp at hl
  | cons k' ks ih =>
    intro vs hl
    cases vs with
    | nil => simp at hl
    | cons v' vs =>
      have hl' : ks.length = vs.length := by simpa using hl
      show findKey p k (k' :: (ks ++ ks2)) (v' :: (vs ++ vs2)) = _
      rw [findKey_cons, findKey_cons]
      cases hp : p k k' with
      | true => rfl
      | false => exact ih vs hl'

/-- a changed header (`edn_read_metadata` moves the start of the source range) is invisible to hash, depth
    and equality; `hc` is not used -/
theorem setHdr_transparent (cfg : Cfg) (v : Val) (h : Hdr) (hc : h.hc = v.hdr.hc) :
    hashV cfg (v.setHdr h) = hashV cfg v ∧ depth (v.setHdr h) = depth v ∧
    (∀ f b, eqvF cfg f (v.setHdr h) b = eqvF cfg f v b) ∧ (∀ f b, eqvF cfg f b (v.setHdr h) = eqvF cfg f b v) :=
  Sees.transparent cfg (sees_setHdr v h)

def KeysOK (cfg : Cfg) (ks : List Val) : Prop := Elems cfg ks ∧ pairwiseDistinct cfg ks

theorem keepOld_spec (cfg : Cfg) (newKs ks vs : List Val) (hl : ks.length = vs.length) :
    (keepOld cfg newKs ks vs).1.length = (keepOld cfg newKs ks vs).2.length ∧
    (keepOld cfg newKs ks vs).1 = ks.filter fun k => !newKs.any fun nk => equal cfg k nk := by
  rw [keepOld_eq_keepBy]; exact keepBy_spec _ ks vs hl

theorem findKey_keepBy (p : Val → Val → Bool) (probe : Val) (d : Val → Bool) (ks vs : List Val) :
    (∀ k ∈ ks, d k = true → p probe k = false) →
    findKey p probe (keepBy d ks vs).1 (keepBy d ks vs).2 = findKey p probe ks vs := by
  fun_induction keepBy d ks vs with
  | case1 k ks v vs hd ih =>
    intro h
    rw [findKey_cons, h k List.mem_cons_self hd, if_neg Bool.false_ne_true]
    exact ih fun x hx => h x (List.mem_cons_of_mem _ hx)
  | case2 k ks v vs hd ih =>
    intro h
    rw [findKey_cons, findKey_cons, ih fun x hx => h x (List.mem_cons_of_mem _ hx)]
  | case3 ks vs hne =>
    intro _
    cases ks with
    | nil => rfl
    | cons k ks => cases vs with
      | nil => rfl
      | cons v vs => exact absurd rfl (hne k ks v vs rfl)

theorem keepOld_findKey (cfg : Cfg) (newKs : List Val) (probe : Val) (hn : Elems cfg newKs)
    (hP : Elems cfg [probe]) (hnone : ∀ nk ∈ newKs, equal cfg probe nk = false)
    (ks vs : List Val) (ho : Elems cfg ks) :
    findKey (fun k' k => equal cfg k' k) probe (keepOld cfg newKs ks vs).1 (keepOld cfg newKs ks vs).2
      = findKey (fun k' k => equal cfg k' k) probe ks vs := by
  rw [keepOld_eq_keepBy]
  refine findKey_keepBy _ probe _ ks vs fun k hk hany => ?_
  -- a dropped key equal to the probe would make the probe equal to a new key
  obtain ⟨nk0, hnk0, he0⟩ := List.any_eq_true.mp hany
  cases hpk : equal cfg probe k with
  | false => rfl
  | true =>
    have me := List.mem_singleton_self probe
    have e := Eqv_trans cfg probe k nk0 (hP probe me).2.1 (ho k hk).2.1 (hn nk0 hnk0).2.1
      ((hP.equal_iff ho me hk).mp hpk) ((ho.equal_iff hn hk hnk0).mp he0)
    rw [← hnone nk0 hnk0]
    exact ((hP.equal_iff hn me hnk0).mpr e).symm

theorem keepOld_mem (cfg : Cfg) (nks ks vs : List Val) : ∀ k ∈ (keepOld cfg nks ks vs).1, k ∈ ks := by
  rw [keepOld_eq_keepBy]; exact (keepBy_sublist _ ks vs).1.subset

/-- the metadata map `attachMeta` installs -/
def newMd (cfg : Cfg) (form : Val) (nks nvs : List Val) : Val :=
  match form.md with
  | some (.map h md ks vs) => .map h md (nks ++ (keepOld cfg nks ks vs).1) (nvs ++ (keepOld cfg nks ks vs).2)
  | _ => .map synthHdr none nks nvs

theorem attachMeta_eq (cfg : Cfg) (m form : Val) (nks nvs : List Val) :
    attachMeta cfg m form nks nvs = form.setMd (some (newMd cfg form nks nvs)) := by
  unfold attachMeta newMd
  cases form.md with
  | none => rfl
  | some x => cases x <;> rfl

theorem newMd_cases (cfg : Cfg) (form : Val) (nks nvs : List Val) :
    (∃ h md ks vs, form.md = some (.map h md ks vs) ∧ newMd cfg form nks nvs =
      .map h md (nks ++ (keepOld cfg nks ks vs).1) (nvs ++ (keepOld cfg nks ks vs).2)) ∨
    ((∀ h md ks vs, form.md ≠ some (.map h md ks vs)) ∧
      newMd cfg form nks nvs = .map synthHdr none nks nvs) := by
  unfold newMd
  split
  · next h md ks vs e => exact .inl ⟨h, md, ks, vs, e, rfl⟩
  · next hno => exact .inr ⟨fun h md ks vs e => hno h md ks vs e, rfl⟩

theorem attachMeta_cases (cfg : Cfg) (m form : Val) (nks nvs : List Val) :
    (∃ h md ks vs, form.md = some (.map h md ks vs) ∧ attachMeta cfg m form nks nvs =
      form.setMd (some (.map h md (nks ++ (keepOld cfg nks ks vs).1) (nvs ++ (keepOld cfg nks ks vs).2)))) ∨
    ((∀ h md ks vs, form.md ≠ some (.map h md ks vs)) ∧
      attachMeta cfg m form nks nvs = form.setMd (some (.map synthHdr none nks nvs))) := by
  rw [attachMeta_eq]
  exact (newMd_cases cfg form nks nvs).imp (fun ⟨h, md, ks, vs, e, en⟩ => ⟨h, md, ks, vs, e, by rw [en]⟩)
    fun ⟨hn, en⟩ => ⟨hn, by rw [en]⟩

namespace AllocSim

/-- what the value algebra needs of an operand (the pointwise part of `Elems`) -/
def El (cfg : Cfg) (v : Val) : Prop := depth v < maxDepthFuel ∧ WF cfg v ∧ cacheOK cfg v = true

/-- the metadata merge compares the keys of an attached metadata map, so they must be operands -/
def MdOK (cfg : Cfg) (v : Val) : Prop :=
  ∀ h md ks vs, v.md = some (.map h md ks vs) → ∀ y ∈ ks, El cfg y

theorem MdOK_of_none {cfg : Cfg} {v : Val} (h : v.md = none) : MdOK cfg v := by
  intro h' md ks vs e; rw [h] at e; cases e

theorem MdOK_setHdr {cfg : Cfg} {v : Val} (h : Hdr) (hm : MdOK cfg v) : MdOK cfg (v.setHdr h) := by
  intro h' md ks vs e; rw [md_setHdr] at e; exact hm h' md ks vs e

theorem MdOK_attachMeta {cfg : Cfg} {m form : Val} {nks nvs : List Val} (ht : form.metaTarget = true)
    (hn : ∀ y ∈ nks, El cfg y) (hf : MdOK cfg form) : MdOK cfg (attachMeta cfg m form nks nvs) := by
  intro h' md' ks' vs' e
  rcases attachMeta_cases cfg m form nks nvs with ⟨h, md, ks, vs, hmd, ea⟩ | ⟨-, ea⟩ <;>
    rw [ea, md_setMd _ _ ht] at e <;> cases e
  · intro y hy
    rcases List.mem_append.mp hy with hy | hy
    · exact hn y hy
    · exact hf _ _ _ _ hmd y (keepOld_mem cfg nks _ _ y hy)
  · exact hn

end AllocSim

end Edn.Proofs
