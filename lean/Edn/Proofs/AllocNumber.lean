/-
  `readNumberK` is parametric in what "create the value" means: it and its helpers only ever return
  `fin …`, `bad …` or the result of one another, under conditions that do not look at `fin` and `bad`.
  So two instantiations with related `fin` and `bad` give related results (`readNumberK_rel`).
-/
import Edn.Proofs.AllocBasic

namespace Edn.Proofs.AllocNumber
open Edn.Model Edn.Proofs Edn.Proofs.AllocBasic

section
variable {β γ : Type} (R : β → γ → Prop)

def optRel (o : Option β) (o' : Option γ) : Prop :=
  match o, o' with
  | none, none => True
  | some r, some r' => R r r'
  | _, _ => False

def pairRel (o : Option β × Bytes) (o' : Option γ × Bytes) : Prop := optRel R o.1 o'.1 ∧ o.2 = o'.2

/-- `match radixForm with | some r => r | none => …` in `readNumberK`.  The two `match`es that
    `readNumberK_rel` steps over are addressed by the names Lean gave them, `readNumberK.match_5` here
    and `readNumberK.match_3` in `m3_rel`; on renumbering see `AllocBasic.readNumberK_eq`. -/
theorem m5_rel (o : Option β) (o' : Option γ) (d : Unit → β) (d' : Unit → γ) (ho : optRel R o o') (hd : R (d ()) (d' ())) :
    R (readNumberK.match_5 (fun _ => β) o (fun r => r) d) (readNumberK.match_5 (fun _ => γ) o' (fun r => r) d') := by
  cases o <;> cases o' <;> simp_all [optRel]

/-- `match cljBranch with | (some r, _) => r | (none, s2) => …` in `readNumberK` -/
theorem m3_rel (o : Option β × Bytes) (o' : Option γ × Bytes) (d : Bytes → β) (d' : Bytes → γ)
    (ho : pairRel R o o') (hd : ∀ t, R (d t) (d' t)) :
    R (readNumberK.match_3 (fun _ => β) o (fun r _ => r) d) (readNumberK.match_3 (fun _ => γ) o' (fun r _ => r) d') := by
  rcases o with ⟨_ | r, t⟩ <;> rcases o' with ⟨_ | r', t'⟩ <;> simp_all [pairRel, optRel]

section
variable {cfg : Cfg} {fin : NumVal → Bytes → Bool → β} {bad : Bytes → β}
  {fin' : NumVal → Bytes → Bool → γ} {bad' : Bytes → γ}
  (hf : ∀ v s b, R (fin v s b) (fin' v s b)) (hb : ∀ c, R (bad c) (bad' c))
include hf hb

theorem radixTailK_rel (neg : Bool) (radix : Nat) (allowN : Bool) (ds s : Bytes) :
    R (radixTailK cfg fin bad neg radix allowN ds s) (radixTailK cfg fin' bad' neg radix allowN ds s) := by
  unfold radixTailK
  exact ite_rel (fun _ => hb _) (fun _ => hf _ _ _)

theorem decimalTailK_rel (start : Bytes) (neg hasDec hasExp : Bool) (ds s : Bytes) :
    R (decimalTailK cfg fin bad start neg hasDec hasExp ds s) (decimalTailK cfg fin' bad' start neg hasDec hasExp ds s) := by
  unfold decimalTailK
  have fin2 : ∀ {c : Prop} [Decidable c] {v s b w t d}, R (if c then fin v s b else fin w t d) (if c then fin' v s b else fin' w t d) :=
    ite_rel (fun _ => hf _ _ _) (fun _ => hf _ _ _)
  refine ite_rel (fun _ => hb _) fun _ => ite_rel (fun _ => hf _ _ _) fun _ => ite_rel (fun _ => hf _ _ _) fun _ =>
    ite_rel (fun _ => ?ratio) fun _ => fin2
  cases ratioDenominator (adv s) with
  | error cur => exact hb cur
  | ok s' =>
    dsimp only
    cases parseInt64 cfg (slice ds s) 10 neg <;> cases parseInt64 cfg (slice (adv s) s') 10 false
    · exact hf _ _ _
    · exact fin2
    · exact hf _ _ _
    · exact ite_rel (fun _ => hf _ _ _) fun _ => fin2

theorem exponentPartK_rel (start : Bytes) (neg hasDec : Bool) (ds s : Bytes) :
    R (exponentPartK cfg fin bad start neg hasDec ds s) (exponentPartK cfg fin' bad' start neg hasDec ds s) := by
  unfold exponentPartK
  exact ite_rel (fun _ => hb _) fun _ => decimalTailK_rel R hf hb ..

theorem afterMantissaK_rel (start : Bytes) (neg hasDec : Bool) (ds s : Bytes) :
    R (afterMantissaK cfg fin bad start neg hasDec ds s) (afterMantissaK cfg fin' bad' start neg hasDec ds s) := by
  unfold afterMantissaK
  exact ite_rel (fun _ => ite_rel (fun _ => hb _) fun _ => exponentPartK_rel R hf hb ..)
    fun _ => decimalTailK_rel R hf hb ..

theorem decimalPartK_rel (start : Bytes) (neg : Bool) (ds s : Bytes) :
    R (decimalPartK cfg fin bad start neg ds s) (decimalPartK cfg fin' bad' start neg ds s) := by
  unfold decimalPartK
  exact ite_rel (fun _ => hb _) fun _ => afterMantissaK_rel R hf hb ..

end

/-- The proof follows the text of `readNumberK`, one `ite_rel` for each `if` and one `cases` for each
    `match` on the result of a scanning loop (`split` and `simp` would take the large terms apart). -/
theorem readNumberK_rel (cfg : Cfg) (fin : NumVal → Bytes → Bool → β) (bad : Bytes → β)
    (fin' : NumVal → Bytes → Bool → γ) (bad' : Bytes → γ)
    (hf : ∀ v s b, R (fin v s b) (fin' v s b)) (hb : ∀ c, R (bad c) (bad' c)) (s : Bytes) : R (readNumberK cfg fin bad s) (readNumberK cfg fin' bad' s) := by
  unfold readNumberK
  simp only []
  generalize (if (peek s == 0x2D || peek s == 0x2B) = true then (peek s == 0x2D, adv s) else (false, s)) = ns
  apply m5_rel R
  · -- the radix form `NrDIGITS`
    refine ite_rel (R := optRel R) (fun _ => ?_) fun _ => trivial
    cases List.dropWhile is09 ns.2 with
    | nil => trivial
    | cons r ds =>
      refine ite_rel (R := optRel R) (fun _ => ite_rel (R := optRel R)
        (fun _ => ite_rel (R := optRel R) (fun _ => hb ds) fun _ => ?_) fun _ => hb ns.2) fun _ => trivial
      cases radixDigitsLoop cfg.exp (radixPrefixValue 0 (slice ns.2 (r :: ds))) true (ds.length + 1) ds with
      | error cur => exact hb cur
      | ok s' => exact radixTailK_rel R hf hb ..
  · refine ite_rel (fun _ => ?zero) fun _ => ?nonzero
    case zero =>
      generalize List.dropWhile (· == 0x30) (adv ns.2) = s2
      apply m3_rel R
      · -- hexadecimal, octal, a digit that is neither; without `cfg.clj` a second digit
        have last : ∀ {c : Prop} [Decidable c] {t u : Bytes},
            pairRel R (if c then (some (bad t), u) else (none, u)) (if c then (some (bad' t), u) else (none, u)) :=
          ite_rel (R := pairRel R) (fun _ => ⟨hb _, rfl⟩) fun _ => ⟨trivial, rfl⟩
        refine ite_rel (R := pairRel R)
          (fun _ => ite_rel (R := pairRel R) (fun _ => ite_rel (R := pairRel R) (fun _ => ⟨hb _, rfl⟩) fun _ => ?hex)
            fun _ => ite_rel (R := pairRel R) (fun _ => ?oct) fun _ => last)
          fun _ => last
        case hex =>
          cases radixDigitsLoop cfg.exp 16 false ((adv s2).length + 1) (adv s2) with
          | error cur => exact ⟨hb cur, rfl⟩
          | ok s' => exact ⟨radixTailK_rel R hf hb .., rfl⟩
        case oct =>
          cases radixDigitsLoop cfg.exp 8 false (s2.length + 1) s2 with
          | error cur => exact ⟨hb cur, rfl⟩
          | ok s' => exact ⟨radixTailK_rel R hf hb .., rfl⟩
      · intro t
        refine ite_rel (fun _ => decimalPartK_rel R hf hb ..) fun _ => ite_rel (fun _ => hf _ _ _) fun _ =>
          ite_rel (fun _ => hf _ _ _) fun _ => ite_rel (fun _ => exponentPartK_rel R hf hb ..) fun _ =>
          ite_rel (fun _ => ?ratio) fun _ => hf _ _ _
        cases ratioDenominator (adv t) with
        | error cur => exact hb cur
        | ok s' => exact hf _ _ _
    case nonzero =>
      cases decDigitsLoop cfg.exp (ns.2.length + 1) ns.2 with
      | error cur => exact hb cur
      | ok s1 =>
        exact ite_rel (fun _ => decimalPartK_rel R hf hb ..) fun _ => afterMantissaK_rel R hf hb ..
end

theorem readNumberK_pred {β : Type} (P : β → Prop) (cfg : Cfg) (fin : NumVal → Bytes → Bool → β) (bad : Bytes → β)
    (hf : ∀ v s b, P (fin v s b)) (hb : ∀ c, P (bad c)) (s : Bytes) : P (readNumberK cfg fin bad s) :=
  readNumberK_rel (fun r _ => P r) cfg fin bad fin bad hf hb s

def numRes (ctx : Ctx) (st : St) (o : NumOut) : Res :=
  match o with
  | .ok v rest => .ok (numToVal (mkHdr (ctx.pos st.rest) (ctx.pos rest)) v) { st with rest := rest }
  | .err cur => numErrA ctx st cur

theorem readNumberRes_eq (ctx : Ctx) (st : St) : readNumberRes ctx st = numRes ctx st (readNumber ctx.cfg st.rest) := by
  unfold readNumberRes numRes numErrA
  simp only []
  cases h : readNumber ctx.cfg st.rest <;> rfl

theorem floatHeapA_granted (x : ACtx) (heap : Bool) (a : ASt) (h : x.orc (a.reqs + 1) = false) :
    (floatHeapA x heap a).1 = true := by
  unfold floatHeapA ASt.rawAlloc
  have hr : (a.request x.orc .malloc).1 = true := request_succeeds x.orc .malloc a 0 h (fun e => by cases e)
  cases heap <;> simp [hr]

theorem numCreateA_granted (x : ACtx) (st : St) (a : ASt) (v : NumVal) (p : Bytes) (validate : Bool)
    (h1 : (a.request x.orc .arena).1 = true) (h2 : x.orc (a.reqs + 2) = false) :
    (numCreateA x st a v p validate).1 = numRes x.ctx st (finishNumK v p validate) := by
  have hm := floatHeapA_granted x (numNeedsHeap x.ctx.cfg v (slice st.rest p)) (a.request x.orc .arena).2
    (by rw [request_reqs]; exact h2)
  unfold numCreateA numRes finishNumK finishNum
  simp only [h1, hm]
  cases validate <;> cases numDelimOk p <;> simp

theorem numCreateA_refused (x : ACtx) (st : St) (a : ASt) (v : NumVal) (p : Bytes) (validate : Bool)
    (h1 : (a.request x.orc .arena).1 = false) :
    (numCreateA x st a v p validate).1 = numErrA x.ctx st p := by
  unfold numCreateA
  simp [h1]

theorem readNumberResA_granted (x : ACtx) (st : St) (a : ASt)
    (h1 : (a.request x.orc .arena).1 = true) (h2 : x.orc (a.reqs + 2) = false) :
    (readNumberResA x st a).1 = readNumberRes x.ctx st := by
  rw [readNumberRes_eq, ← readNumberK_eq]
  unfold readNumberResA
  exact readNumberK_rel (fun (r : Res × ASt) (o : NumOut) => r.1 = numRes x.ctx st o) x.ctx.cfg _ _ _ _
    (fun v s b => numCreateA_granted x st a v s b h1 h2) (fun c => rfl) st.rest

theorem readNumberResA_refused (x : ACtx) (st : St) (a : ASt) (h1 : (a.request x.orc .arena).1 = false) :
    ∃ cur, (readNumberResA x st a).1 = numErrA x.ctx st cur := by
  unfold readNumberResA
  apply readNumberK_pred (fun r : Res × ASt => ∃ cur, r.1 = numErrA x.ctx st cur)
  · intro v p validate; exact ⟨p, numCreateA_refused x st a v p validate h1⟩
  · intro cur; exact ⟨cur, rfl⟩

end Edn.Proofs.AllocNumber
