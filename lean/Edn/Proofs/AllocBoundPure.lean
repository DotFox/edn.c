/-
  What the request bound (C02) takes from the reader of Edn.Model.Reader, proved about that reader
  alone (`run_fit`): without a registry every value read fits (`Fit`: named by a position `< N`,
  its string literals decode, when looks are to be free) and has at most two nodes per byte read.
  The bound on the allocation-aware reader gets it through `readValueA_nofault`.
-/
import Edn.Proofs.AllocBoundLook
import Edn.Proofs.Run
import Edn.Proofs.MetaMerge

namespace Edn.Proofs.AllocBound
open Edn.Model Edn.Proofs Edn.Proofs.AllocBasic

theorem fitL_cacheOnly {cfg : Cfg} {N ℓ : Nat} {ys xs : List Val} (h : All₂ CacheOnly ys xs) (g : FitL cfg N ℓ xs) :
    FitL cfg N ℓ ys ∧ szL ys = szL xs := by
  induction h with
  | nil => exact ⟨g, rfl⟩
  | cons h _ ih =>
    obtain ⟨g1, e1⟩ := fit_cacheOnly h g.head
    obtain ⟨g2, e2⟩ := ih g.tail
    exact ⟨.cons g1 g2, by simp only [szL, e1, e2]⟩

theorem good_qualifyKey {cfg : Cfg} {N : Nat} (n : Bytes) (k : Val) (g : Good cfg N k) (hN : 0 < N) :
    Good cfg N (qualifyKey n k) := by
  rcases qualifyKey_cases n k with e | ⟨_, _, e⟩ | ⟨_, _, e⟩ <;> rw [e]
  · exact g
  · exact Good.kw _ _ _ hN
  · exact Good.sym _ _ _ _ hN (fun _ h => by cases h)

theorem sz_qualifyKey (n : Bytes) (k : Val) : sz (qualifyKey n k) ≤ sz k := by
  rcases qualifyKey_cases n k with e | ⟨_, _, e⟩ | ⟨_, _, e⟩ <;> rw [e]
  · exact Nat.le_refl _
  · exact sz_pos k
  · exact sz_pos k

theorem good_metaEntries {cfg : Cfg} {N : Nat} (m : Val) (nks nvs : List Val) (g : Good cfg N m) (hN : 0 < N)
    (h : metaEntries m = some (nks, nvs)) : GoodL cfg N nks ∧ GoodL cfg N nvs := by
  have one : ∀ {v : Val}, Good cfg N v → GoodL cfg N [v] := fun hv _ hy => by cases hy with
    | head => exact hv
    | tail _ h => cases h
  unfold metaEntries at h
  split at h
  · cases h; cases g with | map _ _ _ _ _ _ hk hv => exact ⟨hk, hv⟩
  · cases h; exact ⟨one g, one (Good.bool _ _ hN)⟩
  · cases h; exact ⟨one (Good.kw _ _ _ hN), one g⟩
  · cases h; exact ⟨one (Good.kw _ _ _ hN), one g⟩
  · cases h; exact ⟨one (Good.kw _ _ _ hN), one g⟩
  · cases h

theorem metaEntries_sz (m : Val) (nks nvs : List Val) (h : metaEntries m = some (nks, nvs)) :
    szL nks + szL nvs ≤ sz m + 1 := by
  unfold metaEntries at h
  split at h
  · cases h; simp only [sz]; omega
  · cases h; simp only [szL, sz]; omega
  · cases h; simp only [szL, sz]; omega
  · cases h; simp only [szL, sz]; omega
  · cases h; simp only [szL, sz]; omega
  · cases h

/-- the values the six reader functions return fit and are small; `start` names the collection being read -/
def FitC (cfg : Cfg) (N ℓ : Nat) : Call6 → Res → Prop
  | .v _ _ st, .ok v st' => Fit cfg N ℓ v ∧ sz v + 2 * st'.rest.length ≤ 2 * st.rest.length
  | .s _ _ _ start st acc, .ok v st' => (ℓ = 0 → start < N) → FitL cfg N ℓ acc →
      Fit cfg N ℓ v ∧ sz v + 2 * st'.rest.length ≤ szL acc + 2 * st.rest.length + 2
  | .m _ _ start _ st ks vs, .ok v st' => (ℓ = 0 → start < N) → FitL cfg N ℓ ks → FitL cfg N ℓ vs →
      Fit cfg N ℓ v ∧ sz v + 2 * st'.rest.length ≤ szL ks + szL vs + 2 * st.rest.length + 2
  | .n _ _ start st, .ok v st' | .t _ _ start st, .ok v st' | .me _ _ start st, .ok v st' => (ℓ = 0 → start < N) →
      Fit cfg N ℓ v ∧ sz v + 2 * st'.rest.length ≤ 2 * st.rest.length + 2
  | _, _ => True

/-- `findQuote` is the scanner of `edn_read_string`; its flag says "has escapes" -/
def StrOK (cfg : Cfg) (input : Bytes) : Prop :=
  ∀ r q, (0x22 :: r) <:+ input → findQuote r = some (q, true) →
    (decodeString cfg ((slice r q).length + 1) (slice r q)).isSome = true

/-- a string literal of the input decodes; a text block has no escapes -/
theorem readString_good {ctx : Ctx} {input : Bytes} {N : Nat} (hstr : StrOK ctx.cfg input) {t : Bytes} {calls : List Call}
    {v : Val} {st' : St} (h : readString ctx ⟨0x22 :: t, calls⟩ = .ok v st') (hsuf : (0x22 :: t) <:+ input)
    (hs : v.hdr.s < N) : Good ctx.cfg N v := by
  unfold readString at h
  dsimp only at h
  split at h
  · split at h
    · cases h; exact Good.str _ _ _ hs nofun
    all_goals cases h
  · split at h
    · cases h
    · next q esc hq =>
      cases h
      exact Good.str _ _ _ hs fun he => hstr t q hsuf (he ▸ hq)

theorem good_of_leaf {cfg : Cfg} {N : Nat} {v : Val} (hl : isLeaf v = true) (hs : v.hdr.s < N)
    (hns : isStr v = false) : Good cfg N v := by
  cases v <;> simp only [isLeaf] at hl <;> simp only [Val.hdr] at hs
  case str h d e => cases hns
  case sym h md ns nm =>
    cases md with
    | none => exact Good.sym _ _ _ _ hs (fun _ h => by cases h)
    | some m => cases hl
  all_goals first
    | exact Bool.noConfusion hl
    | (constructor; exact hs)

theorem sz_of_leaf {v : Val} (hl : isLeaf v = true) : sz v = 1 := by
  cases v <;> simp only [isLeaf] at hl <;> try (simp only [sz])
  case sym h md ns nm =>
    cases md with
    | none => simp only [szO]
    | some m => cases hl
  all_goals exact Bool.noConfusion hl

theorem isStr_of_tok {v : Val} (h : isTok v = true) : isStr v = false := by
  cases v <;> first | rfl | cases h

theorem readNumberRes_notStr {ctx : Ctx} {st st' : St} {v : Val} (h : readNumberRes ctx st = .ok v st') :
    isStr v = false := by
  unfold readNumberRes at h
  dsimp only at h
  cases hn : readNumber ctx.cfg st.rest with
  | ok n rest => rw [hn] at h; cases h; cases n <;> rfl
  | err cur => rw [hn] at h; cases h

section
variable {ctx : Ctx} {input : Bytes} {N ℓ : Nat} (hname : ℓ = 0 → input.length < N) (hstr : ℓ = 0 → StrOK ctx.cfg input)
include hname hstr

theorem leaf_fit {st st' : St} {k : Leaf} {v : Val} (hc : LeafCall ctx st (k.read ctx st)) (hsuf : st.rest <:+ input)
    (h22 : k = .string → ∃ t, st.rest = 0x22 :: t) (h : k.read ctx st = .ok v st') :
    Fit ctx.cfg N ℓ v ∧ sz v = 1 := by
  obtain ⟨_, -, hl⟩ := hc.leaf
  have hp := hl.ok_leaf h
  refine ⟨fun h0 => ?_, sz_of_leaf hp.1⟩
  have hs : v.hdr.s < N := by rw [hp.2]; have := hsuf.length_le; have := hname h0; simp only [mkHdr]; omega
  cases k with
  | string =>
    obtain ⟨t, ht⟩ := h22 rfl
    obtain ⟨rest, calls⟩ := st
    subst ht
    exact readString_good (hstr h0) h hsuf hs
  | character => exact good_of_leaf hp.1 hs (isStr_of_tok ((readCharacter_spec ctx st).kind v st' h))
  | symbolic => exact good_of_leaf hp.1 hs (isStr_of_tok ((readSymbolic_spec ctx st).kind v st' h))
  | number => exact good_of_leaf hp.1 hs (readNumberRes_notStr h)
  | identifier => exact good_of_leaf hp.1 hs (isStr_of_tok ((readIdentifier_spec ctx st).kind v st' h))

end

/-- Step 3 of `edn_read_metadata`: the annotated form grew by the new entries and one node at most -/
theorem attachMeta_fit {cfg : Cfg} {N ℓ : Nat} {m form : Val} {nks nvs : List Val} (gf : Fit cfg N ℓ form)
    (gk : FitL cfg N ℓ nks) (gv : FitL cfg N ℓ nvs) (hN : ℓ = 0 → 0 < N) (ht : form.metaTarget = true) :
    Fit cfg N ℓ (attachMeta cfg m form nks nvs) ∧ sz (attachMeta cfg m form nks nvs) ≤ sz form + 1 + szL nks + szL nvs := by
  rcases attachMeta_cases cfg m form nks nvs with ⟨h, md, ks, vs, hmd, e⟩ | ⟨-, e⟩ <;> rw [e]
  · have s := keepBy_sublist (fun k => nks.any fun nk => equal cfg k nk) ks vs
    rw [← keepOld_eq_keepBy] at s
    have hsz := sz_setMd form (some (.map h md (nks ++ (keepOld cfg nks ks vs).1) (nvs ++ (keepOld cfg nks ks vs).2))) ht
    have := szL_sublist s.1; have := szL_sublist s.2
    rw [hmd] at hsz
    simp only [szO, sz, szL_append] at hsz
    refine ⟨fun h0 => (gf h0).setMd _ fun m' hm' => ?_, by omega⟩
    cases hm'
    cases (gf h0).md hmd with
    | map _ _ _ _ hs hmd' hks hvs =>
      exact Good.map _ _ _ _ hs hmd'
        (fun y hy => (List.mem_append.mp hy).elim (gk.good h0 y) fun hy => hks y (s.1.subset hy))
        (fun y hy => (List.mem_append.mp hy).elim (gv.good h0 y) fun hy => hvs y (s.2.subset hy))
  · have hsz := sz_setMd form (some (.map synthHdr none nks nvs)) ht
    simp only [szO, sz] at hsz
    refine ⟨fun h0 => (gf h0).setMd _ fun m' hm' => ?_, by omega⟩
    cases hm'
    exact Good.map _ _ _ _ (hN h0) nofun (gk.good h0) (gv.good h0)

theorem FitC.of_ok {cfg : Cfg} {N ℓ : Nat} {c : Call6} {r : Res}
    (h : ∀ v st', r = .ok v st' → FitC cfg N ℓ c (.ok v st')) : FitC cfg N ℓ c r := by
  cases r with
  | ok v st' => exact h v st' rfl
  | _ => cases c <;> trivial

section
variable {ctx : Ctx} {input : Bytes} {N ℓ : Nat} (hreg : ctx.opts.registry = none) (hname : ℓ = 0 → input.length < N)
  (hstr : ℓ = 0 → StrOK ctx.cfg input)
include hreg hname hstr

theorem FitC.step {f : Nat} (ih : ∀ c : Call6, c.st.rest <:+ input → FitC ctx.cfg N ℓ c (run ctx f c))
    {c : Call6} {r : Res} (h : StepRel ctx (run ctx f) c r) (hsuf : c.st.rest <:+ input) : FitC ctx.cfg N ℓ c r := by
  have val {d dm st v st'} (hs : st.rest <:+ input) (hv : run ctx f (.v d dm st) = .ok v st') :
      (Fit ctx.cfg N ℓ v ∧ sz v + 2 * st'.rest.length ≤ 2 * st.rest.length) ∧ st'.rest <:+ input :=
    ⟨(hv ▸ ih (.v d dm st) hs : FitC ctx.cfg N ℓ (.v d dm st) (.ok v st')), ((readValue_rest_suffix ctx hreg f d dm st st' v hv).1).trans hs⟩
  have into {c' v st'} (h : run ctx f c' = .ok v st') (hs : c'.st.rest <:+ input) : FitC ctx.cfg N ℓ c' (.ok v st') :=
    (h ▸ ih c' hs : FitC ctx.cfg N ℓ c' (.ok v st'))
  have closer {d dm st st'} (hv : run ctx f (.v d dm st) = .closer st') : st'.rest.length ≤ st.rest.length :=
    (hv ▸ run_progress ctx f (.v d dm st) : Progress st (.closer st'))
  have name {n : Nat} (hn : n ≤ input.length) (h0 : ℓ = 0) : n < N := Nat.lt_of_le_of_lt hn (hname h0)
  refine .of_ok fun w sw e => ?_
  cases h with
  | @vLeaf d dm st c cs k hw hrt =>
    have lc := (route_bytes hrt).leafCall ctx st.calls
    have hs : (c :: cs) <:+ st.rest := hw ▸ skipWs_suffix _
    obtain ⟨g, hz⟩ := leaf_fit hname hstr lc (hs.trans hsuf)
      (fun hk => ⟨cs, congrArg (· :: cs) (by subst hk; exact route_bytes hrt)⟩) e
    have hp := lc.progress; rw [e] at hp
    have := hs.length_le
    exact ⟨g, by simp only [Progress] at hp; omega⟩
  | @vSeq d dm st c cs kind s r hw hrt hr =>
    have hs : (c :: cs) <:+ st.rest := hw ▸ skipWs_suffix _
    have hss := (route_bytes hrt).seq_le
    obtain ⟨g, hz⟩ := into (hr.trans e) (((hss.trans (List.suffix_cons c cs)).trans hs).trans hsuf)
      (name (hs.trans hsuf).length_le) FitL.nil
    have := hs.length_le; have := hss.length_le
    exact ⟨g, by simp only [szL, List.length_cons] at *; omega⟩
  | @vMap d dm st c cs r hw hrt hr =>
    have hs : (c :: cs) <:+ st.rest := hw ▸ skipWs_suffix _
    obtain ⟨g, hz⟩ := into (hr.trans e) (((List.suffix_cons c cs).trans hs).trans hsuf)
      (name (hs.trans hsuf).length_le) FitL.nil FitL.nil
    have := hs.length_le
    exact ⟨g, by simp only [szL, List.length_cons] at *; omega⟩
  | @vNsmap d dm st c cs r hw hrt hr | @vTagged d dm st c cs r hw hrt hr | @vMeta d dm st c cs r hw hrt hr =>
    have hs : (c :: cs) <:+ st.rest := hw ▸ skipWs_suffix _
    obtain ⟨g, hz⟩ := into (hr.trans e) (((List.suffix_cons c cs).trans hs).trans hsuf) (name (hs.trans hsuf).length_le)
    have := hs.length_le
    exact ⟨g, by simp only [List.length_cons] at *; omega⟩
  | @vSkipOk d dm st c cs s v st1 r hw hrt hv hr =>
    have hs : (c :: cs) <:+ st.rest := hw ▸ skipWs_suffix _
    have hcs : s <:+ cs := (route_bytes hrt).2.2 ▸ List.suffix_cons _ _
    obtain ⟨⟨-, h1⟩, hs1⟩ := val (st := ⟨s, st.calls⟩) (((hcs.trans (List.suffix_cons c cs)).trans hs).trans hsuf) hv
    obtain ⟨g, hz⟩ := into (hr.trans e) hs1
    have := hs.length_le; have := hcs.length_le
    exact ⟨g, by simp only [List.length_cons] at *; omega⟩
  | @sNext d dm kind start st acc v st' r hv hr =>
    obtain ⟨⟨gv, h1⟩, hs1⟩ := val (st := st) hsuf hv
    intro hn gacc
    obtain ⟨g, hz⟩ := into (hr.trans e) hs1 hn (.cons gv gacc)
    exact ⟨g, by simp only [szL] at hz; omega⟩
  | sList hv hs hk =>
    cases e
    intro hn gacc
    have := closer hv; rw [hs] at this
    exact ⟨fun h0 => Good.list _ _ _ (hn h0) nofun (gacc.reverse.good h0),
      by simp only [sz, szO, szL_reverse, List.length_cons] at *; omega⟩
  | sVec hv hs hk =>
    cases e
    intro hn gacc
    have := closer hv; rw [hs] at this
    exact ⟨fun h0 => Good.vec _ _ _ (hn h0) nofun (gacc.reverse.good h0),
      by simp only [sz, szO, szL_reverse, List.length_cons] at *; omega⟩
  | sSet hv hs =>
    cases e
    intro hn gacc
    have := closer hv; rw [hs] at this
    obtain ⟨g, hz⟩ := fitL_cacheOnly (hasDuplicates_elems ctx.cfg _) gacc.reverse
    exact ⟨fun h0 => Good.set _ _ _ (hn h0) nofun (g.good h0),
      by simp only [sz, szO, hz, szL_reverse, List.length_cons] at *; omega⟩
  | @mNext d dm start ns st ks vs k st' v st'' r hv hv2 hr =>
    obtain ⟨⟨gk, h1⟩, hs1⟩ := val (st := st) hsuf hv
    obtain ⟨⟨gv, h2⟩, hs2⟩ := val hs1 hv2
    intro hn gks gvs
    -- the key as it is kept: rewritten under a namespace prefix, not larger
    have fin : ∀ k', Fit ctx.cfg N ℓ k' → sz k' ≤ sz k → run ctx f (.m d dm start ns st'' (k' :: ks) (v :: vs)) = r →
        Fit ctx.cfg N ℓ w ∧ sz w + 2 * sw.rest.length ≤ szL ks + szL vs + 2 * st.rest.length + 2 := by
      intro k' gk' hk' hr
      obtain ⟨g, hz⟩ := into (hr.trans e) hs2 hn (.cons gk' gks) (.cons gv gvs)
      exact ⟨g, by simp only [szL] at hz; omega⟩
    cases ns with
    | none => exact fin k gk (Nat.le_refl _) hr
    | some n => exact fin _ (fun h0 => good_qualifyKey n k (gk h0) (name (Nat.zero_le _) h0)) (sz_qualifyKey n k) hr
  | @mOk d dm start ns st ks vs st' r hv hs =>
    cases e
    intro hn gks gvs
    have := closer hv; rw [hs] at this
    obtain ⟨g, hz⟩ := fitL_cacheOnly (hasDuplicates_elems ctx.cfg _) gks.reverse
    exact ⟨fun h0 => Good.map _ _ _ _ (hn h0) nofun (g.good h0) (gvs.reverse.good h0),
      by simp only [sz, szO, hz, szL_reverse, List.length_cons] at *; omega⟩
  | @nNext d dm start st h name st' r res hv hw hr =>
    obtain ⟨⟨-, h1⟩, hs1⟩ := val (st := st) hsuf hv
    have hs : (0x7B :: r) <:+ st'.rest := hw ▸ skipWs_suffix _
    intro hn
    obtain ⟨g, hz⟩ := into (hr.trans e) (((List.suffix_cons _ r).trans hs).trans hs1) hn FitL.nil FitL.nil
    have := hs.length_le
    exact ⟨g, by simp only [szL, List.length_cons, sz] at *; omega⟩
  | @tOk d dm start st c t h md ns nm st' v st'' hs hc hr hv =>
    rw [tagOut_none hreg] at e
    cases e
    obtain ⟨⟨gv, h1⟩, -⟩ := val ((readIdentifier_rest_suffix hr).trans hsuf) hv
    have := readIdentifier_progress ctx st; rw [hr] at this
    intro hn
    exact ⟨fun h0 => Good.tagged _ _ _ _ (hn h0) nofun (gv h0), by simp only [sz, szO, Progress] at *; omega⟩
  | @meOk d dm start st m st' p form st'' hv hm hv2 ht =>
    cases e
    obtain ⟨⟨gm, h1⟩, hs1⟩ := val (st := st) hsuf hv
    obtain ⟨⟨gf, h2⟩, -⟩ := val hs1 hv2
    intro hn
    have hN := name (Nat.zero_le _)
    obtain ⟨g, hz⟩ := attachMeta_fit (m := m) gf
      (fun y hy h0 => (good_metaEntries m p.1 p.2 (gm h0) (hN h0) hm).1 y hy)
      (fun y hy h0 => (good_metaEntries m p.1 p.2 (gm h0) (hN h0) hm).2 y hy) hN ht
    have := metaEntries_sz m p.1 p.2 hm
    exact ⟨g.setHdr _ hn, by rw [sz_setHdr]; omega⟩
  | _ => cases e

theorem run_fit (f : Nat) : ∀ c : Call6, c.st.rest <:+ input → FitC ctx.cfg N ℓ c (run ctx f c) :=
  run_ind ctx (P := fun _ R => ∀ c : Call6, c.st.rest <:+ input → FitC ctx.cfg N ℓ c (R c))
    (fun c _ => by cases c <;> trivial) (fun _ ih c hsuf => FitC.step hreg hname hstr ih (step_rel c) hsuf) f

theorem readValue_fit {f d : Nat} {dm : Bool} {st st' : St} {v : Val} (hsuf : st.rest <:+ input)
    (h : readValue ctx f d dm st = .ok v st') :
    (Fit ctx.cfg N ℓ v ∧ sz v + 2 * st'.rest.length ≤ 2 * st.rest.length) ∧ st'.rest <:+ input :=
  ⟨(h ▸ run_fit hreg hname hstr f (.v d dm st) hsuf : FitC ctx.cfg N ℓ (.v d dm st) (.ok v st')),
    (readValue_rest_suffix ctx hreg f d dm st st' v h).1.trans hsuf⟩

end

end Edn.Proofs.AllocBound
