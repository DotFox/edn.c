/-
  C12: every vectorised scanner of the model (block form, following
  the SSE code) equals its byte-at-a-time specification, for inputs of every length.  Beside them,
  what the byte-at-a-time scanners compute: `skipWsScalar_spec` (blanks and comments),
  `findQuoteScalar_some_iff` / `_none_iff` (the closing quote, against the raw contents of the grammar; with
  it the ordinary-literal branch of the string reader, `readString_literal_iff`),
  `lfPositionsScalar_eq` (line feeds), the `hex4?` lemmas.
-/
import Edn.Proofs.Bytes
import Edn.Spec.Grammar

namespace Edn.Proofs
open Edn.Model
open Edn.Spec (Blank RawStr)

theorem block16_some {s blk : Bytes} (h : block16 s = some blk) : blk = s.take 16 ∧ 16 ≤ s.length := by
  unfold block16 at h
  split at h
  · exact ⟨by simpa using h.symm, by assumption⟩
  · simp at h

theorem block16_none {s : Bytes} (h : block16 s = none) : s.length < 16 := by
  unfold block16 at h
  split at h
  · simp at h
  · omega

theorem block16_drop_lt {s blk : Bytes} (h : block16 s = some blk) {f : Nat} (hf : s.length < f + 1) :
    (s.drop 16).length < f := by
  have := (block16_some h).2
  rw [List.length_drop]; omega

theorem skip_block {α : Type} {spec : Bytes → α} {q : UInt8 → Bool}
    (hskip : ∀ pre r : Bytes, pre.all q = true → spec (pre ++ r) = spec r)
    {s blk : Bytes} (hb : block16 s = some blk) (hall : blk.all q = true) : spec (s.drop 16) = spec s := by
  rw [(block16_some hb).1] at hall
  have := hskip _ (s.drop 16) hall
  rw [List.take_append_drop] at this
  exact this.symm

theorem all_not_of_findIdx_none {p : UInt8 → Bool} {l : Bytes} (h : l.findIdx? p = none) :
    l.all (fun c => !p c) = true := by
  rw [List.findIdx?_eq_none_iff] at h
  rw [List.all_eq_true]
  intro c hc
  rw [h c hc]; rfl

theorem take_findIdx_some {p : UInt8 → Bool} :
    ∀ (s : Bytes) (k i : Nat), (s.take k).findIdx? p = some i →
      ∃ pre d r, s = pre ++ d :: r ∧ pre.length = i ∧ pre.all (fun c => !p c) = true ∧ p d = true := by
  intro s
  induction s with
  | nil => intro k i h; simp at h
  | cons c cs ih =>
    intro k i h
    cases k with
    | zero => simp at h
    | succ k =>
      rw [List.take_succ_cons, List.findIdx?_cons] at h
      by_cases hp : p c = true
      · simp only [hp, ↓reduceIte, Option.some.injEq] at h
        exact ⟨[], c, cs, by simp, by simp [← h], by simp, hp⟩
      · simp only [hp, Bool.false_eq_true, ↓reduceIte, Option.map_eq_some_iff] at h
        obtain ⟨j, hj, rfl⟩ := h
        obtain ⟨pre, d, r, hs, hl, ha, hd⟩ := ih k j hj
        refine ⟨c :: pre, d, r, by simp [hs], by simp [hl], ?_, hd⟩
        simp only [List.all_cons, ha, Bool.and_true]
        simpa using hp

/-- movemask/ctz of the C code: `ptr + i` stands on the first lane of the block that satisfies `p` -/
theorem block16_split {p : UInt8 → Bool} {s blk : Bytes} {i : Nat} (hb : block16 s = some blk)
    (hi : blk.findIdx? p = some i) :
    ∃ pre d r, s = pre ++ d :: r ∧ s.drop i = d :: r ∧ pre.all (fun c => !p c) = true ∧ p d = true := by
  rw [(block16_some hb).1] at hi
  obtain ⟨pre, d, r, hs, hl, ha, hd⟩ := take_findIdx_some s 16 i hi
  exact ⟨pre, d, r, hs, by rw [hs, ← hl, List.drop_left], ha, hd⟩

theorem dropWhile_append_all {q : UInt8 → Bool} (pre r : Bytes) (h : pre.all q = true) :
    (pre ++ r).dropWhile q = r.dropWhile q :=
  List.dropWhile_append_of_pos (List.all_eq_true.mp h)

theorem dropWhile_at {q : UInt8 → Bool} (pre : Bytes) (d : UInt8) (r : Bytes)
    (h : pre.all q = true) (hd : q d = false) : (pre ++ d :: r).dropWhile q = d :: r := by
  rw [dropWhile_append_all pre _ h]; simp [hd]

/-- the loop shared by `edn_simd_find_newline_sse` and `edn_simd_scan_digits`: whole blocks while
    no lane satisfies `p`, byte by byte once fewer than 16 bytes remain -/
theorem blockLoop_eq_dropWhile (p : UInt8 → Bool) (F : Nat → Bytes → Bytes)
    (hnil : ∀ f, F (f + 1) [] = [])
    (hcons : ∀ f c cs, F (f + 1) (c :: cs) =
      match block16 (c :: cs) with
      | some blk =>
        match blk.findIdx? p with
        | some i => (c :: cs).drop i
        | none => F f ((c :: cs).drop 16)
      | none => if p c then c :: cs else F f cs) :
    ∀ (f : Nat) (s : Bytes), s.length < f → F f s = s.dropWhile (fun c => !p c) := by
  intro f
  induction f with
  | zero => intro s h; exact absurd h (Nat.not_lt_zero _)
  | succ f ih =>
    intro s h
    cases s with
    | nil => exact hnil f
    | cons c cs =>
      rw [hcons]
      split
      · rename_i blk hb
        split
        · rename_i i hi
          obtain ⟨pre, d, r, hs, hd, ha, hpd⟩ := block16_split hb hi
          rw [hd, hs, dropWhile_at pre d r ha (by rw [hpd]; rfl)]
        · rename_i hn
          rw [ih _ (block16_drop_lt hb h)]
          exact skip_block dropWhile_append_all hb (all_not_of_findIdx_none hn)
      · by_cases hc : p c = true
        · rw [if_pos hc, List.dropWhile_cons_of_neg (by rw [hc]; decide)]
        · rw [if_neg hc, ih _ (Nat.lt_of_succ_lt_succ h), List.dropWhile_cons_of_pos (by simpa using hc)]

theorem findNewlineSimd_eq (f : Nat) (s : Bytes) (h : s.length < f) :
    findNewlineSimd f s = s.dropWhile (fun c => !(c == 0x0A)) :=
  blockLoop_eq_dropWhile (· == 0x0A) findNewlineSimd (fun _ => rfl) (fun _ _ _ => rfl) f s h

/-- inside a comment: up to the first line feed; written with the test the C code makes on the
    byte `edn_simd_find_newline_sse` returns -/
theorem skipWsScalarAux_comment : ∀ (s : Bytes),
    skipWsScalarAux true s =
      match s.dropWhile (fun c => !(c == 0x0A)) with
      | d :: r => if d == 0x0A then skipWsScalarAux false r else skipWsScalarAux false (d :: r)
      | [] => [] := by
  intro s
  induction s with
  | nil => rfl
  | cons c cs ih =>
    show (if c == 0x0A then skipWsScalarAux false cs else skipWsScalarAux true cs) = _
    by_cases hc : (c == 0x0A) = true
    · rw [List.dropWhile_cons_of_neg (by rw [hc]; decide)]
      simp only [hc, ↓reduceIte]
    · rw [if_neg hc, ih, List.dropWhile_cons_of_pos (by simpa using hc)]

theorem skipWsScalarAux_false_cons (c : UInt8) (cs : Bytes) :
    skipWsScalarAux false (c :: cs) =
      if c == 0x3B then skipWsScalarAux true cs
      else if isWs c then skipWsScalarAux false cs else c :: cs := rfl

theorem skipWsScalarAux_prefix (pre r : Bytes)
    (h : pre.all (fun c => isWs c && !(c == 0x3B)) = true) :
    skipWsScalarAux false (pre ++ r) = skipWsScalarAux false r := by
  induction pre with
  | nil => rfl
  | cons c cs ih =>
    simp only [List.all_cons, Bool.and_eq_true, Bool.not_eq_eq_eq_not, Bool.not_true] at h
    rw [List.cons_append, skipWsScalarAux_false_cons, h.1.2, h.1.1, ih h.2]
    rfl

theorem isWs_ne_semi {c : UInt8} (h : isWs c = true) : (c == 0x3B) = false := by
  cases hc : c == 0x3B with
  | false => rfl
  | true => rw [eq_of_beq hc] at h; exact absurd h (by decide)

theorem skipWsScalarAux_body (body r : Bytes) (hb : ∀ b ∈ body, b ≠ 0x0A) :
    skipWsScalarAux true (body ++ 0x0A :: r) = skipWsScalarAux false r := by
  rw [skipWsScalarAux_comment, dropWhile_at body 0x0A r (List.all_eq_true.mpr fun b h => by simpa using hb b h) rfl]
  rfl

theorem skipWsScalarAux_noLf (body : Bytes) (hb : ∀ b ∈ body, b ≠ 0x0A) : skipWsScalarAux true body = [] := by
  rw [skipWsScalarAux_comment, ← List.append_nil body,
    dropWhile_append_all body [] (List.all_eq_true.mpr fun b h => by simpa using hb b h)]
  rfl

/-- the converse of `skipWsScalar_spec` for the prefix: blanks and closed comments are passed -/
theorem skipWsScalar_blank {tr : Bytes} (h : Blank tr) (s : Bytes) : skipWsScalar (tr ++ s) = skipWsScalar s := by
  unfold skipWsScalar
  induction h with
  | nil => rfl
  | ws c t hw _ ih => rw [List.cons_append, skipWsScalarAux_false_cons, isWs_ne_semi hw, hw]; exact ih
  | comment body t hb _ ih =>
    rw [List.cons_append, skipWsScalarAux_false_cons, List.append_assoc, List.cons_append, skipWsScalarAux_body _ _ hb]
    exact ih

theorem skipWsScalar_spec_aux : ∀ (n : Nat) (s : Bytes), s.length ≤ n → ∃ tr rest, Blank tr ∧ s = tr ++ rest ∧
    ((∃ c cs, rest = c :: cs ∧ (c == 0x3B) = false ∧ isWs c = false ∧ skipWsScalar s = rest) ∨
      (skipWsScalar s = [] ∧ (rest = [] ∨ ∃ body, (∀ b ∈ body, b ≠ 0x0A) ∧ rest = 0x3B :: body))) := by
  intro n
  induction n with
  | zero =>
    intro s hs
    obtain rfl := List.eq_nil_of_length_eq_zero (Nat.le_zero.mp hs)
    exact ⟨[], [], .nil, rfl, .inr ⟨rfl, .inl rfl⟩⟩
  | succ n ih =>
    intro s hs
    cases s with
    | nil => exact ⟨[], [], .nil, rfl, .inr ⟨rfl, .inl rfl⟩⟩
    | cons x xs =>
    have hxl : xs.length ≤ n := Nat.le_of_succ_le_succ hs
    unfold skipWsScalar
    rw [skipWsScalarAux_false_cons]
    by_cases h1 : (x == 0x3B) = true
    · obtain ⟨body, hxs, hb, hd⟩ := dropWhile_run (fun c => !(c == 0x0A)) xs
      have hb' : ∀ b ∈ body, b ≠ 0x0A := fun b h => by simpa using hb b h
      rw [if_pos h1, eq_of_beq h1, skipWsScalarAux_comment]
      generalize xs.dropWhile (fun c => !(c == 0x0A)) = t at hxs hd
      cases t with
      | nil => exact ⟨[], _, .nil, rfl, .inr ⟨rfl, .inr ⟨body, hb', by rw [hxs, List.append_nil]⟩⟩⟩
      | cons d r =>
        have hd : (d == 0x0A) = true := by simpa using hd d r rfl
        obtain ⟨tr, rest, ht, hr, h⟩ := ih r (by rw [hxs, List.length_append, List.length_cons] at hxl; omega)
        dsimp only
        rw [if_pos hd]
        exact ⟨_, rest, .comment body tr hb' ht,
          by rw [hxs, hr, eq_of_beq hd, List.cons_append, List.append_assoc, List.cons_append], h⟩
    · rw [if_neg h1]
      by_cases h2 : isWs x = true
      · obtain ⟨tr, rest, ht, hr, h⟩ := ih xs hxl
        rw [if_pos h2]
        exact ⟨_, rest, .ws x tr h2 ht, by rw [hr, List.cons_append], h⟩
      · exact ⟨[], _, .nil, rfl, .inl ⟨x, xs, rfl, by simpa using h1, by simpa using h2, if_neg h2⟩⟩

/-- What the skipper does: it passes a blank prefix `tr` and stops in front of a byte that is neither
    whitespace nor `;`, or it reaches the end, possibly inside a comment that no line feed closes. -/
theorem skipWsScalar_spec (s : Bytes) : ∃ tr rest, Blank tr ∧ s = tr ++ rest ∧
    ((∃ c cs, rest = c :: cs ∧ (c == 0x3B) = false ∧ isWs c = false ∧ skipWsScalar s = rest) ∨
      (skipWsScalar s = [] ∧ (rest = [] ∨ ∃ body, (∀ b ∈ body, b ≠ 0x0A) ∧ rest = 0x3B :: body))) :=
  skipWsScalar_spec_aux s.length s (Nat.le_refl _)

/-- C12 (whitespace and comments): the block form of `edn_simd_skip_whitespace` equals
    the byte-at-a-time specification for every input -/
theorem skipWsSimd_eq : ∀ (f : Nat) (s : Bytes), s.length < f → skipWsSimd f s = skipWsScalar s := by
  intro f
  induction f with
  | zero => intro s h; exact absurd h (Nat.not_lt_zero _)
  | succ f ih =>
    intro s h
    cases s with
    | nil => rfl
    | cons c cs =>
      have hcs : cs.length < f := Nat.lt_of_succ_lt_succ h
      unfold skipWsScalar at ih ⊢
      rw [skipWsSimd, skipWsScalarAux_false_cons]
      by_cases hsemi : (c == 0x3B) = true
      · rw [if_pos hsemi, if_pos hsemi, findNewlineSimd_eq _ _ (Nat.lt_succ_self _), skipWsScalarAux_comment]
        have hle : (cs.dropWhile (fun c => !(c == 0x0A))).length ≤ cs.length :=
          (List.dropWhile_sublist _).length_le
        generalize cs.dropWhile (fun c => !(c == 0x0A)) = t at hle
        cases t with
        | nil => rfl
        | cons d r =>
          rw [List.length_cons] at hle
          simp only []
          rw [ih r (by omega), ih (d :: r) (by rw [List.length_cons]; omega)]
      · rw [if_neg hsemi, if_neg hsemi]
        have hscalar : (if isWs c = true then skipWsSimd f cs else c :: cs) =
            if isWs c = true then skipWsScalarAux false cs else c :: cs := by rw [ih cs hcs]
        split
        · rename_i blk hb
          split
          · rename_i hall
            -- a block of whitespace lanes holds no `;`: the scalar loop skips it too
            have hpre : blk.all (fun c => isWs c && !(c == 0x3B)) = true := by
              rw [List.all_eq_true] at hall ⊢
              intro x hx
              have := wsLane_isWs (hall x hx)
              rw [this.1, this.2]; rfl
            rw [ih _ (block16_drop_lt hb h), skip_block skipWsScalarAux_prefix hb hpre,
              skipWsScalarAux_false_cons, if_neg hsemi]
          · exact hscalar
        · exact hscalar

theorem skipWs_eq (s : Bytes) : skipWs s = skipWsScalar s := skipWsSimd_eq _ _ (by omega)

theorem skipWs_blank {tr : Bytes} (h : Blank tr) (s : Bytes) : skipWs (tr ++ s) = skipWs s := by
  rw [skipWs_eq, skipWs_eq, skipWsScalar_blank h]

def isQuoteSpecial (b : UInt8) : Bool := b == 0x22 || b == 0x5C

theorem findQuoteScalar_cons (bs : Bool) (c : UInt8) (cs : Bytes) :
    findQuoteScalar bs (c :: cs) =
      if c == 0x5C then (match cs with | [] => none | _ :: cs' => findQuoteScalar true cs')
      else if c == 0x22 then some (c :: cs, bs) else findQuoteScalar bs cs := by
  cases cs <;> rfl

theorem findQuoteScalar_prefix (bs : Bool) (pre r : Bytes)
    (h : pre.all (fun c => !isQuoteSpecial c) = true) :
    findQuoteScalar bs (pre ++ r) = findQuoteScalar bs r := by
  induction pre with
  | nil => rfl
  | cons c cs ih =>
    simp only [List.all_cons, Bool.and_eq_true] at h
    have hc := h.1
    simp only [isQuoteSpecial, Bool.not_eq_eq_eq_not, Bool.not_true, Bool.or_eq_false_iff] at hc
    rw [List.cons_append, findQuoteScalar_cons]
    simp [hc.1, hc.2, ih h.2]

/-- C12 (closing quote and escape detection): block form = byte-at-a-time form -/
theorem findQuoteSimd_eq : ∀ (f : Nat) (bs : Bool) (s : Bytes), s.length < f →
    findQuoteSimd f bs s = findQuoteScalar bs s := by
  intro f
  induction f with
  | zero => intro bs s h; exact absurd h (Nat.not_lt_zero _)
  | succ f ih =>
    intro bs s h
    cases s with
    | nil => rfl
    | cons c cs =>
      unfold findQuoteSimd
      split
      · rename_i blk hb
        split
        · rename_i hn
          rw [ih _ _ (block16_drop_lt hb h)]
          exact skip_block (findQuoteScalar_prefix bs) hb (all_not_of_findIdx_none hn)
        · rename_i i hi
          obtain ⟨pre, d, r, hs, hd, ha, hpd⟩ := block16_split hb hi
          have hr : r.length < f := by
            have := congrArg List.length hs
            simp only [List.length_append, List.length_cons] at this h
            omega
          rw [hd, hs, findQuoteScalar_prefix bs pre _ ha, findQuoteScalar_cons]
          simp only []
          by_cases hbs : (d == 0x5C) = true
          · rw [if_pos hbs, if_pos hbs]
            cases r with
            | nil => rfl
            | cons e r' => exact ih _ _ (Nat.lt_of_succ_lt hr)
          · have hq : (d == 0x22) = true := by simpa [hbs] using hpd
            rw [if_neg hbs, if_neg hbs, if_pos hq]
      · have hcs : cs.length < f := Nat.lt_of_succ_lt_succ h
        rw [findQuoteScalar_cons, ih bs cs hcs]
        cases cs with
        | nil => rfl
        | cons e r' => simp only []; rw [ih true r' (Nat.lt_of_succ_lt hcs)]

theorem findQuote_eq (s : Bytes) : findQuote s = findQuoteScalar false s := findQuoteSimd_eq _ _ _ (by omega)

theorem findQuoteScalar_rawStr {sp : Bytes} (h : RawStr sp) (t : Bytes) :
    ∀ bs, findQuoteScalar bs (sp ++ t) = findQuoteScalar (bs || sp.contains 0x5C) t := by
  induction h with
  | nil => intro bs; rw [List.nil_append, List.contains_nil, Bool.or_false]
  | plain b u h1 h2 _ ih =>
    intro bs
    rw [List.cons_append, findQuoteScalar_cons, if_neg (by simpa using h2), if_neg (by simpa using h1), ih,
      List.contains_cons, beq_eq_false_iff_ne.mpr (Ne.symm h2), Bool.false_or]
  | esc b u _ ih =>
    intro bs
    rw [List.cons_append, List.cons_append, findQuoteScalar_cons, if_pos (beq_self_eq_true _)]
    show findQuoteScalar true (u ++ t) = _
    rw [ih, List.contains_cons, beq_self_eq_true, Bool.true_or, Bool.true_or, Bool.or_true]

theorem rawStr_parse : ∀ s : Bytes,
    (∃ sp t, RawStr sp ∧ s = sp ++ 0x22 :: t) ∨ RawStr s ∨ ∃ sp, RawStr sp ∧ s = sp ++ [0x5C]
  | [] => .inr (.inl .nil)
  | c :: cs => by
    by_cases h2 : c = 0x5C
    · subst h2
      match cs with
      | [] => exact .inr (.inr ⟨[], .nil, rfl⟩)
      | x :: cs' =>
        rcases rawStr_parse cs' with ⟨sp, t, h, rfl⟩ | h | ⟨sp, h, rfl⟩
        · exact .inl ⟨_, t, .esc x sp h, rfl⟩
        · exact .inr (.inl (.esc x _ h))
        · exact .inr (.inr ⟨_, .esc x sp h, rfl⟩)
    · by_cases h1 : c = 0x22
      · exact .inl ⟨[], cs, .nil, by rw [h1]; rfl⟩
      · rcases rawStr_parse cs with ⟨sp, t, h, rfl⟩ | h | ⟨sp, h, rfl⟩
        · exact .inl ⟨_, t, .plain c sp h1 h2 h, rfl⟩
        · exact .inr (.inl (.plain c _ h1 h2 h))
        · exact .inr (.inr ⟨_, .plain c sp h1 h2 h, rfl⟩)

theorem findQuoteScalar_quote {sp : Bytes} (h : RawStr sp) (bs : Bool) (t : Bytes) :
    findQuoteScalar bs (sp ++ 0x22 :: t) = some (0x22 :: t, bs || sp.contains 0x5C) := by
  rw [findQuoteScalar_rawStr h, findQuoteScalar_cons]; rfl

theorem findQuoteScalar_open {s : Bytes} (h : RawStr s ∨ ∃ sp, RawStr sp ∧ s = sp ++ [0x5C]) (bs : Bool) :
    findQuoteScalar bs s = none := by
  rcases h with h | ⟨sp, h, rfl⟩
  · have := findQuoteScalar_rawStr h [] bs
    rwa [List.append_nil] at this
  · rw [findQuoteScalar_rawStr h]; rfl

theorem findQuoteScalar_some_iff (bs : Bool) (s q : Bytes) (e : Bool) :
    findQuoteScalar bs s = some (q, e) ↔
      ∃ sp t, RawStr sp ∧ s = sp ++ 0x22 :: t ∧ q = 0x22 :: t ∧ e = (bs || sp.contains 0x5C) := by
  constructor
  · intro h
    rcases rawStr_parse s with ⟨sp, t, hr, rfl⟩ | hn
    · rw [findQuoteScalar_quote hr] at h
      cases h
      exact ⟨sp, t, hr, rfl, rfl, rfl⟩
    · rw [findQuoteScalar_open hn] at h; cases h
  · rintro ⟨sp, t, hr, rfl, rfl, rfl⟩
    exact findQuoteScalar_quote hr bs t

theorem findQuoteScalar_none_iff (bs : Bool) (s : Bytes) :
    findQuoteScalar bs s = none ↔ RawStr s ∨ ∃ sp, RawStr sp ∧ s = sp ++ [0x5C] := by
  refine ⟨fun h => ?_, fun h => findQuoteScalar_open h bs⟩
  rcases rawStr_parse s with ⟨sp, t, hr, rfl⟩ | hn
  · rw [findQuoteScalar_quote hr] at h; cases h
  · exact hn

theorem findQuote_some_iff (s q : Bytes) (e : Bool) :
    findQuote s = some (q, e) ↔ ∃ sp t, RawStr sp ∧ s = sp ++ 0x22 :: t ∧ q = 0x22 :: t ∧ e = sp.contains 0x5C := by
  rw [findQuote_eq, findQuoteScalar_some_iff]; simp only [Bool.false_or]

/-- the ordinary-literal branch of `readString` (the first byte is the dispatcher's business) -/
theorem readString_literal_eq (ctx : Ctx) (c : UInt8) (cs : Bytes) (cl : List Call)
    (hno : (ctx.cfg.exp && startsWith (c :: cs) [0x22, 0x22, 0x22, 0x0A]) = false) :
    readString ctx { rest := c :: cs, calls := cl } =
      match findQuote cs with
      | none => .err (mkErr .invalidString (some (cs.length + 1)) (some 0)) { rest := c :: cs, calls := cl }
      | some (q, esc) =>
        .ok (.str (mkHdr (cs.length + 1) q.tail.length) (slice cs q) esc) { rest := q.tail, calls := cl } := by
  unfold readString
  rw [if_neg (by rw [hno]; exact Bool.false_ne_true)]
  rfl

/-- a value is returned exactly on a raw content and its closing quote; it covers both quotes, and the
    escape flag is set exactly when the content contains a backslash -/
theorem readString_literal_iff (ctx : Ctx) (c : UInt8) (cs : Bytes) (cl : List Call) (v : Val) (st' : St)
    (hno : (ctx.cfg.exp && startsWith (c :: cs) [0x22, 0x22, 0x22, 0x0A]) = false) :
    readString ctx { rest := c :: cs, calls := cl } = .ok v st' ↔
      ∃ sp rest, RawStr sp ∧ cs = sp ++ 0x22 :: rest ∧
        v = .str (mkHdr (cs.length + 1) rest.length) sp (sp.contains 0x5C) ∧ st' = { rest := rest, calls := cl } := by
  rw [readString_literal_eq ctx c cs cl hno]
  constructor
  · intro h
    cases hq : findQuote cs with
    | none => rw [hq] at h; cases h
    | some p =>
      obtain ⟨q, e⟩ := p
      obtain ⟨sp, t, hr, rfl, rfl, rfl⟩ := (findQuote_some_iff _ _ _).mp hq
      rw [hq] at h
      simp only [Res.ok.injEq] at h
      exact ⟨sp, t, hr, rfl, by rw [← h.1, slice_append]; rfl, h.2.symm⟩
  · rintro ⟨sp, rest, hr, rfl, rfl, rfl⟩
    rw [(findQuote_some_iff _ _ _).mpr ⟨sp, rest, hr, rfl, rfl, rfl⟩]
    simp only [slice_append]
    rfl

/-- C12 (digit runs): block form = `dropWhile isDigit` -/
theorem scanDigitsSimd_eq (f : Nat) (s : Bytes) (h : s.length < f) : scanDigitsSimd f s = scanDigitsScalar s := by
  have hq : (fun c => !!digitLane c) = isDigit := funext fun c => by rw [Bool.not_not, digitLane_isDigit]
  rw [scanDigitsScalar, ← hq]
  refine blockLoop_eq_dropWhile (fun b => !digitLane b) scanDigitsSimd (fun _ => rfl) ?_ f s h
  intro f c cs
  rw [scanDigitsSimd, digitLane_isDigit]
  cases block16 (c :: cs) with
  | none => cases isDigit c <;> rfl
  | some blk =>
    dsimp only
    cases blk.findIdx? (fun b => !digitLane b) <;> rfl

theorem lfPositionsScalar_eq (i : Nat) (s : Bytes) :
    lfPositionsScalar i s = ((s.zipIdx i).filter (·.1 == 0x0A)).map (·.2) := by
  induction s generalizing i with
  | nil => rfl
  | cons c cs ih =>
    rw [lfPositionsScalar, ih, List.zipIdx_cons, List.filter_cons]
    cases c == 0x0A <;> rfl

theorem lfPositionsScalar_append (i : Nat) (pre r : Bytes) :
    lfPositionsScalar i (pre ++ r) = lfPositionsScalar i pre ++ lfPositionsScalar (i + pre.length) r := by
  rw [lfPositionsScalar_eq, lfPositionsScalar_eq, lfPositionsScalar_eq, List.zipIdx_append, List.filter_append,
    List.map_append, Nat.add_comm]

/-- C12 (line-feed indexing): the block form of `newline_find_all_simd` lists exactly the
    offsets of the line feeds, in ascending order -/
theorem lfPositionsSimd_eq : ∀ (f i : Nat) (s : Bytes), s.length < f →
    lfPositionsSimd f i s = lfPositionsScalar i s := by
  intro f
  induction f with
  | zero => intro i s h; omega
  | succ f ih =>
    intro i s h
    cases s with
    | nil => simp [lfPositionsSimd, lfPositionsScalar]
    | cons c cs =>
      rw [lfPositionsSimd]
      split
      · rename_i blk hb
        obtain ⟨rfl, hlen⟩ := block16_some hb
        rw [ih _ _ (block16_drop_lt hb h)]
        conv => rhs; rw [← List.take_append_drop 16 (c :: cs)]
        rw [lfPositionsScalar_append, List.length_take, Nat.min_eq_left hlen]
        rfl
      · rw [lfPositionsScalar, ih _ _ (by simp at h ⊢; omega)]

theorem lfPositions_eq (s : Bytes) : lfPositions s = lfPositionsScalar 0 s := lfPositionsSimd_eq _ _ _ (by omega)

theorem scanIdentRawAux_colons (i : Nat) (sl : Option Nat) (prev : Bool) (s : Bytes) :
    (scanIdentRawAux i sl prev true s).colons = true := by
  induction s generalizing i sl prev with
  | nil => simp [scanIdentRawAux]
  | cons c cs ih =>
    rw [scanIdentRawAux]
    split
    · rfl
    · simpa using ih _ _ _

theorem scanIdentShort_raw (i : Nat) (sl : Option Nat) (prev : Bool) (s : Bytes) :
    match scanIdentShortAux i sl prev s with
    | none => (scanIdentRawAux i sl prev false s).colons = true
    | some (l, k) => scanIdentRawAux i sl prev false s = ⟨l, k, false⟩ := by
  induction s generalizing i sl prev with
  | nil => simp [scanIdentShortAux, scanIdentRawAux]
  | cons c cs ih =>
    rw [scanIdentShortAux, scanIdentRawAux]
    by_cases hd : isDelim c = true
    · simp [hd]
    · simp only [hd, Bool.false_eq_true, ↓reduceIte]
      by_cases hcc : (c == 0x3A && prev) = true
      · simp only [hcc, ↓reduceIte, Bool.or_true]
        exact scanIdentRawAux_colons _ _ _ _
      · simp only [hcc, Bool.false_eq_true, ↓reduceIte, Bool.or_false]
        exact ih _ _ _

/-- C12 (identifier ends, first slash, double colon): the short path (at most 16 bytes
    remaining) and the long path of `scan_identifier` compute the same result -/
theorem scanIdent_eq_spec (s : Bytes) : scanIdent s = scanIdentSpec s := by
  unfold scanIdent scanIdentSpec scanIdentRaw
  split
  · have := scanIdentShort_raw 0 none false s
    cases hsh : scanIdentShortAux 0 none false s with
    | none => rw [hsh] at this; simp [this]
    | some lk =>
      obtain ⟨l, k⟩ := lk
      rw [hsh] at this
      simp [this]
  · rfl

theorem hex4?_some {s r' : Bytes} {cp : Nat} (h : hex4? s = some (cp, r')) :
    ∃ a b c d w x y z, s = a :: b :: c :: d :: r' ∧ hexDigit? a = some w ∧ hexDigit? b = some x ∧
      hexDigit? c = some y ∧ hexDigit? d = some z ∧ cp = ((w * 16 + x) * 16 + y) * 16 + z := by
  unfold hex4? at h
  split at h
  · rename_i a b c d r
    split at h
    · rename_i w x y z hw hx hy hz
      cases h
      exact ⟨a, b, c, d, w, x, y, z, rfl, hw, hx, hy, hz, rfl⟩
    · cases h
  · cases h

theorem hex4?_digits {a b c d : UInt8} {w x y z : Nat} (hw : hexDigit? a = some w) (hx : hexDigit? b = some x)
    (hy : hexDigit? c = some y) (hz : hexDigit? d = some z) (r : Bytes) :
    hex4? (a :: b :: c :: d :: r) = some (((w * 16 + x) * 16 + y) * 16 + z, r) := by
  rw [hex4?, hw, hx, hy, hz]

theorem hex4?_cons_some {a b c d : UInt8} {r r' : Bytes} {cp : Nat}
    (h : hex4? (a :: b :: c :: d :: r) = some (cp, r')) :
    ∃ w x y z, hexDigit? a = some w ∧ hexDigit? b = some x ∧ hexDigit? c = some y ∧
      hexDigit? d = some z ∧ cp = ((w * 16 + x) * 16 + y) * 16 + z ∧ r' = r := by
  obtain ⟨_, _, _, _, w, x, y, z, hs, hw, hx, hy, hz, hcp⟩ := hex4?_some h
  cases hs
  exact ⟨w, x, y, z, hw, hx, hy, hz, hcp, rfl⟩

theorem hex4?_append {a b c d : UInt8} {cp : Nat}
    (h : hex4? [a, b, c, d] = some (cp, [])) (rest : Bytes) :
    hex4? (a :: b :: c :: d :: rest) = some (cp, rest) := by
  obtain ⟨w, x, y, z, hw, hx, hy, hz, hcp, _⟩ := hex4?_cons_some h
  rw [hcp, hex4?_digits hw hx hy hz]

end Edn.Proofs
