/-
  C10 / C19, whole documents: the transport theorem "the first defect decides", for every configuration.
  The frames of an open context are in `RejectFrames` and speak of the reader only; here a complete form
  of the grammar becomes a token that is read as one value (`fx_reads`, by completeness), so that
  `desc_err` (core grammar) and `descClj_err` (any grammar with the Clojure flag) are the same induction
  over different frames.  No reader registry; any sufficient fuel.
  Last (`RejectDoc.Ex`): the derivations of the inputs the examples of `Edn.Properties.C10` are about.
-/
import Edn.Proofs.Sound
import Edn.Proofs.RejectFrames

namespace Edn.Proofs.RejectDocClj
open Edn.Model Edn.Spec Edn.Generated Edn.Proofs Edn.Proofs.Cmpl Edn.Proofs.CmplX Edn.Proofs.RejectDoc Edn.Proofs.RejectDocX

theorem fx_reads (cfg : Cfg) (opts : Opts) (hreg : opts.registry = none) {k : Nat} {a : Val} {tok rest : Bytes}
    (h : FX cfg k a tok rest) (d : Nat) (hd : d + k ≤ Tables.maxNestingDepth) : ReadsX cfg opts d a tok rest :=
  formX_reads opts hreg (numExact_of cfg) (strExact_of cfg) h d hd

theorem form_reads (opts : Opts) (hreg : opts.registry = none) {k : Nat} {a : Val} {tok rest : Bytes}
    (h : Form k a tok rest) (d : Nat) (hd : d + k ≤ Tables.maxNestingDepth) : ReadsX Cfg.core opts d a tok rest :=
  fx_reads Cfg.core opts hreg ((formX_core_iff_form k a tok rest).2 h) d hd

theorem run_of_formsX (cfg : Cfg) (opts : Opts) (hreg : opts.registry = none) {k n : Nat} {body after : Bytes}
    (h : FormsX cfg k n body after) (d : Nat) (hd : d + k ≤ Tables.maxNestingDepth) : Run cfg opts d n body after := by
  induction h with
  | nil after => exact .nil after
  | cons n a tok body after hf _ ih => exact .cons n _ tok body after (fx_reads cfg opts hreg hf d hd) ih

theorem run_of_forms (opts : Opts) (hreg : opts.registry = none) {k n : Nat} {body after : Bytes}
    (h : Forms k n body after) (d : Nat) (hd : d + k ≤ Tables.maxNestingDepth) : Run Cfg.core opts d n body after := by
  induction h with
  | nil after => exact .nil after
  | cons n a tok body after hf _ ih => exact .cons n _ tok body after (form_reads opts hreg hf d hd) ih

section frames
variable {cfg : Cfg} {opts : Opts} {d : Nat} {dm : Bool} {e : ErrInfo} {r : Bytes}

theorem evals_annotation (hreg : opts.registry = none) {k : Nat} {am : Val} {nks nvs : List Val} {tokm x : Bytes}
    (hd : d + 1 + k ≤ Tables.maxNestingDepth) (hm : FX cfg k am tokm x) (he : metaEntriesC am = some (nks, nvs))
    (dm : Bool) (cl : List Call) :
    ∃ m p, metaEntries m = some p ∧
      Evals (xctx cfg opts) (.v (d + 1) dm { rest := tokm ++ x, calls := cl }) (.ok m { rest := x, calls := cl }) := by
  obtain ⟨m, rfl, hmr⟩ := fx_reads cfg opts hreg hm (d + 1) (by omega) dm cl
  obtain ⟨nks', nvs', hme, -, -⟩ := CmplX.metaEntries_of_C he
  exact ⟨m, _, hme, hmr⟩

theorem site_metaTgt (hclj : cfg.clj = true) (hreg : opts.registry = none)
    {k : Nat} {am : Val} {nks nvs : List Val} {tokm x : Bytes} (hd : d + 1 + k ≤ Tables.maxNestingDepth)
    (hm : FX cfg k am tokm x) (he : metaEntriesC am = some (nks, nvs))
    (h : SiteErrX cfg opts (d + 1) dm x e r) : SiteErrX cfg opts d dm (0x5E :: (tokm ++ x)) e r := .of_evals fun cl =>
  let ⟨_, _, hme, hmr⟩ := evals_annotation hreg hd hm he dm cl
  evals_meta hclj (by omega) (hmr.rule₂ (h.evals cl) fun _ h1 h2 => .meErr₂ h1 hme h2)

end frames

theorem hard_of_coll {c : Bool} {e : ErrInfo} (hc : c = false ∨ e.code ≠ .unexpectedEof) (h : c = true) :
    e.code ≠ .unexpectedEof := by
  rcases hc with hc | hc
  · rw [h] at hc; cases hc
  · exact hc

/-- **Transport.**  Through a flat context (blanks, discarded forms, open discard markers, tags
    and metadata markers) every error arrives unchanged; through opened collections and
    namespaced maps every error but UNEXPECTED_EOF does. -/
theorem descClj_err (cfg : Cfg) (hclj : cfg.clj = true) (opts : Opts) (hreg : opts.registry = none)
    {s : Bytes} {c : Bool} {d : Nat} {dm : Bool} {pre : Bytes}
    {d' : Nat} {dm' : Bool} (h : DescClj cfg s c d dm pre d' dm') (e : ErrInfo) (r : Bytes)
    (hs : SiteErrX cfg opts d' dm' s e r) (hc : c = false ∨ e.code ≠ .unexpectedEof) :
    SiteErrX cfg opts d dm (pre ++ s) e r := by
  induction h with
  | here c d dm => exact hs
  | blank c d dm tr pre d' dm' ht _ ih =>
    rw [List.append_assoc]
    exact site_blank ht (ih hs hc)
  | skip c d dm k b tok pre d' dm' hd hf _ ih =>
    rw [List.cons_append, List.cons_append, List.append_assoc]
    exact site_skip (by omega) (fx_reads cfg opts hreg hf (d + 1) (by omega)) (ih hs hc)
  | discard c d dm pre d' dm' hd _ ih => exact site_discard hd (ih hs hc)
  | tag c d dm tg ns nm pre d' dm' hd hl hden hu hsep _ ih =>
    rw [List.cons_append, List.append_assoc]
    exact site_tag hd hl hden hu hsep (ih hs hc)
  | coll d dm kind k n body pre d' dm' hd hb _ ih =>
    have hne := hard_of_coll hc rfl
    have := siteX_of_elem (kind := kind) (by omega) (run_of_formsX cfg opts hreg hb (d + 1) (by omega)) (ih hs (Or.inr hne))
    rw [loopErr_hard hne] at this
    rw [List.append_assoc, List.append_assoc]
    exact this
  | metaAnn c d dm pre d' dm' hd _ ih => exact site_metaAnn hclj hd (ih hs hc)
  | metaTgt c d dm k am nks nvs tokm pre d' dm' hd hm he _ ih =>
    rw [List.cons_append, List.append_assoc]
    exact site_metaTgt hclj hreg hd hm he (ih hs hc)
  | nsBody d dm name tr k n body pre d' dm' hd hl hden ht hb _ ih =>
    have hne := hard_of_coll hc rfl
    have := siteX_of_nsElem hclj (by omega) hl hden ht (run_of_formsX cfg opts hreg hb (d + 1) (by omega)) (ih hs (Or.inr hne))
    rw [loopErr_hard hne] at this
    have e1 : (0x23 :: 0x3A :: (name ++ (tr ++ 0x7B :: (body ++ pre)))) ++ s =
        0x23 :: 0x3A :: (name ++ (tr ++ 0x7B :: (body ++ (pre ++ s)))) := by simp
    rw [e1]
    exact this

theorem readX_of_site (cfg : Cfg) (opts : Opts) (input : Bytes) (e : ErrInfo) (r : Bytes)
    (h : SiteErrX cfg opts 0 false input e r)
    (hn : (e.code == .unexpectedEof && e.eofTop && opts.eofValue) = false) :
    (read cfg opts input).out =
      .error e.code (posOf input (input.length - e.es.getD r.length)) (posOf input (input.length - e.ee.getD r.length)) := by
  rw [read_of_err h.top, hn]
  rfl

/-- the range, given in bytes remaining (`es`, `ee`), is reported by `edn_read` as the offsets `so`, `eo` -/
theorem readX_range (cfg : Cfg) (opts : Opts) (input : Bytes) (code : Err) (es ee so eo : Nat) (r : Bytes)
    (h : SiteErrX cfg opts 0 false input (mkErr code (some es) (some ee)) r) (hcode : code ≠ .unexpectedEof)
    (h1 : so + es = input.length) (h2 : eo + ee = input.length) :
    (read cfg opts input).out = .error code (posOf input so) (posOf input eo) := by
  have e1 : input.length - es = so := by omega
  have e2 : input.length - ee = eo := by omega
  rw [readX_of_site cfg opts input _ r h (by cases code <;> first | rfl | exact absurd rfl hcode)]
  simp only [mkErr, Option.getD_some, e1, e2]

/-- **The first defect decides the class** (Clojure flag): an error `e` (other than the end of the
    input, when collections are open) raised at the end of an open context `pre` is the error
    `edn_read` reports for `pre ++ s`, with `e`'s code and range -/
theorem docClj_err (cfg : Cfg) (hclj : cfg.clj = true) (opts : Opts) (hreg : opts.registry = none)
    {s : Bytes} {c : Bool} {pre : Bytes} {d : Nat} {dm : Bool}
    (h : DescClj cfg s c 0 false pre d dm) (e : ErrInfo) (r : Bytes)
    (hs : SiteErrX cfg opts d dm s e r) (hc : c = false ∨ e.code ≠ .unexpectedEof)
    (hn : (e.code == .unexpectedEof && e.eofTop && opts.eofValue) = false) :
    (read cfg opts (pre ++ s)).out =
      .error e.code (posOf (pre ++ s) ((pre ++ s).length - e.es.getD r.length))
        (posOf (pre ++ s) ((pre ++ s).length - e.ee.getD r.length)) :=
  readX_of_site cfg opts (pre ++ s) e r (descClj_err cfg hclj opts hreg h e r hs hc) hn

end Edn.Proofs.RejectDocClj

namespace Edn.Proofs.RejectDoc
open Edn.Model Edn.Spec Edn.Generated Edn.Proofs Edn.Proofs.Cmpl Edn.Proofs.RejectDocClj

theorem desc_err (opts : Opts) (hreg : opts.registry = none) {s : Bytes} {c : Bool} {d : Nat} {dm : Bool} {pre : Bytes}
    {d' : Nat} {dm' : Bool} (h : Desc s c d dm pre d' dm') (e : ErrInfo) (r : Bytes)
    (hs : SiteErr opts d' dm' s e r) (hc : c = false ∨ e.code ≠ .unexpectedEof) :
    SiteErr opts d dm (pre ++ s) e r := by
  rw [siteErr_eq] at hs ⊢
  induction h with
  | here c d dm => exact hs
  | blank c d dm tr pre d' dm' ht _ ih =>
    rw [List.append_assoc]
    exact site_blank ht (ih hs hc)
  | skip c d dm k b tok pre d' dm' hd hf _ ih =>
    rw [List.cons_append, List.cons_append, List.append_assoc]
    exact site_skip (by omega) (form_reads opts hreg hf (d + 1) (by omega)) (ih hs hc)
  | discard c d dm pre d' dm' hd _ ih => exact site_discard hd (ih hs hc)
  | tag c d dm tg ns nm pre d' dm' hd hl hden hu hsep _ ih =>
    rw [List.cons_append, List.append_assoc]
    exact site_tag hd hl hden hu hsep (ih hs hc)
  | coll d dm kind k n body pre d' dm' hd hb _ ih =>
    have hne := hard_of_coll hc rfl
    have := siteX_of_elem (kind := kind) (by omega) (run_of_forms opts hreg hb (d + 1) (by omega)) (ih hs (Or.inr hne))
    rw [loopErr_hard hne] at this
    rw [List.append_assoc, List.append_assoc]
    exact this

namespace Ex

theorem form_digit (k : Nat) (c : UInt8) (hc : 0x30 ≤ c ∧ c ≤ 0x39) (rest : Bytes) (ht : TermStart rest) :
    ∃ a, Form k a [c] rest := by
  refine ⟨_, .number k [c] rest _ (.int [] [c] false (.inl ⟨rfl, rfl⟩) ⟨by simp, by simpa using hc, by simp⟩ ?_) ht⟩
  have := c.toNat_lt
  simp [natOfDigits]
  omega

theorem form_sp_digit (k : Nat) (c : UInt8) (hc : 0x30 ≤ c ∧ c ≤ 0x39) (rest : Bytes) (ht : TermStart rest) :
    ∃ a, Form k a [0x20, c] rest := by
  obtain ⟨a, h⟩ := form_digit k c hc rest ht
  exact ⟨a, .blank k a [0x20] [c] rest (.ws 0x20 [] (by decide +kernel) .nil) h⟩

theorem forms_one {k : Nat} {a : Val} {tok after : Bytes} (h : Form k a tok after) : Forms k 1 tok after := by
  have := Forms.cons k 0 a tok [] after (by simpa using h) (.nil k after)
  simpa using this

theorem forms_two {k : Nat} {a b : Val} {tok1 tok2 after : Bytes} (h1 : Form k a tok1 (tok2 ++ after))
    (h2 : Form k b tok2 after) : Forms k 2 (tok1 ++ tok2) after :=
  .cons k 1 a tok1 tok2 after h1 (forms_one h2)

theorem term_sp (t : Bytes) : TermStart (0x20 :: t) := TermStart_cons (by decide +kernel)
theorem term_closer {c : UInt8} (hc : IsCloser c) (t : Bytes) : TermStart (c :: t) := TermStart_cons hc.term

theorem forms_1_2 (k : Nat) (after : Bytes) (ht : TermStart after) : Forms k 2 [0x31, 0x20, 0x32] after := by
  obtain ⟨a, h1⟩ := form_digit k 0x31 (by decide) ([0x20, 0x32] ++ after) (term_sp _)
  obtain ⟨b, h2⟩ := form_sp_digit k 0x32 (by decide) after ht
  exact forms_two h1 h2

theorem foo_lex : IdentLex [0x66, 0x6F, 0x6F] := ⟨by simp, by decide +kernel, by decide⟩
theorem foo_den : IdentDenotes [0x66, 0x6F, 0x6F] (.sym hdr0 none none [0x66, 0x6F, 0x6F]) :=
  .inr (.inr (.inr (.inr ⟨by decide, by decide +kernel, by decide +kernel, by decide +kernel, none, _, by decide +kernel, rfl⟩)))

/-- `[1 ` -/
theorem ctx_vec_1 (s : Bytes) : Desc s true 0 false ([0x5B] ++ ([0x31] ++ [0x20])) 1 false := by
  obtain ⟨a, h1⟩ := form_digit 0 0x31 (by decide) ([0x20] ++ s) (term_sp _)
  exact .coll 0 false 1 0 1 [0x31] [0x20] 1 false (by decide) (forms_one h1)
    (.blank true 1 false [0x20] [] 1 false (.ws 0x20 [] (by decide +kernel) .nil) (.here true 1 false))

/-- `[` -/
theorem ctx_vec (s : Bytes) : Desc s true 0 false ([0x5B] ++ ([] ++ [])) 1 false :=
  .coll 0 false 1 0 0 [] [] 1 false (by decide) (.nil 0 _) (.here true 1 false)

end Ex

end Edn.Proofs.RejectDoc
