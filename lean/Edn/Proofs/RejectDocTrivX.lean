/-
  "End of input at top level iff only trivia", in every configuration (C13 / C10): the top-level
  `readValue` flags "end of input between forms" (`eofTop`) exactly on the inputs that hold no form
  (`TopTriviaX`; over the core grammar `TopTrivia`).

  The backward half (`eofTopX_inv`): an error flagged `eofTop` comes from `readValue` at depth 0 on a
  `TopTriviaX` input and from nowhere else.  Below the top level no answer is flagged (`run_noTop`, a fact
  of the answer alone); nor is the prefix keyword of `#:ns{…}`, which `readNsMap` reads at its own depth,
  since it stands in front of a `:`; so only the rules of `readValue` itself are walked, by induction on
  the fuel, and the discarded form in front of the next one is a form of the grammar by soundness.
-/
import Edn.Proofs.RejectDocCtx

namespace Edn.Proofs.RejectDoc
open Edn.Model Edn.Spec Edn.Generated Edn.Proofs Edn.Proofs.Cmpl

/-- whitespace, commas and line comments up to the end of the input; the last comment need not
    be closed by a line feed -/
inductive EofBlank : Bytes → Prop
  | nil : EofBlank []
  | ws (c : UInt8) (t : Bytes) (hw : isWs c = true) : EofBlank t → EofBlank (c :: t)
  | comment (body t : Bytes) (hb : ∀ b ∈ body, b ≠ 0x0A) : EofBlank t → EofBlank (0x3B :: (body ++ 0x0A :: t))
  | unclosed (body : Bytes) (hb : ∀ b ∈ body, b ≠ 0x0A) : EofBlank (0x3B :: body)

theorem skipWsScalar_of_eofBlank {s : Bytes} (h : EofBlank s) : skipWsScalar s = [] := by
  unfold skipWsScalar
  induction h with
  | nil => rfl
  | ws c t hw _ ih => rw [skipWsScalarAux_false_cons, isWs_ne_semi hw, hw]; exact ih
  | comment body t hb _ ih => rw [skipWsScalarAux_false_cons, skipWsScalarAux_body _ _ hb]; exact ih
  | unclosed body hb => rw [skipWsScalarAux_false_cons]; exact skipWsScalarAux_noLf body hb

theorem blank_eofBlank {tr s : Bytes} (ht : Blank tr) (h : EofBlank s) : EofBlank (tr ++ s) := by
  induction ht with
  | nil => exact h
  | ws c t hw _ ih => exact .ws c (t ++ s) hw ih
  | comment body t hb _ ih =>
    have e : 0x3B :: (body ++ 0x0A :: t) ++ s = 0x3B :: (body ++ 0x0A :: (t ++ s)) := by simp
    rw [e]
    exact .comment body (t ++ s) hb ih

theorem skipWsScalar_nil_iff (s : Bytes) : skipWsScalar s = [] ↔ EofBlank s := by
  refine ⟨fun h => ?_, skipWsScalar_of_eofBlank⟩
  obtain ⟨tr, rest, ht, rfl, ⟨c, cs, rfl, -, -, hr⟩ | ⟨-, rfl | ⟨body, hb, rfl⟩⟩⟩ := skipWsScalar_spec s
  · rw [hr] at h; cases h
  · exact blank_eofBlank ht .nil
  · exact blank_eofBlank ht (.unclosed body hb)

/-- **The inputs without a form** (core configuration): blanks and comments up to the end
    (`EofBlank`), with complete discarded forms `#_ form` anywhere between them.  The discarded
    forms are forms of `Edn.Spec.Form` whose nesting leaves room for the discard marker. -/
inductive TopTrivia : Bytes → Prop
  | eof (s : Bytes) (h : EofBlank s) : TopTrivia s
  | discard (tr tok rest : Bytes) (k : Nat) (b : Val) (ht : Blank tr) (hk : 1 + k ≤ Tables.maxNestingDepth)
      (hf : Form k b tok rest) (h : TopTrivia rest) : TopTrivia (tr ++ 0x23 :: 0x5F :: (tok ++ rest))

theorem noTop_err {r : Res} {e : ErrInfo} {st' : St} (h : Res.noTop r = true) (hr : r = .err e st') : e.eofTop = false := by
  subst hr
  simpa [Res.noTop] using h

end Edn.Proofs.RejectDoc

namespace Edn.Proofs.RejectDocTrivX
open Edn.Model Edn.Spec Edn.Generated Edn.Proofs Edn.Proofs.RejectDoc Edn.Proofs.RejectDocX

/-- **The inputs without a form, in configuration `cfg`**: as `TopTrivia`, the discarded forms
    being forms of the configuration's grammar `Edn.Spec.FormX cfg (numJOf cfg) (strJOf cfg)` - with
    the Clojure flag that includes metadata forms `^ann target` and namespaced maps `#:ns{…}`. -/
inductive TopTriviaX (cfg : Cfg) : Bytes → Prop
  | eof (s : Bytes) (h : EofBlank s) : TopTriviaX cfg s
  | discard (tr tok rest : Bytes) (k : Nat) (b : Val) (ht : Blank tr) (hk : 1 + k ≤ Tables.maxNestingDepth)
      (hf : FormX cfg (numJOf cfg) (strJOf cfg) k b tok rest) (h : TopTriviaX cfg rest) :
      TopTriviaX cfg (tr ++ 0x23 :: 0x5F :: (tok ++ rest))

theorem TopTriviaX.blank {cfg : Cfg} {tr s : Bytes} (ht : Blank tr) (h : TopTriviaX cfg s) : TopTriviaX cfg (tr ++ s) := by
  cases h with
  | eof _ h => exact .eof _ (blank_eofBlank ht h)
  | discard tr' tok rest k b ht' hk hf h =>
    rw [← List.append_assoc]
    exact .discard (tr ++ tr') tok rest k b (Snd.blank_append ht ht') hk hf h

theorem topTriviaX_core_iff (input : Bytes) : TopTriviaX Cfg.core input ↔ TopTrivia input := by
  constructor
  · intro h
    induction h with
    | eof s h => exact .eof s h
    | discard tr tok rest k b ht hk hf _ ih =>
      exact .discard tr tok rest k b ht hk ((formX_core_iff_form k b tok rest).1 hf) ih
  · intro h
    induction h with
    | eof s h => exact .eof s h
    | discard tr tok rest k b ht hk hf _ ih =>
      exact .discard tr tok rest k b ht hk ((formX_core_iff_form k b tok rest).2 hf) ih

open Edn.Proofs.RejectDocClj in
theorem topTriviaX_reads (cfg : Cfg) (opts : Opts) (hreg : opts.registry = none) {s : Bytes} (h : TopTriviaX cfg s)
    (dm : Bool) : RejectDocClj.SiteErrX cfg opts 0 dm s (eofE 0) [] := by
  induction h with
  | eof s h => exact site_eofX (skipWsScalar_of_eofBlank h)
  | discard tr tok rest k b ht hk hf _ ih =>
    exact site_blank ht (site_skip (by omega) (fx_reads cfg opts hreg hf 1 (by omega)) ih)

theorem readValue_colon_noTop (ctx : Ctx) : ∀ f d dm cs cl,
    (readValue ctx f d dm { rest := 0x3A :: cs, calls := cl }).noTop = true
  | 0 => fun d dm cs cl => by rw [readValue_zero]; rfl
  | f + 1 => fun d dm cs cl => by rw [readValue_colon]; exact (readIdentifier_leafRes _ _).top

/-- `readNsMap` is only ever entered in front of the `:` of `#:` -/
theorem readNsMap_colon_noTop (ctx : Ctx) : ∀ f d dm start cs cl,
    (readNsMap ctx f d dm start { rest := 0x3A :: cs, calls := cl }).noTop = true
  | 0 => fun d dm start cs cl => by rw [readNsMap_zero]; rfl
  | f + 1 => fun d dm start cs cl => by
    show (run ctx (f + 1) (.n d dm start _)).noTop = true
    rw [run_succ]
    refine step_cases (P := (·.noTop = true)) fun r h => ?_
    cases h with
    | nCloser | nBad | nNoBrace => rfl
    | nErr hv => exact hv ▸ readValue_colon_noTop ctx f d dm cs cl
    | nNext _ _ hr => exact hr ▸ run_noTop ctx f (c := .m ..) id

/-- An error flagged `eofTop` comes from `readValue` at depth 0 on a `TopTriviaX` input.  Of all the rules of
    `readValue` only the discard marker can pass a flagged error on: the one of the `readValue` that looks for
    the next form, after a complete discarded form. -/
theorem eofTopX_inv (cfg : Cfg) (opts : Opts) (hreg : opts.registry = none) (f d : Nat) (dm : Bool) (st st' : St) (e : ErrInfo)
    (h : readValue { cfg := cfg, opts := opts } f d dm st = .err e st') (ht : e.eofTop = true) :
    d = 0 ∧ TopTriviaX cfg st.rest := by
  induction f generalizing st with
  | zero => rw [readValue_zero] at h; cases h; cases ht
  | succ f ih =>
    -- an unflagged answer is not this error
    have key {r : Res} {Q : Prop} (h1 : r.noTop = true) (h2 : r = .err e st') : Q := by
      rw [noTop_err h1 h2] at ht; cases ht
    have inner {c r} (h : run { cfg := cfg, opts := opts } f c = r) (hc : ¬ c.mayTop) : r.noTop = true :=
      h ▸ run_noTop _ f hc
    refine step_cases (P := fun r => r = .err e st' → _) (fun r h he => ?_) ((run_succ _ f (.v d dm st)).symm.trans h)
    cases h with
    | vEof hw =>
      cases he
      rw [skipWs_eq] at hw
      exact ⟨eq_of_beq ht, .eof _ ((skipWsScalar_nil_iff _).1 hw)⟩
    | vLeaf _ hrt => exact key (((route_bytes hrt).leafCall _ st.calls).leaf.elim fun _ hl => hl.2.top) he
    | vDeep | vStray | vSkipCloser => exact key rfl he
    | vCloser => cases he
    | vSeq _ _ hr | vMap _ _ hr | vTagged _ _ hr | vMeta _ _ hr => exact key (inner hr id) he
    | vNsmap _ hrt hr =>
      obtain ⟨-, -, -, t, rfl⟩ := route_bytes hrt
      exact key (hr ▸ readNsMap_colon_noTop _ f ..) he
    | vSkipErr _ _ hv => exact key (inner hv (Nat.succ_ne_zero d)) he
    | vSkipOk hw hrt hv hr =>
      obtain ⟨hd0, htt⟩ := ih _ (hr.trans he)
      obtain ⟨hd, rfl, rfl⟩ := route_bytes hrt
      obtain ⟨k, tok, hk, e1, -, f1⟩ :=
        readValue_sound_X cfg opts hreg _ _ (numExact_of cfg) (strExact_of cfg) f _ true _ _ _ hv hd
      obtain ⟨tr, hb, htr⟩ := Snd.skipWs_inv hw
      dsimp only at e1
      rw [htr, e1]
      exact ⟨hd0, (TopTriviaX.discard [] tok _ k _ .nil (by omega) f1 htt).blank hb⟩

theorem eofTopX_iff (cfg : Cfg) (opts : Opts) (hreg : opts.registry = none) (input : Bytes) :
    (∃ e st, readValue { cfg := cfg, opts := opts } (readFuel input) 0 false { rest := input } = .err e st ∧
      e.eofTop = true) ↔ TopTriviaX cfg input := by
  constructor
  · rintro ⟨e, st, h, ht⟩
    exact (eofTopX_inv cfg opts hreg _ 0 false _ st e h ht).2
  · intro h
    exact ⟨eofE 0, _, (topTriviaX_reads cfg opts hreg h false).top, rfl⟩

theorem eofValueX_inv (cfg : Cfg) (opts : Opts) (hreg : opts.registry = none) (input : Bytes)
    (h : (read cfg opts input).out = .eofValue) : opts.eofValue = true ∧ TopTriviaX cfg input := by
  obtain ⟨r, hr, ho⟩ := read_out cfg opts input
  rw [h] at ho
  cases ho with
  | @eof e st hev =>
    rw [read_of_err hr] at h
    rcases ite_eq_elim h with ⟨hq, -⟩ | ⟨-, h⟩
    · simp only [Bool.and_eq_true] at hq
      exact ⟨hev, (eofTopX_inv cfg opts hreg _ 0 false _ st e hr hq.1.2).2⟩
    · cases h

theorem triviaX_only_outcome (cfg : Cfg) (opts : Opts) (hreg : opts.registry = none) (input : Bytes)
    (h : TopTriviaX cfg input) :
    (read cfg opts input).out =
      if opts.eofValue then .eofValue
      else .error .unexpectedEof (posOf input input.length) (posOf input input.length) := by
  rw [read_of_err (topTriviaX_reads cfg opts hreg h false).top]
  cases opts.eofValue <;> rfl

/-- **with an end-of-input value supplied**, in every configuration: `edn_read` returns it **iff**
    the input consists of blanks, comments (the last one possibly unclosed) and complete discarded
    forms of the configuration's grammar only -/
theorem eofX_iff_trivia_only (cfg : Cfg) (opts : Opts) (hreg : opts.registry = none) (hev : opts.eofValue = true)
    (input : Bytes) : (read cfg opts input).out = .eofValue ↔ TopTriviaX cfg input := by
  constructor
  · intro h; exact (eofValueX_inv cfg opts hreg input h).2
  · intro h
    rw [triviaX_only_outcome cfg opts hreg input h, hev]
    rfl

/-- … and **without one**: UNEXPECTED_EOF at the end of the input (nothing is accepted), no
    handler call -/
theorem triviaX_only_eof_error (cfg : Cfg) (opts : Opts) (hreg : opts.registry = none) (hev : opts.eofValue = false)
    (input : Bytes) (h : TopTriviaX cfg input) :
    (read cfg opts input).out = .error .unexpectedEof (posOf input input.length) (posOf input input.length) ∧
    (read cfg opts input).calls = [] := by
  refine ⟨by rw [triviaX_only_outcome cfg opts hreg input h, hev]; rfl, ?_⟩
  rw [read_of_err (topTriviaX_reads cfg opts hreg h false).top]

theorem topTriviaX_of_read (cfg : Cfg) (input : Bytes)
    (hb : (match (read cfg { eofValue := true } input).out with | .eofValue => true | _ => false) = true) :
    TopTriviaX cfg input := by
  apply (eofX_iff_trivia_only cfg { eofValue := true } rfl rfl input).1
  cases ho : (read cfg { eofValue := true } input).out with
  | eofValue => rfl
  | value v => rw [ho] at hb; cases hb
  | error c s e => rw [ho] at hb; cases hb
  | fuelOut => rw [ho] at hb; cases hb

theorem not_topTriviaX_of_read (cfg : Cfg) (input : Bytes)
    (hb : (match (read cfg { eofValue := true } input).out with | .eofValue => false | _ => true) = true) :
    ¬ TopTriviaX cfg input := by
  intro h
  rw [(eofX_iff_trivia_only cfg { eofValue := true } rfl rfl input).2 h] at hb
  cases hb

/-- `#_ ^:a [1] ; c` — a discarded metadata form, then an unclosed comment — holds no form with the
    Clojure flag … -/
example : TopTriviaX ⟨true, false⟩ "#_ ^:a [1] ; c".toUTF8.toList := topTriviaX_of_read _ _ (by decide +kernel)

/-- … but does without it (`^:a` is a symbol there: `#_` discards it and `[1]` is the value) -/
example : ¬ TopTriviaX Cfg.core "#_ ^:a [1] ; c".toUTF8.toList := not_topTriviaX_of_read _ _ (by decide +kernel)

example : TopTriviaX ⟨true, true⟩ "#_ #:a{:x 1}".toUTF8.toList := topTriviaX_of_read _ _ (by decide +kernel)

example : ∀ cfg ∈ [Cfg.core, ⟨true, false⟩, ⟨false, true⟩, ⟨true, true⟩], ¬ TopTriviaX cfg "#_".toUTF8.toList := by
  intro cfg hc
  apply not_topTriviaX_of_read
  revert cfg
  decide +kernel

end Edn.Proofs.RejectDocTrivX
