/-
  Continuation independence ("cut") of each leaf reader: a run on `t ++ r` that leaves all of `r`
  unread is a run on `t` followed by `r`, with the same payload and both header positions smaller by
  `r.length`.  Each is a corollary of the reader's exactness (`StrExact`; `readNumber_cut` of
  `NumberExact`; `readCharacter_sound` / `_complete`; `readIdentifier_sound` / `_complete`): the
  token judgement does not mention what follows the token, and the reader looks at what follows only
  through a condition that a prefix of the rest inherits (`DelimStart`; for a raw string literal,
  that it does not with what follows open a text block).  So the token is read off the big run
  (soundness) and read again on the small input (completeness).  `readSymbolic` has no token grammar
  of its own: its answers are characterised in `LeafSpec` (`readSymbolic_ok_iff`); the whitespace skipper is
  cut through its characterisation over `Blank`.
-/
import Edn.Proofs.ReReadShift
import Edn.Proofs.StrExact
import Edn.Proofs.NumberExact
import Edn.Proofs.CharSound
import Edn.Proofs.IdentSound

namespace Edn.Proofs
open Edn.Model Edn.Spec

theorem skipWs_head (s : Bytes) (c : UInt8) (cs : Bytes) (h : skipWs s = c :: cs) :
    (c == 0x3B) = false ∧ isWs c = false := by
  rw [skipWs_eq] at h
  obtain ⟨tr, rest, -, -, ⟨c', cs', rfl, h1, h2, hr⟩ | ⟨hr, -⟩⟩ := skipWsScalar_spec s
  · rw [hr] at h; cases h; exact ⟨h1, h2⟩
  · rw [hr] at h; cases h

/-- by the characterisation of the skipper: the blanks passed are a prefix of `t`, and what is left
    of `t` is empty or starts with the byte at which the skipper stops -/
theorem skipWs_cut (t r : Bytes) (h : r.length ≤ (skipWs (t ++ r)).length) :
    skipWs (t ++ r) = skipWs t ++ r := by
  rw [skipWs_eq] at h
  obtain ⟨tr, rest, hb, e, ⟨c, cs, rfl, h1, h2, hr⟩ | ⟨hr, -⟩⟩ := skipWsScalar_spec (t ++ r) <;> rw [hr] at h
  · obtain ⟨u, hu, rfl⟩ := append_split e h
    rw [skipWs_eq (_ ++ r), hr, skipWs_blank hb, hu]
    cases u with
    | nil => rw [skipWs_eq]; rfl
    | cons c' u' => rw [skipWs_nonws c' u' (by rw [← (List.cons.inj hu).1, isPreWs_iff, h1, h2]; rfl)]
  · obtain rfl := List.eq_nil_of_length_eq_zero (Nat.le_zero.mp h)
    rw [List.append_nil, List.append_nil]

theorem skipWs_idem (s : Bytes) : skipWs (skipWs s) = skipWs s := by
  cases h : skipWs s with
  | nil => rw [skipWs_eq]; rfl
  | cons c cs =>
    obtain ⟨h1, h2⟩ := skipWs_head s c cs h
    exact skipWs_nonws c cs (by rw [isPreWs_iff, h1, h2]; rfl)

/-- the only way a string judgement depends on the continuation survives cutting it -/
theorem expStrJ_cut {tok data : Bytes} {esc : Bool} {t' : Bytes} (r : Bytes)
    (h : expStrJ tok data esc (t' ++ r)) : expStrJ tok data esc t' := by
  refine Or.imp (fun ⟨hraw, hno⟩ => ⟨hraw, fun hp => hno ?_⟩) id h
  rw [← List.append_assoc]
  exact hp.trans (List.prefix_append _ _)

theorem readString_cut_of_exact (ctx : Ctx) {S : StrJ} (hS : StrExact ctx.cfg S)
    (hcut : ∀ tok data esc t' r, S tok data esc (t' ++ r) → S tok data esc t')
    (t r : Bytes) (cl : List Call) (hq : t.head? = some 0x22) :
    OkCut r cl (readString ctx { rest := t ++ r, calls := cl }) (readString ctx { rest := t, calls := cl }) := by
  intro v st' h hl
  obtain ⟨hd, data, esc, rfl, hst⟩ := SndX.readString_shape ctx _ st' _ h
  obtain ⟨s', cl'⟩ := st'
  dsimp only at hl hst
  cases hst
  have hq' : (t ++ r).head? = some 0x22 := by
    cases t with
    | nil => cases hq
    | cons c t => exact hq
  obtain ⟨tok, hs, hJ⟩ := (hS ctx rfl (t ++ r) s' cl data esc hq').mp ⟨hd, h⟩
  obtain ⟨t', rfl, rfl⟩ := append_split hs hl
  obtain ⟨hd', hv'⟩ := (hS ctx rfl (tok ++ t') t' cl data esc hq).mpr ⟨tok, rfl, hcut _ _ _ _ _ hJ⟩
  have p := (readString_leafRes ctx { rest := tok ++ t' ++ r, calls := cl }).post
  have p' := (readString_leafRes ctx { rest := tok ++ t', calls := cl }).post
  rw [h] at p
  rw [hv'] at p'
  refine ⟨t', _, rfl, hv', shiftV_of_strip p.1 p'.1 rfl ?_⟩
  rw [p.2, p'.2, shiftHdr_mk]
  simp only [List.length_append]

theorem readString_cut (ctx : Ctx) (t r : Bytes) (cl : List Call) (hq : t.head? = some 0x22) :
    OkCut r cl (readString ctx { rest := t ++ r, calls := cl }) (readString ctx { rest := t, calls := cl }) := by
  cases he : ctx.cfg.exp with
  | false => exact readString_cut_of_exact ctx (strExact_raw ctx.cfg he) (fun _ _ _ _ _ h => h) t r cl hq
  | true => exact readString_cut_of_exact ctx (strExact_exp ctx.cfg he) (fun _ _ _ _ r h => expStrJ_cut r h) t r cl hq


theorem readSymbolic_cut (ctx : Ctx) (t r : Bytes) (cl : List Call) :
    OkCut r cl (readSymbolic ctx { rest := t ++ r, calls := cl }) (readSymbolic ctx { rest := t, calls := cl }) := by
  intro v st' h hl
  obtain ⟨kw, bits, rest, hn, hs, rfl, rfl⟩ := (readSymbolic_ok_iff ..).mp h
  have hlen := congrArg List.length hs
  have := List.length_pos_iff.mpr hn.ne_nil
  simp only [List.length_drop, List.length_append] at hlen
  rw [List.drop_append_of_le_length (by dsimp only at hl; omega)] at hs
  obtain ⟨u, rfl, hu⟩ := append_split hs hl
  refine ⟨u, _, rfl, (readSymbolic_ok_iff ..).mpr ⟨kw, bits, u, hn, hu, rfl, rfl⟩, ?_⟩
  rw [shiftV_float, List.length_append, List.length_append]

/-- `##` is never the whole token -/
theorem readSymbolic_one (ctx : Ctx) (c : UInt8) (cl : List Call) (v : Val) (st' : St) :
    readSymbolic ctx { rest := [c], calls := cl } ≠ .ok v st' := by
  intro h
  obtain ⟨kw, bits, rest, hn, hs, -⟩ := (readSymbolic_ok_iff ..).mp h
  exact hn.ne_nil (List.append_eq_nil_iff.mp hs.symm).1
theorem ExCut_nil (x : Except Bytes Bytes) : ExCut [] x x := by
  intro rest h _
  exact ⟨rest, by simp, h⟩

theorem slice_append_right_nil (a r : Bytes) : slice (a ++ r) r = slice a [] :=
  slice_append_right a [] r

theorem dropWhile_cut_nil (p : UInt8 → Bool) (u r : Bytes)
    (h : r.length ≤ ((u ++ r).dropWhile p).length) (hu : u.dropWhile p = []) :
    (u ++ r).dropWhile p = r := by
  simp only [List.dropWhile_append, hu, List.isEmpty_nil, if_true] at h ⊢
  exact (List.dropWhile_suffix p).eq_of_length_le h

theorem finishNum_nil (v : NumVal) : finishNum v [] = .ok v [] := rfl

theorem ratioDenominator_ok_lt {s rest : Bytes} (h : ratioDenominator s = .ok rest) :
    rest.length < s.length := by
  obtain ⟨dd, rfl, ⟨hne, -⟩, -⟩ := CNum.ratioDen_inv s rest h
  rw [List.length_append]
  exact Nat.lt_add_of_pos_left (List.length_pos_iff.mpr hne)

theorem readNumberRes_cut (ctx : Ctx) (t r : Bytes) (cl : List Call) (hs : NumStart (t ++ r)) :
    OkCut r cl (readNumberRes ctx { rest := t ++ r, calls := cl }) (readNumberRes ctx { rest := t, calls := cl }) := by
  intro v st' h hl
  unfold readNumberRes at h ⊢
  dsimp only at h ⊢
  cases hb : readNumber ctx.cfg (t ++ r) with
  | err cur => rw [hb] at h; cases h
  | ok nv rest =>
    rw [hb] at h
    simp only [Res.ok.injEq] at h
    obtain ⟨hv, hst⟩ := h
    subst hst
    dsimp only at hl
    obtain ⟨t', rfl, hs⟩ := readNumber_cut ctx.cfg t r hs nv rest hb hl
    refine ⟨t', numToVal (mkHdr (ctx.pos t) (ctx.pos t')) nv, rfl, ?_, ?_⟩
    · rw [hs]
    · rw [shiftV_numToVal, ← hv]
      simp only [Ctx.pos, List.length_append]

theorem peek_append_of_ne {a : Bytes} (r : Bytes) (h : a ≠ []) : peek (a ++ r) = peek a := peek_app r h

theorem isEmpty_append_of_ne {a : Bytes} (r : Bytes) (h : a ≠ []) : (a ++ r).isEmpty = false := by
  cases a with
  | nil => exact absurd rfl h
  | cons c cs => rfl

theorem readCharacter_cut (ctx : Ctx) (t r : Bytes) (cl : List Call) :
    OkCut r cl (readCharacter ctx { rest := t ++ r, calls := cl }) (readCharacter ctx { rest := t, calls := cl }) := by
  intro v st' h hl
  obtain ⟨c0, body, cp, hs, hc, htok, hcp, hd, rfl⟩ := readCharacter_sound ctx _ st' v h
  obtain ⟨s', cl'⟩ := st'
  dsimp only at hs hc hd hl ⊢
  subst hc
  obtain ⟨t', rfl, rfl⟩ := append_split (tok := c0 :: body) hs hl
  refine ⟨t', _, rfl, readCharacter_complete ctx c0 body t' cl' cp htok hcp (DelimStart.cut hd), ?_⟩
  rw [shiftV_char]
  simp only [List.length_cons, List.length_append]
  congr 2
  omega

theorem readIdentifier_cut (ctx : Ctx) (t r : Bytes) (cl : List Call) :
    OkCut r cl (readIdentifier ctx { rest := t ++ r, calls := cl }) (readIdentifier ctx { rest := t, calls := cl }) := by
  intro v st' h hl
  obtain ⟨tok, hs, hc, hlex, hd, hden⟩ := readIdentifier_sound ctx _ st' v h
  obtain ⟨s', cl'⟩ := st'
  dsimp only at hs hc hd hl
  subst hc
  obtain ⟨t', rfl, rfl⟩ := append_split hs hl
  obtain ⟨v', hv', hsv⟩ := readIdentifier_complete ctx tok t' cl' _ hlex (DelimStart.cut hd) hden
  have p := (readIdentifier_leafRes ctx { rest := tok ++ t' ++ r, calls := cl' }).post
  have p' := (readIdentifier_leafRes ctx { rest := tok ++ t', calls := cl' }).post
  rw [h] at p
  rw [hv'] at p'
  refine ⟨t', v', rfl, hv', shiftV_of_strip p.1 p'.1 hsv ?_⟩
  rw [p.2, p'.2, shiftHdr_mk]
  simp only [List.length_append]

/-- the test the tagged-literal reader makes of its tag -/
theorem shiftV_isSym (k : Nat) (v : Val) :
    (∃ h md ns nm, shiftV k v = .sym h md ns nm) ↔ (∃ h md ns nm, v = .sym h md ns nm) :=
  ⟨fun ⟨_, _, ns, nm, e⟩ => (shiftV_eq_sym e).elim fun h' ⟨md', e'⟩ => ⟨h', md', ns, nm, e'⟩,
    fun ⟨_, _, _, _, e⟩ => e ▸ ⟨_, _, _, _, rfl⟩⟩

end Edn.Proofs
