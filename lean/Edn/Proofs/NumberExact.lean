/-
  The number-token judgement of each configuration (`numJOf cfg`) and its exactness (`numExact_of`:
  under `NumStart s`, `readNumber cfg s = .ok v rest ↔ ∃ tok, s = tok ++ rest ∧ numJOf cfg tok v rest`),
  and what follows from exactness without another walk through `readNumber`: continuation
  independence (`readNumber_cut`), because a token judgement looks at what follows the token only
  through its first byte; and flag independence (C18): the core tokens are tokens of every
  configuration, with the same payload (`readNumber_core_ok_start`).  `C18.core_numbers` speaks of
  every input, also where no token stands: that part goes through the stage lemmas with an empty
  integer part.
-/
import Edn.Spec.GrammarX
import Edn.Proofs.ExpNumberSound
import Edn.Proofs.FlagIndepAux0

namespace Edn.Proofs
open Edn.Model Edn.Spec

def expNumJ : NumJ := fun tok v rest => ExpNum tok v ∧ TermStart rest

theorem numExact_core : NumExact Cfg.core coreNumJ := by
  intro s rest v hs
  exact readNumber_core_iff s rest v hs

theorem numExact_clj (cfg : Cfg) (hc : cfg.clj = true) : NumExact cfg (cljNumJ cfg) := by
  intro s rest v hs
  exact readNumber_clj_iff cfg hc s rest v hs

theorem numExact_exp : NumExact ⟨false, true⟩ expNumJ := by
  intro s rest v hs
  exact readNumber_exp_iff s rest v hs

namespace RejectDocX

/-- the number-token judgement of a configuration: `CljNum` with the Clojure flag (with `_`
    separators when the experimental flag is set too), `ExpNum` with the experimental flag alone,
    `CoreNum` otherwise -/
def numJOf (cfg : Cfg) : NumJ :=
  match cfg.clj, cfg.exp with
  | true, _ => cljNumJ cfg
  | false, true => expNumJ
  | false, false => coreNumJ

theorem numJOf_core : numJOf Cfg.core = coreNumJ := rfl
theorem numJOf_clj : numJOf ⟨true, false⟩ = cljNumJ ⟨true, false⟩ := rfl
theorem numJOf_exp : numJOf ⟨false, true⟩ = expNumJ := rfl
theorem numJOf_clj_exp : numJOf ⟨true, true⟩ = cljNumJ ⟨true, true⟩ := rfl

theorem numExact_of (cfg : Cfg) : NumExact cfg (numJOf cfg) := by
  obtain ⟨c, e⟩ := cfg
  cases c with
  | true => exact numExact_clj ⟨true, e⟩ rfl
  | false =>
    cases e with
    | true => exact numExact_exp
    | false => exact numExact_core

end RejectDocX

open RejectDocX

theorem CljNumEnd.cut {tok : Bytes} {v : NumVal} {u r : Bytes} (h : CljNumEnd tok v (u ++ r)) :
    CljNumEnd tok v u :=
  h.imp TermStart.cut fun ⟨h1, h2, h3⟩ => ⟨h1, h2, DelimStart.cut h3⟩

/-- a token judgement looks at the continuation through its first byte only -/
theorem numJOf_cut (cfg : Cfg) {tok : Bytes} {v : NumVal} {u r : Bytes} (h : numJOf cfg tok v (u ++ r)) :
    numJOf cfg tok v u := by
  obtain ⟨c, e⟩ := cfg
  cases c with
  | true => exact ⟨h.1, CljNumEnd.cut h.2⟩
  | false =>
    cases e with
    | true => exact ⟨h.1, TermStart.cut h.2⟩
    | false => exact ⟨h.1, TermStart.cut h.2⟩

theorem numJOf_start (cfg : Cfg) {tok : Bytes} {v : NumVal} {rest : Bytes} (h : numJOf cfg tok v rest)
    (rest' : Bytes) : NumStart (tok ++ rest') := by
  obtain ⟨c, e⟩ := cfg
  cases c with
  | true => exact cljNum_start h.1 rest'
  | false =>
    cases e with
    | true => exact expNum_start h.1 rest'
    | false => exact coreNum_start h.1 rest'

/-- the token read in front of `r` is read alone as well: its judgement holds with the continuation
    cut down (`numJOf_cut`), and it starts a number whatever follows (`numJOf_start`) -/
theorem readNumber_cut (cfg : Cfg) (t r : Bytes) (hs : NumStart (t ++ r)) (v : NumVal) (rest : Bytes)
    (h : readNumber cfg (t ++ r) = .ok v rest) (hl : r.length ≤ rest.length) :
    ∃ u, rest = u ++ r ∧ readNumber cfg t = .ok v u := by
  obtain ⟨tok, e, hn⟩ := (numExact_of cfg _ _ _ hs).1 h
  obtain ⟨u, rfl, rfl⟩ := append_split e hl
  exact ⟨u, rfl, (numExact_of cfg _ _ _ (numJOf_start cfg hn u)).2 ⟨tok, rfl, numJOf_cut cfg hn⟩⟩

def Adv (s t : Bytes) : Prop := ∃ pre, s = pre ++ t ∧ (0x5F : UInt8) ∉ pre

theorem Adv.suffix {s t : Bytes} (h : Adv s t) : t <:+ s := by
  obtain ⟨pre, rfl, -⟩ := h
  exact List.suffix_append _ _

theorem core_exp : Cfg.core.exp = false := rfl
theorem core_clj : Cfg.core.clj = false := rfl

/-- the configuration enters a core token's payload only through the double, which is the same
    in every configuration when the text has no separator -/
theorem coreNum_cfg (cfg cfg' : Cfg) {tok : Bytes} {v : NumVal} (h : CoreNum cfg tok v) : CoreNum cfg' tok v := by
  cases h with
  | int sg ds neg hs hd hr => exact .int sg ds neg hs hd hr
  | big sg ds neg hs hd hr => exact .big sg ds neg hs hd hr
  | bigN sg ds neg hs hd => exact .bigN sg ds neg hs hd
  | float tok h =>
    rw [CljN.parseDouble_flag cfg cfg' tok (CNum.floatTok_no_underscore h)]
    exact .float tok h
  | bigdec sg body neg hs hb hnosign => exact .bigdec sg body neg hs hb hnosign

open CNum in
theorem coreNum_numNoUS {cfg : Cfg} {tok : Bytes} {v : NumVal} (h : CoreNum cfg tok v) : numNoUS v := by
  cases h with
  | int sg ds neg hs hd hr => trivial
  | big sg ds neg hs hd hr => exact allDigits_no_underscore (decDigits_cases hd).1
  | bigN sg ds neg hs hd => exact allDigits_no_underscore (decDigits_cases hd).1
  | float tok h => trivial
  | bigdec sg body neg hs hb hnosign =>
    rcases hb with hd | hf
    · exact allDigits_no_underscore (decDigits_cases hd).1
    · exact floatTok_no_underscore hf


/-! `C18.core_numbers` is stated for every input, also where the dispatcher never calls the number
reader (no digit after the optional sign: `readNumber Cfg.core ".5"` is a float, `"M"` a big
decimal with empty text).  There the integer part is empty and the stage lemmas apply with `ip = []`:
the core answer is inverted (`afterIp_shapes`) and run forward in `cfg` (`afterIp_fwd`). -/

open CNum in
theorem numBody_nodigit (cfg : Cfg) (s0 : Bytes) (neg : Bool) (X : Bytes) (h9 : is09 (peek X) = false)
    (hU : cfg.exp = true → (peek X == 0x5F) = false) :
    numBody cfg s0 neg X = afterIp cfg s0 neg X X := by
  have hrad : radixPart cfg neg X = none := by
    unfold radixPart
    simp only [h9, Bool.and_false, Bool.false_eq_true, ↓reduceIte]
  have h0 : ¬ (peek X == 0x30) = true := fun h => by rw [beq_iff_eq.mp h] at h9; cases h9
  have hl := decLoop_run cfg.exp X h9 hU [] (X.length + 1) (uRun_nil _ _) noTrailU_nil (by simp)
  rw [numBody, hrad]
  simp only []
  rw [if_neg h0, nonzeroPart_eq cfg s0 neg X X hl]

open CNum CljN in
theorem numBody_core_nodigit (cfg : Cfg) (sg : Bytes) (neg : Bool) (X : Bytes) (v : NumVal) (rest : Bytes)
    (hsg : (0x5F : UInt8) ∉ sg) (h9 : is09 (peek X) = false)
    (h : numBody Cfg.core (sg ++ X) neg X = .ok v rest) :
    numBody cfg (sg ++ X) neg X = .ok v rest := by
  rw [numBody_nodigit Cfg.core _ neg X h9 nofun] at h
  obtain ⟨fr, ex, hfr, hex, -, -, hshape⟩ := afterIp_shapes Cfg.core sg neg [] X v rest h
  have nfr := cljFrac_noU rfl hfr
  have nex := cljExp_noU rfl hex
  have hfr' : CljFrac cfg.exp fr := cljFrac_transfer hfr nfr
  have hex' : CljExp cfg.exp ex := cljExp_transfer hex nex
  have hsep : ex ≠ [] → NoTrailU ([] ++ fr) := fun _ => noTrailU_of_not_mem nfr
  have nbody : (0x5F : UInt8) ∉ ([] : Bytes) ++ fr ++ ex := by simp [nfr, nex]
  -- the forward run in `cfg` up to `decimalTail`, for each of the endings
  have fwd : ∀ T, stopProps (peek T) = true → numBody cfg (sg ++ (fr ++ (ex ++ T))) neg (fr ++ (ex ++ T)) =
      decimalTail cfg (sg ++ (fr ++ (ex ++ T))) neg (!fr.isEmpty) (!ex.isEmpty) ([] ++ (fr ++ (ex ++ T))) T := by
    intro T hT
    obtain ⟨k09, kUs, -⟩ := stopA_unpack (peekX_facts hfr' hex' hT).1
    rw [numBody_nodigit cfg _ neg _ k09 (fun _ => kUs)]
    exact afterIp_fwd cfg _ neg [] fr ex T hfr' hex' hsep hT
  rcases hshape with ⟨rfl, rfl, rfl, rfl, ht, -⟩ | ⟨rfl, rfl, ht, -⟩ | ⟨hc, -⟩ | ⟨hne, rfl, rfl, ht⟩ |
    ⟨rfl, rfl, hX, rfl, ht⟩
  · have := fwd (0x4E :: rest) (by decide : stopProps 0x4E = true)
    simp only [List.nil_append] at this
    rw [this]
    exact (decimalTail_N cfg _ neg [] rest noTrailU_nil).trans (finishNum_term _ ht)
  · have := fwd (0x4D :: rest) (by decide : stopProps 0x4D = true)
    rw [this]
    have e : [] ++ (fr ++ (ex ++ 0x4D :: rest)) = ([] ++ fr ++ ex) ++ 0x4D :: rest := by simp
    rw [e]
    exact (decimalTail_M cfg _ neg _ _ _ rest (noTrailU_of_not_mem nbody)).trans (finishNum_term _ ht)
  · exact Bool.noConfusion hc
  · have hst := term_props (peek_term ht)
    rw [fwd rest (stopProps2_unpack hst).1, decimalTail_float cfg _ neg _ _ _ rest hst (flags_of_ne hne),
      finishNum_term _ ht]
    have e : sg ++ (fr ++ (ex ++ rest)) = (sg ++ [] ++ fr ++ ex) ++ rest := by simp
    rw [e, slice_append, parseDouble_flag cfg Cfg.core]
    intro hm
    simp only [List.append_nil, List.append_assoc, List.mem_append] at hm
    rcases hm with hm | hm | hm
    · exact hsg hm
    · exact nfr hm
    · exact nex hm
  · subst hX
    have hst := term_props (peek_term ht)
    have := fwd X (stopProps2_unpack hst).1
    simp only [List.nil_append] at this
    rw [this]
    exact (decimalTail_int cfg _ neg [] X hst).trans (finishNum_term _ ht)

/-- C18 for numbers where the dispatcher calls the number reader -/
theorem readNumber_core_ok_start (cfg : Cfg) (s : Bytes) (hs : NumStart s) (v : NumVal) (rest : Bytes)
    (h : readNumber Cfg.core s = .ok v rest) :
    readNumber cfg s = .ok v rest ∧ rest <:+ s ∧ numNoUS v := by
  obtain ⟨tok, rfl, hn, ht⟩ := readNumber_core_sound s rest v hs h
  exact ⟨readNumber_coreNum cfg tok rest v (coreNum_cfg _ cfg hn) ht, List.suffix_append _ _, coreNum_numNoUS hn⟩

/-- the sign split of `readNumber_eq`, for every input -/
theorem sign_split (s : Bytes) : ∃ sg X neg, s = sg ++ X ∧ (0x5F : UInt8) ∉ sg ∧
    (∀ cfg, readNumber cfg s = CNum.numBody cfg s neg X) ∧ (is09 (peek X) = true → NumStart s) := by
  by_cases hc : (peek s == 0x2D || peek s == 0x2B) = true
  · cases s with
    | nil => exact absurd hc (by decide)
    | cons c t =>
      have hc' : c = 0x2D ∨ c = 0x2B := (Bool.or_eq_true _ _ ▸ hc).imp beq_iff_eq.mp beq_iff_eq.mp
      refine ⟨[c], t, c == 0x2D, rfl, ?_, fun cfg => ?_, fun h9 => ?_⟩
      · rcases hc' with rfl | rfl <;> decide
      · rw [CNum.readNumber_eq, if_pos hc]; rfl
      · cases t with
        | nil => exact absurd h9 (by decide)
        | cons nx t' =>
          exact ⟨c, nx :: t', rfl, .inr ⟨hc'.symm, nx, t', rfl, h9⟩⟩
  · refine ⟨[], s, false, rfl, by simp, fun cfg => ?_, fun h9 => ?_⟩
    · rw [CNum.readNumber_eq, if_neg hc]
    · cases s with
      | nil => exact absurd h9 (by decide)
      | cons c t => exact ⟨c, t, rfl, .inl h9⟩

end Edn.Proofs
