/-
  C19, namespaced-map half: `#:p{ body }` is read exactly like `{ body }`
  except that every key is passed through `qualifyKey p` before the duplicate check.
-/
import Edn.Spec.DispatchClj
import Edn.Proofs.Run

namespace Edn.Proofs
open Edn.Model

/-- the entry loop of `edn_read_map_internal` without the namespace prefix and the accumulators:
    an error (`.error`), or the keys and values read up to the closing brace, *in reading order*,
    and the state after the brace.  `readMap_eq_loop` ties it to `Edn.Model.readMap`. -/
def mapLoop (ctx : Ctx) : Nat → Nat → Bool → Nat → St → Except Res (List Val × List Val × St)
  | 0, _, _, _, st => .error (fuelOut st)
  | f + 1, d, dm, start, st =>
    let unterminated (st' : St) : Res :=
      .err (mkErr .unterminatedCollection (some start) (some (ctx.pos st'.rest))) st'
    match readValue ctx f (d + 1) dm st with
    | .err e st' => .error (if e.code == .unexpectedEof && !e.fuelOut then unterminated st' else .err e st')
    | .closer st' =>
      match st'.rest with
      | [] => .error (.err (mkErr .unexpectedEof (some start) (some (ctx.pos st'.rest))) st')
      | c :: r =>
        if c != 0x7D then .error (.err (mkErr .unmatchedDelimiter (some start) (some (st'.rest.length - 1))) st')
        else .ok ([], [], { st' with rest := r })
    | .ok k st' =>
      match readValue ctx f (d + 1) dm st' with
      | .closer st'' => .error (.err (mkErr .invalidSyntax (some start) (some (ctx.pos st''.rest))) st'')
      | .err e st'' => .error (if e.code == .unexpectedEof && !e.fuelOut then unterminated st'' else .err e st'')
      | .ok v st'' =>
        match mapLoop ctx f d dm start st'' with
        | .error r => .error r
        | .ok (ks, vs, stf) => .ok (k :: ks, v :: vs, stf)

/-- the closing step: duplicate check over the (possibly rewritten) keys, then the map value -/
def closeMap (ctx : Ctx) (start : Nat) (keys vals : List Val) (st : St) : Res :=
  let stop := st.rest.length
  let (dup, keys') := hasDuplicates ctx.cfg keys
  if dup then .err (mkErr .duplicateKey (some start) (some stop)) st
  else .ok (.map (mkHdr start stop) none keys' vals) st

/-- `ks`, `vs` are the reversed accumulators of entries read before -/
theorem readMap_eq_loop (ctx : Ctx) (f d : Nat) (dm : Bool) (start : Nat) (ns : Option Bytes) (st : St) (ks vs : List Val) :
    readMap ctx f d dm start ns st ks vs =
      match mapLoop ctx f d dm start st with
      | .error r => r
      | .ok (nk, nv, stf) => closeMap ctx start (ks.reverse ++ nk.map (Edn.Spec.qualifyNs ns)) (vs.reverse ++ nv) stf := by
  induction f generalizing st ks vs with
  | zero => rw [readMap, mapLoop]
  | succ f ih =>
    rw [readMap, mapLoop]
    cases h1 : readValue ctx f (d + 1) dm st with
    | err e st' => simp only []
    | closer st' =>
      simp only []
      cases hr : st'.rest with
      | nil => simp only []
      | cons c r =>
        simp only []
        by_cases hc : (c != 0x7D) = true
        · simp only [hc, if_true]
        · rw [Bool.not_eq_true] at hc
          simp only [hc, Bool.false_eq_true, if_false, closeMap, Ctx.pos, List.map_nil, List.append_nil]
    | ok k st' =>
      simp only []
      cases h2 : readValue ctx f (d + 1) dm st' with
      | closer st'' => simp only []
      | err e st'' => simp only []
      | ok v st'' =>
        simp only []
        rw [ih]
        cases hl : mapLoop ctx f d dm start st'' with
        | error r => simp only []
        | ok t =>
          obtain ⟨nk, nv, stf⟩ := t
          simp only [List.reverse_cons, List.append_assoc, List.map_cons,
            List.cons_append, List.nil_append]
          rfl

theorem readNsMap_bad_prefix (ctx : Ctx) (f d : Nat) (dm : Bool) (start : Nat) (st st' : St) (v : Val)
    (hk : readValue ctx f d dm st = .ok v st') (hv : ∀ h name, v ≠ .kw h none name) :
    readNsMap ctx (f + 1) d dm start st = .err (mkErr .invalidSyntax (some start) (some st'.rest.length)) st' :=
  run_of_rule (.nBad hk hv)

end Edn.Proofs
