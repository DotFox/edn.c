/-
  C14 at whole-document level: reading with a handler registry is the declarative dispatch
  (`Edn.Spec.dispatchV`) applied to the tree the same input reads to without a registry: same
  value, same call log in the same order, same error with the same range when a handler fails, a
  tag is unknown in error mode, or handler results collide.

  A corollary of the syntax-tree theorem of `Edn.Proofs.DispatchClj`: without the Clojure flag the
  tree is `Flat`, and on a flat tree `dispatchS` with a registry IS `dispatchV` on `eraseCache v0`
  (`dispatchV_dispatchS`, an equation): `eraseCache v0` is the tree again - the leaves as the reader
  returned them, every collection with the header `mkHdr s e` and no metadata - and the two functions
  go through the same closing functions `closeSeq` / `closeMap` / `tagResult` on the same operands.
  Nothing is asked of the handlers (`NiceRegistry` in the statement of C14 is not used).

  `dispatchV` is applied to `eraseCache v0`; on `v0` the statement is false.  The registry-free tree
  of a set or map with more than `linearThreshold` (16) elements carries the hash caches the
  duplicate check filled in; `dispatchV` rebuilds a collection around the handler results *with the
  old header*, and the hashed duplicate strategy then compares stale hashes.  `#eval` on
  the model (configuration `⟨false, false⟩`, mode 0, `foo` and `bar` both the constant handler
  returning the integer 7):

      #{[#foo 1] [#bar 1] 3 4 5 6 7 8 9 10 11 12 13 14 15 16 17 18}

  * read with the registry: DUPLICATE_ELEMENT, offsets 0 … 61, two calls (the two `[7]` collide);
  * `dispatchV cfg reg 0 v0`: `(2 calls, .ok _)` — the two vectors keep the cached hashes of
    `[#foo 1]` and `[#bar 1]`, which differ, so `hasDupHashed` never compares them;
  * `dispatchV cfg reg 0 (eraseCache v0)`: `(2 calls, .error (.duplicateElement, 61, 0))`, the
    read's answer (remaining-length coordinates 61, 0 = offsets 0, 61).

  An artefact of replaying the dispatch on a finished tree, not a property of the C code (there the
  handlers run during the read, before any cache is filled).
-/
import Edn.Proofs.DispatchClj
import Edn.Proofs.CacheErase

namespace Edn.Proofs
open Edn.Model Edn.Spec Edn.Generated DClj

theorem eraseCache_idem_hdr (h : Hdr) (hh : h.hc = 0) : ({ h with hc := 0 } : Hdr) = h := by
  cases h; cases hh; rfl

mutual
theorem eraseCache_idem : ∀ v : Val, eraseCache (eraseCache v) = eraseCache v
  | .list h m xs => by
    show Val.list _ (eraseCacheO (eraseCacheO m)) (eraseCacheL (eraseCacheL xs)) = Val.list _ (eraseCacheO m) (eraseCacheL xs)
    rw [eraseCacheO_idem m, eraseCacheL_idem xs]
  | .vec h m xs => by
    show Val.vec _ (eraseCacheO (eraseCacheO m)) (eraseCacheL (eraseCacheL xs)) = Val.vec _ (eraseCacheO m) (eraseCacheL xs)
    rw [eraseCacheO_idem m, eraseCacheL_idem xs]
  | .set h m xs => by
    show Val.set _ (eraseCacheO (eraseCacheO m)) (eraseCacheL (eraseCacheL xs)) = Val.set _ (eraseCacheO m) (eraseCacheL xs)
    rw [eraseCacheO_idem m, eraseCacheL_idem xs]
  | .map h m ks vs => by
    show Val.map _ (eraseCacheO (eraseCacheO m)) (eraseCacheL (eraseCacheL ks)) (eraseCacheL (eraseCacheL vs))
      = Val.map _ (eraseCacheO m) (eraseCacheL ks) (eraseCacheL vs)
    rw [eraseCacheO_idem m, eraseCacheL_idem ks, eraseCacheL_idem vs]
  | .tagged h m t v => by
    show Val.tagged _ (eraseCacheO (eraseCacheO m)) t (eraseCache (eraseCache v)) = Val.tagged _ (eraseCacheO m) t (eraseCache v)
    rw [eraseCacheO_idem m, eraseCache_idem v]
  | .sym h m ns nm => by
    show Val.sym _ (eraseCacheO (eraseCacheO m)) ns nm = Val.sym _ (eraseCacheO m) ns nm
    rw [eraseCacheO_idem m]
  | .nil .. | .bool .. | .int .. | .bigint .. | .float .. | .bigdec .. | .ratio .. | .bigratio ..
  | .char .. | .str .. | .kw .. | .ext .. => rfl
theorem eraseCacheL_idem : ∀ l : List Val, eraseCacheL (eraseCacheL l) = eraseCacheL l
  | [] => rfl
  | x :: xs => by
    show eraseCache (eraseCache x) :: eraseCacheL (eraseCacheL xs) = eraseCache x :: eraseCacheL xs
    rw [eraseCache_idem x, eraseCacheL_idem xs]
theorem eraseCacheO_idem : ∀ o : Option Val, eraseCacheO (eraseCacheO o) = eraseCacheO o
  | none => rfl
  | some m => by
    show some (eraseCache (eraseCache m)) = some (eraseCache m)
    rw [eraseCache_idem m]
end

theorem eraseCache_set_fresh (s e : Nat) (xs : List Val) :
    eraseCache (.set (mkHdr s e) none xs) = .set (mkHdr s e) none (eraseCacheL xs) := rfl
theorem eraseCache_map_fresh (s e : Nat) (ks vs : List Val) :
    eraseCache (.map (mkHdr s e) none ks vs) = .map (mkHdr s e) none (eraseCacheL ks) (eraseCacheL vs) := rfl
theorem eraseCache_tagged_fresh (s e : Nat) (tag : Bytes) (v : Val) :
    eraseCache (.tagged (mkHdr s e) none tag v) = .tagged (mkHdr s e) none tag (eraseCache v) := rfl

/-- what the statement of C14 (`Edn.Properties.C14`) assumes of a handler function, and no proof uses:
    it does not look at hash-cache cells (they record only whether somebody asked for a hash before), and it returns well-formed values with
    valid caches of bounded depth when given such values.  (The C handlers build their results
    through the public constructors, which start with an empty cache.)  The depth bound "at
    most one level more than the operand" is what keeps the reader's depth invariant: the
    result replaces the tagged element, which is one level deeper than its operand. -/
structure NiceHandler (cfg : Cfg) (hd : Handler) : Prop where
  cacheBlind : ∀ v w, eraseCache v = eraseCache w →
    (hd.run v).map eraseCache = (hd.run w).map eraseCache
  wellFormed : ∀ v r, WF cfg v → cacheOK cfg v = true → hd.run v = some r →
    WF cfg r ∧ cacheOK cfg r = true ∧ depth r ≤ depth v + 1

def NiceRegistry (cfg : Cfg) (reg : Bytes → Option Handler) : Prop :=
  ∀ tag hd, reg tag = some hd → NiceHandler cfg hd

def SameUpToCache (a b : Val) : Prop := eraseCache a = eraseCache b

/-- a scalar as the leaf readers return it has no cache cell to empty -/
theorem eraseCache_leaf {v : Val} (hl : isLeaf v = true) (hc : v.hdr.hc = 0) : eraseCache v = v :=
  calc eraseCache v
      = v.setHdr { v.hdr with hc := 0 } := by
        cases v with
        | sym h md ns nm => cases md with
          | none => rfl
          | some _ => cases hl
        | _ => first | rfl | cases hl
    _ = v.setHdr v.hdr := by rw [eraseCache_idem_hdr _ hc]
    _ = v := by cases v <;> rfl

section
variable (cfg : Cfg) (reg : Bytes → Option Handler) (mode : Nat)

theorem dispatchV_leaf (v : Val) (h : isLeaf v = true) : dispatchV cfg reg mode v = ([], .ok v) := by
  unfold dispatchV
  split <;> first | rfl | cases h

theorem dispatchEach_cons (x : Val) (xs : List Val) :
  dispatchEach cfg reg mode (x :: xs) = dispatchV cfg reg mode x :: dispatchEach cfg reg mode xs := by
  rw [dispatchEach]
theorem dispatchEach_nil : dispatchEach cfg reg mode [] = [] := by
  rw [dispatchEach]

theorem dispatchV_list (s e : Nat) (xs : List Val) :
    dispatchV cfg reg mode (.list (mkHdr s e) none xs)
      = closeSeq cfg 0 s e (seqR (dispatchEach cfg reg mode xs)) := by
  rw [dispatchV]
  rcases seqR (dispatchEach cfg reg mode xs) with ⟨c, er | ys⟩ <;> rfl

theorem dispatchV_vec (s e : Nat) (xs : List Val) :
    dispatchV cfg reg mode (.vec (mkHdr s e) none xs)
      = closeSeq cfg 1 s e (seqR (dispatchEach cfg reg mode xs)) := by
  rw [dispatchV]
  rcases seqR (dispatchEach cfg reg mode xs) with ⟨c, er | ys⟩ <;> rfl

theorem dispatchV_set (s e : Nat) (xs : List Val) :
    dispatchV cfg reg mode (.set (mkHdr s e) none xs)
      = closeSeq cfg 2 s e (seqR (dispatchEach cfg reg mode xs)) := by
  rw [dispatchV]
  rcases seqR (dispatchEach cfg reg mode xs) with ⟨c, er | ys⟩ <;> rfl

theorem dispatchV_map (s e : Nat) (ks vs : List Val) :
    dispatchV cfg reg mode (.map (mkHdr s e) none ks vs)
      = closeMap cfg s e (seqR (interleave2 (dispatchEach cfg reg mode ks) (dispatchEach cfg reg mode vs))) := by
  rw [dispatchV]
  rcases seqR (interleave2 (dispatchEach cfg reg mode ks) (dispatchEach cfg reg mode vs)) with ⟨c, er | ys⟩ <;> rfl

theorem dispatchV_tagged (s e : Nat) (tag : Bytes) (v : Val) :
    dispatchV cfg reg mode (.tagged (mkHdr s e) none tag v)
      = tagResult (some reg) mode s e tag (dispatchV cfg reg mode v) := by
  rw [dispatchV]
  rcases dispatchV cfg reg mode v with ⟨c, er | v'⟩ <;> rfl

theorem dispatchV_of_closeSeq {kind s e : Nat} {c0 : List Call} {ys : List Val} {v0 : Val}
    (h : (closeSeq cfg kind s e (c0, .ok ys)).2 = .ok v0) :
    dispatchV cfg reg mode (eraseCache v0)
      = closeSeq cfg kind s e (seqR (dispatchEach cfg reg mode (eraseCacheL ys))) := by
  rw [closeSeq_ok] at h
  by_cases hk0 : (kind == 0) = true
  · rw [if_pos hk0] at h
    cases eq_of_beq hk0
    cases h
    exact dispatchV_list cfg reg mode s e _
  rw [if_neg hk0] at h
  by_cases hk1 : (kind == 1) = true
  · rw [if_pos hk1] at h
    cases eq_of_beq hk1
    cases h
    exact dispatchV_vec cfg reg mode s e _
  rw [if_neg hk1] at h
  have hk : ∀ p, closeSeq cfg kind s e p = closeSeq cfg 2 s e p := by
    rintro ⟨c, er | xs⟩
    · rfl
    · rw [closeSeq_ok, closeSeq_ok, if_neg hk0, if_neg hk1]; rfl
  split at h
  · cases h
  · cases h
    rw [hk, eraseCache_set_fresh, hasDuplicates_snd_erase]
    exact dispatchV_set cfg reg mode s e _

theorem dispatchV_of_closeMap {s e : Nat} {c0 : List Call} {zs : List Val} {v0 : Val}
    (h : (closeMap cfg s e (c0, .ok zs)).2 = .ok v0) :
    dispatchV cfg reg mode (eraseCache v0)
      = closeMap cfg s e (seqR (interleave2 (dispatchEach cfg reg mode (eraseCacheL (uninterleave zs).1))
          (dispatchEach cfg reg mode (eraseCacheL (uninterleave zs).2)))) := by
  unfold closeMap at h
  dsimp only at h
  split at h
  · cases h
  · cases h
    rw [eraseCache_map_fresh, hasDuplicates_snd_erase]
    exact dispatchV_map cfg reg mode s e _ _

theorem seqR_ok_map : ∀ {l : List DOne} {c : List Call} {ys : List Val}, seqR l = (c, .ok ys) →
    l.map (·.2) = ys.map .ok
  | [], c, ys, h => by rw [seqR] at h; cases h; rfl
  | (c1, .error e) :: l, c, ys, h => by rw [seqR_cons_err] at h; cases h
  | (c1, .ok x) :: l, c, ys, h => by
    obtain ⟨c2, xs, h1, rfl, rfl⟩ := seqR_cons_ok_inv h
    rw [List.map_cons, List.map_cons, seqR_ok_map h1]

theorem uninterleave_map {α β : Type} (f : α → β) : ∀ l : List α,
    uninterleave (l.map f) = ((uninterleave l).1.map f, (uninterleave l).2.map f)
  | [] => rfl
  | [_] => rfl
  | k :: v :: l => by
    rw [List.map_cons, List.map_cons, uninterleave, uninterleave, uninterleave_map f l]
    rfl

theorem qualD_none_map (l : List DOne) : l.map (qualD none) = l := by
  induction l with
  | nil => rfl
  | cons a l ih =>
    obtain ⟨c, er | k⟩ := a
    · rw [List.map_cons, ih]; rfl
    · rw [List.map_cons, ih]; rfl

mutual
/-- On the tree of a document read without the Clojure flag, the dispatch with a registry is `dispatchV`
    on the registry-free reading `v0` of the tree with its cache cells emptied: the two go through the same
    closing functions, and the emptied elements of `v0` are the leaves of the tree (`hasDuplicates` fills the
    cells of a set's elements and of a map's keys on both sides alike). -/
theorem dispatchV_dispatchS : ∀ (t : Syn) (v0 : Val), Flat t → (dispatchS cfg none 0 t).2 = .ok v0 →
    dispatchV cfg reg mode (eraseCache v0) = dispatchS cfg (some reg) mode t
  | .leaf v, v0, hf, hp => by
    rw [dispatchS_leaf] at hp ⊢
    cases hp
    rw [eraseCache_leaf hf.1 hf.2, dispatchV_leaf cfg reg mode _ hf.1]
  | .seq kind s e xs, v0, hf, hp => by
    rw [dispatchS_seq] at hp ⊢
    rcases hps : seqR (dispatchEachS cfg none 0 xs) with ⟨c0, er | ys⟩
    · rw [hps] at hp; cases hp
    · rw [hps] at hp
      rw [dispatchV_of_closeSeq cfg reg mode hp, dispatchEach_dispatchEachS xs ys hf (seqR_ok_map hps)]
  | .map s e ns ks vs, v0, hf, hp => by
    obtain ⟨rfl, hl, hks, hvs⟩ := hf
    rw [dispatchS_map, qualD_none_map] at hp ⊢
    rcases hps : seqR (interleave2 (dispatchEachS cfg none 0 ks) (dispatchEachS cfg none 0 vs)) with ⟨c0, er | zs⟩
    · rw [hps] at hp; cases hp
    · rw [hps] at hp
      -- the outcomes of keys and values apart: both sides of `seqR_ok_map` taken apart by `uninterleave`
      have h := congrArg uninterleave (seqR_ok_map hps)
      rw [uninterleave_map, uninterleave_map, uninterleave_interleave2 _ _
        (by rw [dispatchEachS_length, dispatchEachS_length, hl])] at h
      obtain ⟨hk, hv⟩ := Prod.mk.inj h
      rw [dispatchV_of_closeMap cfg reg mode hp, dispatchEach_dispatchEachS ks _ hks hk,
        dispatchEach_dispatchEachS vs _ hvs hv]
  | .tagged s e tag x, v0, hf, hp => by
    rw [dispatchS_tagged] at hp ⊢
    rcases hpx : dispatchS cfg none 0 x with ⟨c0, er | x0⟩
    · rw [hpx] at hp; cases hp
    · rw [hpx] at hp
      cases hp
      rw [eraseCache_tagged_fresh, dispatchV_tagged, dispatchV_dispatchS x x0 hf (by rw [hpx])]
  | .ann .., _, hf, _ => hf.elim
theorem dispatchEach_dispatchEachS : ∀ (ts : List Syn) (ys : List Val), FlatL ts →
    (dispatchEachS cfg none 0 ts).map (·.2) = ys.map .ok →
    dispatchEach cfg reg mode (eraseCacheL ys) = dispatchEachS cfg (some reg) mode ts
  | [], ys, _, hy => by
    rw [dispatchEachS_nil] at hy ⊢
    cases ys with
    | nil => exact dispatchEach_nil cfg reg mode
    | cons y ys => cases hy
  | t :: ts, ys, hf, hy => by
    rw [dispatchEachS_cons] at hy ⊢
    cases ys with
    | nil => cases hy
    | cons y ys =>
      obtain ⟨h1, h2⟩ := List.cons.inj hy
      rw [eraseCacheL_cons, dispatchEach_cons, dispatchV_dispatchS t y hf.1 h1, dispatchEach_dispatchEachS ts ys hf.2 h2]
end

end

example (cfg : Cfg) (nm : String) : NiceHandler cfg ⟨nm, fun v => some v⟩ where
  cacheBlind := fun v w h => by
    show some (eraseCache v) = some (eraseCache w)
    rw [h]
  wellFormed := fun v r hw hcv hr => by
    have : v = r := Option.some.inj hr
    subst this
    exact ⟨hw, hcv, Nat.le_succ _⟩

example (cfg : Cfg) (nm : String) (i : Int) : NiceHandler cfg ⟨nm, fun _ => some (.int (mkHdr 0 0) i)⟩ where
  cacheBlind := fun _ _ _ => rfl
  wellFormed := fun v r _ _ hr => by
    have : Val.int (mkHdr 0 0) i = r := Option.some.inj hr
    subst this
    exact ⟨trivial, rfl, Nat.zero_le _⟩

example (cfg : Cfg) (nm : String) : NiceHandler cfg ⟨nm, fun _ => none⟩ where
  cacheBlind := fun _ _ _ => rfl
  wellFormed := fun _ _ _ _ hr => by cases hr

/-- Top level.  If the input reads to `v0` without a registry, then with any registry `reg` and default
    mode `opts.mode` the read returns what `dispatchV` computes from `v0` with its cache cells emptied (see the
    file header): the value and exactly the calls, or the error with its range and the calls made until then. -/
theorem read_with_registry (cfg : Cfg) (hc : cfg.clj = false) (opts : Opts) (reg : Bytes → Option Handler)
    (input : Bytes) (v0 : Val) (h0 : (read cfg { opts with registry := none } input).out = .value v0) :
    ReadIs (read cfg { opts with registry := some reg } input) input.length
      (dispatchV cfg reg opts.mode (eraseCache v0)) := by
  obtain ⟨t, hflat, ht⟩ := read_has_tree cfg _ input v0 h0
  rw [dispatchV_dispatchS cfg reg opts.mode t v0 (hflat hc)
    (congrArg Prod.snd (plainS_of_tree cfg opts input v0 t h0 ht))]
  exact ht { opts with registry := some reg }

end Edn.Proofs
