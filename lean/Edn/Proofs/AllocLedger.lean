/-
  Nothing leaks, nothing is freed twice (properties C15 / C16, ledger part), for the reader of
  Edn.Model.ReaderA under EVERY fault oracle (every single failure, every failure from some request
  on, every other schedule).

  One walk through the six mutually recursive reader functions, by induction on the fuel (`reader_rg`):
  each keeps the ledger and returns a value only with a live arena (`RGC`), given that what lies below
  them does (Edn.Proofs.AllocLedgerKept).  Then the whole read (`readA_ledger`) and the accessors.
  `Good`, `RG`, `Sync` of the end state and "requests and events are only added" (`Cont.le`) are
  consequences of `GoodC` / `Cont`.
-/
import Edn.Proofs.AllocLedgerKept
import Edn.Proofs.AllocNumber

namespace Edn.Proofs.AllocLedger
open Edn.Model Edn.Proofs Edn.Proofs.AllocBasic Edn.Proofs.AllocNumber
open Edn.Generated

structure Readers (P : ASt → Res × ASt → Prop) (x : ACtx) (f : Nat) : Prop where
  value : ∀ d dm st a, P a (readValueA x f d dm st a)
  seq : ∀ d dm kind start st a b acc, P a (readSeqA x f d dm kind start st a b acc)
  map : ∀ d dm start ns st a b ks vs, P a (readMapA x f d dm start ns st a b ks vs)
  nsMap : ∀ d dm start st a, P a (readNsMapA x f d dm start st a)
  tagged : ∀ d dm start st a, P a (readTaggedA x f d dm start st a)
  metadata : ∀ d dm start st a, P a (readMetaA x f d dm start st a)

theorem Readers.imp {P Q : ASt → Res × ASt → Prop} {x : ACtx} {f : Nat} (h : Readers P x f)
    (hpq : ∀ a r, P a r → Q a r) : Readers Q x f :=
  ⟨fun d dm st a => hpq _ _ (h.value d dm st a), fun d dm kind start st a b acc => hpq _ _ (h.seq d dm kind start st a b acc),
    fun d dm start ns st a b ks vs => hpq _ _ (h.map d dm start ns st a b ks vs), fun d dm start st a => hpq _ _ (h.nsMap d dm start st a),
    fun d dm start st a => hpq _ _ (h.tagged d dm start st a), fun d dm start st a => hpq _ _ (h.metadata d dm start st a)⟩

theorem valueA_rg {a a1 : ASt} (g : GoodC a a1) (x : ACtx) (v : Val) (st stE : St) : RGC a (valueA x a1 v st stE) := by
  unfold valueA
  cases h : (a1.request x.orc .arena).1
  · exact RGC.err (GoodC.trans g (request_good x.orc a1 0)) _ _
  · exact RGC.granted g h (GoodC.refl _) _

theorem dupCloseA_rg {a a1 : ASt} (g : GoodC a a1) (x : ACtx) (xs : List Val) (e : ErrInfo) (st : St)
    (mk : List Val → Val) : RGC a (dupCloseA x xs a1 e st mk) :=
  have g2 := GoodC.trans g (hasDuplicatesA_kept x xs a1)
  ite_ind (fun _ => RGC.err g2 _ _) (fun _ => ite_ind (fun _ => RGC.err g2 _ _) (fun _ => valueA_rg g2 x _ _ _))

theorem oneRequest_rg (x : ACtx) (stE : St → St) (r0 : Res) (a : ASt) : RGC a (oneRequest x stE r0 a) := by
  unfold oneRequest
  cases r0 with
  | ok v st' =>
    dsimp only
    cases h : (a.request x.orc .arena).1
    · exact RGC.err (request_good x.orc a 0) _ _
    · exact RGC.granted (GoodC.refl a) h (GoodC.refl _) _
  | closer st' => exact RGC.closer (GoodC.refl a) _
  | err e st' => exact RGC.err (GoodC.refl a) _ _

theorem readStringA_rg (x : ACtx) (st : St) (a : ASt) : RGC a (readStringA x st a) :=
  ite_ind (fun _ => readTextBlockA_rg x st a) (fun _ => oneRequest_rg x _ _ a)

theorem numCreateA_rg (x : ACtx) (st : St) (a : ASt) (v : NumVal) (p : Bytes) (validate : Bool) :
    RGC a (numCreateA x st a v p validate) := by
  have h2 := floatHeapA_kept x (numNeedsHeap x.ctx.cfg v (slice st.rest p)) (a.request x.orc .arena).2
  cases hr : (a.request x.orc .arena).1
  · have e : numCreateA x st a v p validate = (numErrA x.ctx st p, (a.request x.orc .arena).2) := by
      unfold numCreateA
      simp only [hr, Bool.not_false, ↓reduceIte]
    rw [e]
    exact RGC.err (request_good x.orc a 0) _ _
  · have h := RGC.granted (GoodC.refl a) hr h2
    unfold numCreateA
    simp only [hr, Bool.not_true, Bool.false_eq_true, ↓reduceIte]
    exact ite_ind (fun _ => h _) (fun _ => ite_ind (fun _ => h _) (fun _ => h _))

theorem readNumberResA_rg (x : ACtx) (st : St) (a : ASt) : RGC a (readNumberResA x st a) := by
  unfold readNumberResA
  apply readNumberK_pred (RGC a)
  · intro v p validate; exact numCreateA_rg x st a v p validate
  · intro cur; exact RGC.err (GoodC.refl a) _ _

theorem readSeqA_step (x : ACtx) (f : Nat) (ih : Readers RGC x f) (d : Nat) (dm : Bool) (kind start : Nat) (st : St)
    (a : ASt) (b : BSt) (acc : List Val) : RGC a (readSeqA x (f + 1) d dm kind start st a b acc) := by
  rw [readSeqA]
  dsimp only
  have h1 := ih.value (d + 1) dm st a
  rcases hq : readValueA x f (d + 1) dm st a with ⟨r, a'⟩
  rw [hq] at h1
  have g0 : GoodC a a' := h1.1
  cases r with
  | ok v st' =>
    dsimp only
    have hb := GoodC.trans g0 ((add_prim x b a').kept)
    cases hqb : b.add x a' with
    | mk ob a1 =>
      rw [hqb] at hb
      cases ob with
      | none => exact RGC.err hb _ _
      | some b' => exact RGC.after hb (ih.seq d dm kind start st' a1 b' (v :: acc))
  | err e st' => exact ite_ind (fun _ => RGC.err g0 _ _) (fun _ => RGC.err g0 _ _)
  | closer st' =>
    dsimp only
    cases st'.rest with
    | nil => exact RGC.err g0 _ _
    | cons c r =>
      refine ite_ind (fun _ => RGC.err g0 _ _) (fun _ => ?_)
      have g1 := GoodC.trans g0 ((finish_prim x b a').kept)
      refine ite_ind (fun _ => RGC.err g1 _ _) (fun _ => ite_ind (fun _ => valueA_rg g1 x _ _ _)
        (fun _ => ite_ind (fun _ => valueA_rg g1 x _ _ _) (fun _ => dupCloseA_rg g1 x _ _ _ _)))

theorem readMapA_step (x : ACtx) (f : Nat) (ih : Readers RGC x f) (d : Nat) (dm : Bool) (start : Nat) (ns : Option Bytes)
    (st : St) (a : ASt) (b : BSt) (ks vs : List Val) : RGC a (readMapA x (f + 1) d dm start ns st a b ks vs) := by
  rw [readMapA]
  dsimp only
  have h1 := ih.value (d + 1) dm st a
  rcases hq : readValueA x f (d + 1) dm st a with ⟨r, a'⟩
  rw [hq] at h1
  have g0 : GoodC a a' := h1.1
  cases r with
  | err e st' => exact ite_ind (fun _ => RGC.err g0 _ _) (fun _ => RGC.err g0 _ _)
  | closer st' =>
    dsimp only
    cases st'.rest with
    | nil => exact RGC.err g0 _ _
    | cons c r =>
      refine ite_ind (fun _ => RGC.err g0 _ _) (fun _ => ?_)
      have g1 := GoodC.trans g0 ((finishPair_prim x b a').kept)
      exact ite_ind (fun _ => RGC.err g1 _ _)
        (fun _ => dupCloseA_rg g1 x _ _ _ fun ys => .map _ none ys vs.reverse)
  | ok k st' =>
    dsimp only
    have h2 := RGC.after g0 (ih.value (d + 1) dm st' a')
    rcases hq2 : readValueA x f (d + 1) dm st' a' with ⟨r2, a''⟩
    rw [hq2] at h2
    have g0' : GoodC a a'' := h2.1
    cases r2 with
    | closer st'' => exact RGC.err g0' _ _
    | err e st'' => exact ite_ind (fun _ => RGC.err g0' _ _) (fun _ => RGC.err g0' _ _)
    | ok v st'' =>
      dsimp only
      -- the rewritten key
      have g1 := GoodC.trans g0' ((optional_prim x (ns.isSome && qualifyAllocs k) a'').kept)
      refine ite_ind (fun _ => RGC.err g1 _ _) (fun _ => ?_)
      generalize (if (ns.isSome && qualifyAllocs k) = true then a''.request x.orc .arena else (true, a'')).2 = a1 at g1 ⊢
      have hb := GoodC.trans g1 ((addPair_prim x b a1).kept)
      cases hqb : b.addPair x a1 with
      | mk ob a2 =>
        rw [hqb] at hb
        cases ob with
        | none => exact RGC.err hb _ _
        | some b' => exact RGC.after hb (ih.map d dm start ns st'' a2 b' _ _)

theorem readNsMapA_step (x : ACtx) (f : Nat) (ih : Readers RGC x f) (d : Nat) (dm : Bool) (start : Nat) (st : St)
    (a : ASt) : RGC a (readNsMapA x (f + 1) d dm start st a) := by
  rw [readNsMapA]
  dsimp only
  have h1 := ih.value d dm st a
  rcases hq : readValueA x f d dm st a with ⟨r, a'⟩
  rw [hq] at h1
  have g0 : GoodC a a' := h1.1
  cases r with
  | closer st' => exact RGC.closer g0 _
  | err e st' => exact RGC.err g0 _ _
  | ok kwv st' =>
    dsimp only
    split
    · split
      · exact ite_ind (fun _ => RGC.after g0 (ih.map d dm start _ _ a' {} [] [])) (fun _ => RGC.err g0 _ _)
      · exact RGC.err g0 _ _
    · exact RGC.err g0 _ _

theorem readMetaA_step (x : ACtx) (f : Nat) (ih : Readers RGC x f) (d : Nat) (dm : Bool) (start : Nat) (st : St)
    (a : ASt) : RGC a (readMetaA x (f + 1) d dm start st a) := by
  rw [readMetaA]
  dsimp only
  have h1 := ih.value (d + 1) dm st a
  rcases hq : readValueA x f (d + 1) dm st a with ⟨r, a'⟩
  rw [hq] at h1
  have g0 : GoodC a a' := h1.1
  cases r with
  | closer st' => exact RGC.err g0 _ _
  | err e st' => exact RGC.err g0 _ _
  | ok m st' =>
    dsimp only
    cases metaEntries m with
    | none => exact RGC.err g0 _ _
    | some nkv =>
      dsimp only
      have h2 := RGC.after g0 (ih.value (d + 1) dm st' a')
      rcases hq2 : readValueA x f (d + 1) dm st' a' with ⟨r2, a''⟩
      rw [hq2] at h2
      have g0' : GoodC a a'' := h2.1
      cases r2 with
      | closer st'' => exact RGC.err g0' _ _
      | err e st'' => exact RGC.err g0' _ _
      | ok form st'' =>
        refine ite_ind (fun _ => RGC.err g0' _ _) (fun _ => ?_)
        have hm := attachMetaA_kept x m form nkv.1 nkv.2 a''
        cases hqm : attachMetaA x m form nkv.1 nkv.2 a'' with
        | mk o a1 =>
          rw [hqm] at hm
          cases o with
          | none => exact RGC.err (GoodC.trans g0' hm) _ _
          | some form' => exact RGC.pass h2 hm _

theorem readTaggedA_step (x : ACtx) (f : Nat) (ih : Readers RGC x f) (d : Nat) (dm : Bool) (start : Nat) (st : St)
    (a : ASt) : RGC a (readTaggedA x (f + 1) d dm start st a) := by
  rw [readTaggedA]
  dsimp only
  cases hs : st.rest with
  | nil => exact RGC.err (GoodC.refl a) _ _
  | cons c cs =>
    refine ite_ind (fun _ => RGC.err (GoodC.refl a) _ _) (fun _ => ?_)
    have h1 : RGC a (readIdentifierA x st a) := oneRequest_rg x _ _ a
    rcases hq : readIdentifierA x st a with ⟨r, a'⟩
    rw [hq] at h1
    have g0 : GoodC a a' := h1.1
    cases r with
    | closer st' => exact RGC.closer g0 _
    | err e st' => exact RGC.err g0 _ _
    | ok tagv st' =>
      cases tagv
      case sym =>
        dsimp only
        have h2 := RGC.after g0 (ih.value (d + 1) dm st' a')
        rcases hq2 : readValueA x f (d + 1) dm st' a' with ⟨r2, a''⟩
        rw [hq2] at h2
        have g0' : GoodC a a'' := h2.1
        cases r2 with
        | closer st'' => exact RGC.err g0' _ _
        | err e st'' => exact RGC.err g0' _ _
        | ok v st'' =>
          dsimp only
          cases x.ctx.opts.registry with
          | none => exact valueA_rg g0' x _ _ _
          | some reg =>
            refine ite_ind (fun _ => valueA_rg g0' x _ _ _) (fun _ => ?_)
            split
            · next h _ =>
              -- the handler's own request
              have g1 := (optional_prim x (x.handlerReq h.name) a'').kept
              refine ite_ind (fun _ => RGC.err (GoodC.trans g0' g1) _ _) (fun _ => ?_)
              split
              · exact RGC.err (GoodC.trans g0' g1) _ _
              · exact RGC.pass h2 (GoodC.trans g1 (rekey_kept _ _ _)) _
            · exact ite_ind (fun _ => RGC.pass h2 (GoodC.refl _) _)
                (fun _ => ite_ind (fun _ => RGC.err g0' _ _) (fun _ => valueA_rg g0' x _ _ _))
      all_goals exact RGC.err g0 _ _

theorem readValueA_step (x : ACtx) (f : Nat) (ih : Readers RGC x f) (d : Nat) (dm : Bool) (st : St) (a : ASt) :
    RGC a (readValueA x (f + 1) d dm st a) := by
  have here := RGC.err (GoodC.refl a)
  rw [readValueA]
  dsimp only
  cases st.rest with
  | nil => exact here _ _
  | cons c0 s0 =>
    dsimp only
    cases (if isPreWs c0 = true then skipWs (c0 :: s0) else c0 :: s0) with
    | nil => exact here _ _
    | cons c cs =>
      dsimp only
      cases dispatch x.ctx.cfg c with
      | string => exact readStringA_rg x _ a
      | character => exact oneRequest_rg x _ _ a
      | listOpen => exact ite_ind (fun _ => here _ _) (fun _ => ih.seq ..)
      | vectorOpen => exact ite_ind (fun _ => here _ _) (fun _ => ih.seq ..)
      | mapOpen => exact ite_ind (fun _ => here _ _) (fun _ => ih.map ..)
      | hash =>
        cases cs with
        | nil => exact ih.tagged ..
        | cons nx cs' =>
          refine ite_ind (fun _ => oneRequest_rg x _ _ a) (fun _ => ite_ind (fun _ => here _ _)
            (fun _ => ite_ind (fun _ => ih.seq ..) (fun _ => ite_ind (fun _ => ?_)
              (fun _ => ite_ind (fun _ => ih.nsMap ..) (fun _ => ih.tagged ..)))))
          -- the discard form `#_`: one value is read and dropped, the next one is the result
          have h1 := ih.value (d + 1) true { rest := cs', calls := st.calls } a
          rcases hq : readValueA x f (d + 1) true { rest := cs', calls := st.calls } a with ⟨r, a'⟩
          rw [hq] at h1
          have g0 : GoodC a a' := h1.1
          cases r with
          | ok v st' => exact RGC.after g0 (ih.value d dm st' a')
          | closer st' => exact RGC.err g0 _ _
          | err e st' => exact RGC.err g0 _ _
      | sign =>
        cases cs with
        | nil => exact oneRequest_rg x _ _ a
        | cons nx _ => exact ite_ind (fun _ => readNumberResA_rg x _ a) (fun _ => oneRequest_rg x _ _ a)
      | digit => exact readNumberResA_rg x _ a
      | delimiter => exact ite_ind (fun _ => here _ _) (fun _ => RGC.closer (GoodC.refl a) _)
      | metadata => exact ite_ind (fun _ => here _ _) (fun _ => ih.metadata ..)
      | identifier => exact oneRequest_rg x _ _ a

theorem reader_rg (x : ACtx) (f : Nat) : Readers RGC x f := by
  induction f with
  | zero =>
    have out : ∀ (a : ASt) (st : St), RGC a (fuelOut st, a) := fun a st => RGC.err (GoodC.refl a) _ _
    refine ⟨?_, ?_, ?_, ?_, ?_, ?_⟩
    · intro d dm st a; rw [readValueA]; exact out a st
    · intro d dm kind start st a b acc; rw [readSeqA]; exact out a st
    · intro d dm start ns st a b ks vs; rw [readMapA]; exact out a st
    · intro d dm start st a; rw [readNsMapA]; exact out a st
    · intro d dm start st a; rw [readTaggedA]; exact out a st
    · intro d dm start st a; rw [readMetaA]; exact out a st
  | succ f ih =>
    exact ⟨readValueA_step x f ih, readSeqA_step x f ih, readMapA_step x f ih, readNsMapA_step x f ih,
      readTaggedA_step x f ih, readMetaA_step x f ih⟩

theorem readNumberResA_good (x : ACtx) (st : St) (a : ASt) : Good a (readNumberResA x st a).2 :=
  (readNumberResA_rg x st a).1.good

/-- The heap copy of a long float literal, the line records and the pointer array of a text block, the
    scratch copy and the hash table of the duplicate check are freed on every path, also when a later
    request fails. -/
theorem reader_live_preserved (x : ACtx) (f : Nat) :
    Readers (fun a r => r.2.live = a.live ∧ r.2.arena = a.arena ∧ r.2.tmp = a.tmp) x f :=
  (reader_rg x f).imp fun _ _ h => ⟨h.1.live, h.1.arena, h.1.tmp⟩

/-- `edn_read_value` here; the five others likewise, by `reader_rg` -/
theorem readValueA_traceOK (x : ACtx) (f d : Nat) (dm : Bool) (st : St) (a : ASt) (h : Sync a) :
    TraceOK (readValueA x f d dm st a).2.trace.reverse :=
  (((reader_rg x f).value d dm st a).1.cont.sync h).traceOK

/-- The hypothesis `Sync a` of `readValueA_traceOK` cannot be replaced by `TraceOK a.trace.reverse`:
    the state `{ arena := .alive }` has the (well-formed) empty trace, in which no arena is created;
    reading the one-byte input `x` (0x78) from that state makes a granted arena request, and the
    trace of the end state is rejected. -/
theorem sync_needed :
    let a : ASt := { arena := .alive }
    let x : ACtx := { ctx := { cfg := Cfg.core, opts := {} }, orc := fun _ => false }
    TraceOK a.trace.reverse ∧ ¬ TraceOK (readValueA x 4 0 false { rest := [0x78] } a).2.trace.reverse := by
  decide +kernel

/-- without the parser's arena every request on it fails, and every value needs one -/
theorem reader_value_needs_arena (x : ACtx) (f d : Nat) (dm : Bool) (st : St) (a : ASt) (v : Val) (st' : St)
    (h : (readValueA x f d dm st a).1 = .ok v st') : a.arena = .alive :=
  ((reader_rg x f).value d dm st a).2 v st' h

theorem arenaCreate_spec (orc : Nat → Bool) (tmp : Bool) (a : ASt)
    (hslot : (if tmp then a.tmp else a.arena) = .none) :
    Cont a (a.arenaCreate orc tmp).2 ∧ (a.arenaCreate orc tmp).2.live = a.live ∧
    (if tmp then (a.arenaCreate orc tmp).2.arena = a.arena else (a.arenaCreate orc tmp).2.tmp = a.tmp) ∧
    (if tmp then (a.arenaCreate orc tmp).2.tmp else (a.arenaCreate orc tmp).2.arena) =
      (if (a.arenaCreate orc tmp).1 then .alive else .none) ∧
    (a.arenaCreate orc tmp).1 = (!orc (a.reqs + 1) && !orc (a.reqs + 2)) := by
  cases h1 : orc (a.reqs + 1)
  · cases h2 : orc (a.reqs + 2)
    · -- both granted
      cases tmp
      · have e : a.arenaCreate orc false = (true,
            { a with reqs := a.reqs + 2, trace := .req .arenaNew (a.reqs + 2) false 0 :: .req .arenaNew (a.reqs + 1) false 0 :: a.trace, arena := .alive }) := by
          simp [ASt.arenaCreate, ASt.rawAlloc, ASt.request, h1, h2]
        rw [e]
        simp only [Bool.false_eq_true, ↓reduceIte] at hslot
        refine ⟨?_, rfl, rfl, rfl, rfl⟩
        refine ⟨[.req .arenaNew (a.reqs + 1) false 0, .req .arenaNew (a.reqs + 2) false 0], rfl, ?_⟩
        simp [run, Led.step, led, hslot, aliveN]
        omega
      · have e : a.arenaCreate orc true = (true,
            { a with reqs := a.reqs + 2, trace := .req .arenaNew (a.reqs + 2) false 0 :: .req .arenaNew (a.reqs + 1) false 0 :: a.trace, tmp := .alive }) := by
          simp [ASt.arenaCreate, ASt.rawAlloc, ASt.request, h1, h2]
        rw [e]
        simp only [↓reduceIte] at hslot
        refine ⟨?_, rfl, rfl, rfl, rfl⟩
        refine ⟨[.req .arenaNew (a.reqs + 1) false 0, .req .arenaNew (a.reqs + 2) false 0], rfl, ?_⟩
        simp [run, Led.step, led, hslot, aliveN]
    · -- the first block is refused: the record is freed
      have e : a.arenaCreate orc tmp = (false,
          { a with reqs := a.reqs + 2, trace := .free (a.reqs + 1) :: .req .arenaNew (a.reqs + 2) true 0 :: .req .arenaNew (a.reqs + 1) false 0 :: a.trace }) := by
        simp [ASt.arenaCreate, ASt.rawAlloc, ASt.request, ASt.free, h1, h2]
      rw [e]
      refine ⟨?_, rfl, by cases tmp <;> rfl, by cases tmp <;> simpa using hslot, rfl⟩
      refine ⟨[.req .arenaNew (a.reqs + 1) false 0, .req .arenaNew (a.reqs + 2) true 0, .free (a.reqs + 1)], rfl, ?_⟩
      simp [run, Led.step, led]
  · -- the record is refused
    have e : a.arenaCreate orc tmp = (false,
        { a with reqs := a.reqs + 1, trace := .req .arenaNew (a.reqs + 1) true 0 :: a.trace }) := by
      simp [ASt.arenaCreate, ASt.rawAlloc, ASt.request, h1]
    rw [e]
    refine ⟨?_, rfl, by cases tmp <;> rfl, by cases tmp <;> simpa using hslot, by simp⟩
    refine ⟨[.req .arenaNew (a.reqs + 1) true 0], rfl, ?_⟩
    simp [run, Led.step, led]

theorem arenaDestroy_parser (a : ASt) (h : a.arena = .alive) :
    Cont a (a.arenaDestroy false) ∧ (a.arenaDestroy false).live = a.live ∧
    (a.arenaDestroy false).arena = .destroyed ∧ (a.arenaDestroy false).tmp = a.tmp := by
  refine ⟨?_, rfl, rfl, rfl⟩
  refine .push (.destroy false) rfl ?_
  simp [Led.step, led, ASt.arenaDestroy, h, aliveN]

theorem arenaDestroy_tmp (a : ASt) (h : a.tmp = .alive) :
    Cont a (a.arenaDestroy true) ∧ (a.arenaDestroy true).live = a.live ∧
    (a.arenaDestroy true).tmp = .destroyed ∧ (a.arenaDestroy true).arena = a.arena := by
  refine ⟨?_, rfl, rfl, rfl⟩
  refine .push (.destroy true) rfl ?_
  simp [Led.step, led, ASt.arenaDestroy, h, aliveN]

theorem lineGrowA_good (orc : Nat → Bool) (n count cap : Nat) (a : ASt) (h : a.tmp = .alive) :
    GoodC a (lineGrowA orc n count cap a).2 := by
  induction n generalizing count cap a with
  | zero => exact GoodC.refl a
  | succ n ih =>
    have g := requestTmp_good orc a 0 h
    unfold lineGrowA
    exact snd_ite (snd_ite g (g.trans (ih _ _ _ (g.tmp.trans h)))) (ih _ _ a h)

theorem lineIndexA_spec (orc : Nat → Bool) (input : Bytes) (a : ASt) (ht : a.tmp = .none) :
    Cont a (lineIndexA orc input a).2 ∧ (lineIndexA orc input a).2.live = a.live ∧
    (lineIndexA orc input a).2.arena = a.arena ∧
    ((lineIndexA orc input a).2.tmp = .none ∨ (lineIndexA orc input a).2.tmp = .destroyed) := by
  obtain ⟨c1, l1, ar1, t1, _⟩ := arenaCreate_spec orc true a ht
  simp only [↓reduceIte] at ar1 t1
  unfold lineIndexA
  dsimp only
  cases hA : (a.arenaCreate orc true).1 <;> rw [hA] at t1 <;>
    simp only [Bool.not_false, Bool.not_true, Bool.false_eq_true, ↓reduceIte]
  · exact ⟨c1, l1, ar1, Or.inl t1⟩
  · -- between its creation and its destruction: requests on the temporary arena only
    have t1 : (a.arenaCreate orc true).2.tmp = .alive := t1
    have key : ∀ a4 : ASt, GoodC (a.arenaCreate orc true).2 a4 →
        Cont a (a4.arenaDestroy true) ∧ (a4.arenaDestroy true).live = a.live ∧
        (a4.arenaDestroy true).arena = a.arena ∧
        ((a4.arenaDestroy true).tmp = .none ∨ (a4.arenaDestroy true).tmp = .destroyed) := by
      intro a4 g
      obtain ⟨c, l, t, ar⟩ := arenaDestroy_tmp a4 (g.tmp.trans t1)
      exact ⟨(c1.trans g.cont).trans c, l.trans (g.live.trans l1), ar.trans (g.arena.trans ar1), Or.inr t⟩
    have g2 := requestTmp_good orc _ 0 t1
    have g3 := g2.trans (requestTmp_good orc _ 0 (g2.tmp.trans t1))
    exact key _ (snd_ite g2 (snd_ite g3 (g3.trans (lineGrowA_good orc _ _ _ _ (g3.tmp.trans t1)))))

theorem errorExit_spec (orc : Nat → Bool) (input : Bytes) (a : ASt)
    (ht : a.tmp = .none) (c : Bool) (ha : a.arena = if c then .alive else .none) :
    (errorExit orc input a).live = a.live ∧
    ((errorExit orc input a).tmp = .none ∨ (errorExit orc input a).tmp = .destroyed) ∧
    Cont a (errorExit orc input a) ∧ (errorExit orc input a).arena = if c then .destroyed else .none := by
  obtain ⟨c1, l1, ar1, t1⟩ := lineIndexA_spec orc input a ht
  unfold errorExit
  generalize (lineIndexA orc input a).2 = a1 at c1 l1 ar1 t1 ⊢
  cases c
  · have ar : a1.arena = .none := ar1.trans ha
    rw [ar]
    exact ⟨l1, t1, c1, ar⟩
  · have ar : a1.arena = .alive := ar1.trans ha
    rw [ar]
    obtain ⟨c2, l2, ar2, t2⟩ := arenaDestroy_parser a1 ar
    exact ⟨l2.trans l1, t2 ▸ t1, c1.trans c2, ar2⟩

/-- was the parser's arena created?  (`edn_arena_create` makes requests 1 and 2.) -/
def arenaCreated (orc : Nat → Bool) : Bool := !orc 1 && !orc 2

/-- After `edn_read_with_options` under any oracle:
    * no raw heap block is live;
    * the temporary arena of the error-position code never existed or has been destroyed;
    * the whole trace is well formed (and the checker's ledger is the final allocation state);
    * a value is returned only when the parser's arena was created, and then that arena is alive
      (owned by the value: `edn_free` of the root releases it) — every value of the model, `nil`,
      `true` and `false` included, is allocated in it, as in edn.c, where no singleton values exist;
    * with the caller's end-of-input value or an error the arena has been destroyed, or was never
      created;
    * (`fuelOut`, the model's artefact that `readA_fault` of Edn.Proofs.AllocSimFault excludes,
      leaves the arena as it was created);
    * from the creation of the parser's arena to the end the checker reads on (`Cont`): requests are
      only counted up and events only added (`Cont.le`). -/
theorem readA_ledger (cfg : Cfg) (opts : Opts) (orc : Nat → Bool) (input : Bytes)
    (grow : Nat → Nat) (handlerReq : String → Bool) (sortTouch : Nat → List Nat) :
    let r := readA cfg opts orc input grow handlerReq sortTouch
    r.ast.live = [] ∧ (r.ast.tmp = .none ∨ r.ast.tmp = .destroyed) ∧ Sync r.ast ∧
    (match r.out with
     | .value _ => arenaCreated orc = true ∧ r.ast.arena = .alive
     | .eofValue => r.ast.arena = (if arenaCreated orc then .destroyed else .none)
     | .error _ _ _ => r.ast.arena = (if arenaCreated orc then .destroyed else .none)
     | .fuelOut => r.ast.arena = (if arenaCreated orc then .alive else .none)) ∧
    Cont (({} : ASt).arenaCreate orc false).2 r.ast := by
  intro r
  obtain ⟨c0, l0, t0, ar0, ok0⟩ := arenaCreate_spec orc false {} rfl
  have s0 := c0.sync sync_init
  simp only [Bool.false_eq_true, ↓reduceIte] at t0 ar0
  have ar0 : (({} : ASt).arenaCreate orc false).2.arena = if arenaCreated orc then .alive else .none :=
    (show (({} : ASt).arenaCreate orc false).1 = arenaCreated orc from ok0) ▸ ar0
  have h1 := (reader_rg ⟨⟨cfg, opts⟩, orc, grow, handlerReq, sortTouch⟩ (readFuel input)).value 0 false
    { rest := input } (({} : ASt).arenaCreate orc false).2
  have g := h1.1
  have sa := g.cont.sync s0
  have la := g.live.trans l0
  have ta := g.tmp.trans t0
  have ara := g.arena.trans ar0
  obtain ⟨el, et, ec, ea⟩ := errorExit_spec orc input _ ta (arenaCreated orc) ara
  rcases readA_cases cfg opts orc input grow handlerReq sortTouch with
    ⟨v, st, hv, ho, e⟩ | ⟨ho, e⟩ | ⟨ho | ⟨_, _, _, ho⟩, e⟩
  all_goals
    have ho : r.out = _ := ho
    have e : r.ast = _ := e
    rw [ho, e]
  · -- a value: the arena it lives in was created
    have hal : (if arenaCreated orc then ArenaSt.alive else .none) = .alive := ar0.symm.trans (h1.2 v st hv)
    have hc : arenaCreated orc = true := by
      cases hc : arenaCreated orc
      · rw [hc] at hal; cases hal
      · rfl
    exact ⟨la, .inl ta, sa, ⟨hc, ara.trans (by rw [hc]; rfl)⟩, g.cont⟩
  · exact ⟨la, .inl ta, sa, ara, g.cont⟩
  · exact ⟨el.trans la, et, ec.sync sa, ea, g.cont.trans ec⟩
  · exact ⟨el.trans la, et, ec.sync sa, ea, g.cont.trans ec⟩

/-- what `edn_string_get` / `edn_bigint_get` / `edn_bigdec_get` return when memory is not an issue -/
def accessPure (cfg : Cfg) : Val → Option Bytes
  | .str _ data esc => stringGet cfg data esc
  | .bigint _ _ _ d => some (if cfg.exp && d.contains 0x5F then cleanDigits cfg d else d)
  | .bigdec _ _ d => some (if cfg.exp && d.contains 0x5F then cleanDigits cfg d else d)
  | _ => none

def Access (x : ACtx) (a : ASt) (pure : Option Bytes) (r : Option Bytes × ASt) : Prop :=
  Good a r.2 ∧ (r.2.reqs = a.reqs ∨ r.2.reqs = a.reqs + 1) ∧
  (r.1 = pure ∨ (r.1 = none ∧ (a.request x.orc .arena).1 = false ∧ r.2 = (a.request x.orc .arena).2))

theorem Access.now (x : ACtx) (a : ASt) (p : Option Bytes) : Access x a p (p, a) :=
  ⟨(GoodC.refl a).good, .inl rfl, .inl rfl⟩

theorem Access.refused {x : ACtx} {a : ASt} {p : Option Bytes} (h : (a.request x.orc .arena).1 = false) :
    Access x a p (none, (a.request x.orc .arena).2) :=
  ⟨(request_good x.orc a 0).good, .inr rfl, .inr ⟨rfl, h, rfl⟩⟩

theorem Access.granted {x : ACtx} {a a' : ASt} {p : Option Bytes} (g : GoodC (a.request x.orc .arena).2 a')
    (hr : a'.reqs = a.reqs + 1) : Access x a p (p, a') :=
  ⟨((request_good x.orc a 0).trans g).good, .inr hr, .inl rfl⟩

theorem Access.request (x : ACtx) (a : ASt) (p : Option Bytes) (a' : ASt) (g : GoodC (a.request x.orc .arena).2 a')
    (hr : a'.reqs = a.reqs + 1) :
    Access x a p (if (!(a.request x.orc .arena).1) = true then (none, (a.request x.orc .arena).2) else (p, a')) := by
  cases h : (a.request x.orc .arena).1
  · exact Access.refused h
  · exact Access.granted g hr

theorem cleanA_access (x : ACtx) (h : Hdr) (d : Bytes) (a : ASt) :
    Access x a (some (if (x.ctx.cfg.exp && d.contains 0x5F) = true then cleanDigits x.ctx.cfg d else d)) (cleanA x h d a) := by
  unfold cleanA
  dsimp only
  cases (x.ctx.cfg.exp && d.contains 0x5F) <;> simp only [Bool.not_false, Bool.not_true, Bool.false_eq_true, ↓reduceIte]
  · exact Access.now x a (some d)
  · exact ite_ind (fun _ => Access.now x a _) (fun _ => Access.request x a _ _ (bufs_good _ _) rfl)

theorem materialiseA_access (x : ACtx) (v : Val) (a : ASt) :
    Access x a (accessPure x.ctx.cfg v) (materialiseA x v a) := by
  cases v
  case str h data esc =>
    cases esc
    · -- no escapes: the literal itself, in a requested copy
      unfold materialiseA
      simp only [Bool.false_eq_true, ↓reduceIte]
      exact ite_ind (fun _ => Access.now x a _) (fun _ => Access.request x a _ _ (bufs_good _ _) rfl)
    · -- escapes: what `strContentA` finds, NULL when they do not decode
      show Access x a (decodeString x.ctx.cfg (data.length + 1) data) _
      unfold materialiseA strContentA stringContent
      simp only [Bool.not_true, Bool.false_eq_true, ↓reduceIte]
      split
      · cases decodeString x.ctx.cfg (data.length + 1) data <;> exact Access.now x a _
      · cases hr : (a.request x.orc .arena).1
        · exact Access.refused hr
        · cases decodeString x.ctx.cfg (data.length + 1) data with
          | none => exact Access.granted (GoodC.refl _) rfl
          | some dd => exact Access.granted (bufs_good _ _) rfl
  case bigint h neg radix d => exact cleanA_access x h d a
  case bigdec h neg d => exact cleanA_access x h d a
  all_goals exact Access.now x a none

/-- An accessor call after the read (any value, any state, any oracle) makes no raw request and frees
    nothing; it returns what it returns when memory is not an issue (`accessPure`: for a string literal
    with an escape the build does not define that is NULL, too) — or NULL, and then the one request it
    made was refused.  The refused call changes nothing but the request counter and the trace, so it
    can be repeated. -/
theorem materialiseA_ledger (x : ACtx) (v : Val) (a : ASt) :
    Good a (materialiseA x v a).2 ∧
    ((materialiseA x v a).2.reqs = a.reqs ∨ (materialiseA x v a).2.reqs = a.reqs + 1) ∧
    ((materialiseA x v a).1 = accessPure x.ctx.cfg v ∨
     ((materialiseA x v a).1 = none ∧ (a.request x.orc .arena).1 = false ∧
      (materialiseA x v a).2 = (a.request x.orc .arena).2)) :=
  materialiseA_access x v a

end Edn.Proofs.AllocLedger

namespace Edn.Proofs.AllocMono
open Edn.Model Edn.Proofs.AllocBasic

def Mono {α : Type} (f : ASt → α × ASt) : Prop := ∀ a, ASt.Le a (f a).2

/-- the request that is always made is the arena record -/
theorem readA_reqs_pos (cfg : Cfg) (opts : Opts) (orc : Nat → Bool) (input : Bytes) :
    1 ≤ (readA cfg opts orc input).ast.reqs :=
  Nat.le_trans (Nat.le_trans (Nat.le_add_left 1 _) (arenaCreate_reqs orc false {}).1)
    (AllocLedger.readA_ledger cfg opts orc input _ _ _).2.2.2.2.le.1

end Edn.Proofs.AllocMono
