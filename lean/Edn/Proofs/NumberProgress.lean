/-
  One walk through `readNumber`, stage by stage (`NumberEq`), shows that its cursor only moves forward, in
  the suffix form (`numAdv`: the rest of the outcome is a suffix of the input, strictly shorter on a value).
-/
import Edn.Proofs.NumberEq
import Edn.Proofs.Ite

namespace Edn.Proofs
open Edn.Model Edn.Spec Edn.Proofs.CNum

theorem adv_suffix (s : Bytes) : adv s <:+ s := by
  cases s with
  | nil => exact List.suffix_refl _
  | cons c cs => exact List.suffix_cons c cs

def exLen : Except Bytes Bytes → Nat
  | .ok r => r.length
  | .error c => c.length

def numRest : NumOut → Bytes
  | .ok _ r => r
  | .err c => c

def exRest : Except Bytes Bytes → Bytes
  | .ok r => r
  | .error c => c

theorem finishNum_rest (v : NumVal) (s : Bytes) : numRest (finishNum v s) = s := by
  unfold finishNum
  split <;> rfl

theorem radixDigitsLoop_suffix (exp : Bool) (radix : Nat) (strict : Bool) : ∀ (f : Nat) (s : Bytes),
    exRest (radixDigitsLoop exp radix strict f s) <:+ s := by
  intro f
  induction f with
  | zero => intro s; exact List.suffix_refl _
  | succ f ih =>
    intro s
    rw [radixDigitsLoop]
    simp only []
    have ha := adv_suffix s
    have := (ih (adv s)).trans ha
    split
    · split
      · exact this
      · split
        · split
          · exact ha
          · exact this
        · exact List.suffix_refl _
    · exact List.suffix_refl _

theorem decDigitsLoop_suffix (exp : Bool) (f : Nat) (s : Bytes) : exRest (decDigitsLoop exp f s) <:+ s :=
  decLoop_eq_radixLoop exp f s ▸ radixDigitsLoop_suffix exp 10 true f s

theorem fracDigits_suffix (exp : Bool) (s : Bytes) : fracDigits exp s <:+ s := List.dropWhile_suffix _

theorem exRest_ite (c : Prop) [Decidable c] (a b : Except Bytes Bytes) (s : Bytes) (ha : exRest a <:+ s)
    (hb : exRest b <:+ s) : exRest (if c then a else b) <:+ s := by split <;> assumption

theorem ratioDenominator_suffix (s : Bytes) : exRest (ratioDenominator s) <:+ s := by
  obtain ⟨run, T, rfl, hrun, hT, -⟩ := dropWhile_split is09 (by decide) s
  rw [ratioDen_eq run T hrun hT]
  have hs : T <:+ run ++ T := List.suffix_append run T
  exact exRest_ite _ _ _ _ hs (exRest_ite _ _ _ _ (List.suffix_append_self_iff.mpr (List.tail_suffix run))
    (exRest_ite _ _ _ _ hs (exRest_ite _ _ _ _ hs hs)))

theorem numRest_ite (c : Prop) [Decidable c] (a b : NumOut) (s : Bytes) (ha : numRest a <:+ s) (hb : numRest b <:+ s) :
    numRest (if c then a else b) <:+ s := by split <;> assumption

theorem radixTail_suffix (cfg : Cfg) (neg : Bool) (radix : Nat) (allowN : Bool) (ds s : Bytes) :
    numRest (radixTail cfg neg radix allowN ds s) <:+ s := by
  unfold radixTail
  simp only []
  have ha := adv_suffix s
  generalize ht : (if (allowN && peek s == 78) = true then (true, false, adv s)
      else if (peek s == 77) = true then (false, true, adv s) else (false, false, s)) = t
  have hl : t.2.2 <:+ s := by
    subst ht; split <;> (try split) <;> first | exact ha | exact List.suffix_refl _
  apply numRest_ite
  · exact hl
  · rw [finishNum_rest]; exact hl

theorem decimalTail_suffix (cfg : Cfg) (start : Bytes) (neg hasDec hasExp : Bool) (ds s : Bytes) :
    numRest (decimalTail cfg start neg hasDec hasExp ds s) <:+ s := by
  unfold decimalTail
  simp only []
  have ha := adv_suffix s
  have hfa : ∀ v, numRest (finishNum v (adv s)) <:+ s := by intro v; rw [finishNum_rest]; exact ha
  have hfs : ∀ v, numRest (finishNum v s) <:+ s := by intro v; rw [finishNum_rest]; exact List.suffix_refl _
  apply numRest_ite
  · exact List.suffix_refl _
  apply numRest_ite
  · exact hfa _
  apply numRest_ite
  · exact hfa _
  apply numRest_ite
  · have hr := (ratioDenominator_suffix (adv s)).trans ha
    cases hrd : ratioDenominator (adv s) with
    | error cur => rw [hrd] at hr; exact hr
    | ok s' =>
      rw [hrd] at hr
      have hfs' : ∀ v, numRest (finishNum v s') <:+ s := by intro v; rw [finishNum_rest]; exact hr
      simp only []
      split
      · apply numRest_ite
        · exact hr
        apply numRest_ite
        · exact hr
        · exact hfs' _
      · apply numRest_ite <;> exact hfs' _
      · exact hfs' _
  apply numRest_ite
  · exact hfs _
  · exact hfs _

theorem exponentPart_suffix (cfg : Cfg) (start : Bytes) (neg hasDec : Bool) (ds s : Bytes) :
    numRest (exponentPart cfg start neg hasDec ds s) <:+ s := by
  unfold exponentPart
  simp only []
  have ha := adv_suffix s
  have ha2 := (adv_suffix (adv s)).trans ha
  generalize hs2 : (if (peek (adv s) == 43 || peek (adv s) == 45) = true then adv (adv s) else adv s) = s2
  have hl : s2 <:+ s := by subst hs2; split <;> assumption
  apply numRest_ite
  · exact hl
  · exact ((decimalTail_suffix cfg start neg hasDec true ds (fracDigits cfg.exp s2)).trans (fracDigits_suffix cfg.exp s2)).trans hl

theorem afterMantissa_suffix (cfg : Cfg) (start : Bytes) (neg hasDec : Bool) (ds s : Bytes) :
    numRest (afterMantissa cfg start neg hasDec ds s) <:+ s := by
  unfold afterMantissa
  simp only []
  apply numRest_ite
  · apply numRest_ite
    · exact List.suffix_refl _
    · exact exponentPart_suffix ..
  · exact decimalTail_suffix ..

theorem decimalPart_suffix (cfg : Cfg) (start : Bytes) (neg : Bool) (ds s : Bytes) :
    numRest (decimalPart cfg start neg ds s) <:+ s := by
  unfold decimalPart
  simp only []
  have ha := adv_suffix s
  apply numRest_ite
  · exact ha
  · exact ((afterMantissa_suffix cfg start neg true ds (fracDigits cfg.exp (adv s))).trans
      (fracDigits_suffix cfg.exp (adv s))).trans ha


def numProg (n : Nat) : NumOut → Prop
  | .ok _ r => r.length < n
  | .err c => c.length ≤ n

theorem numProg_of_lt {n : Nat} {o : NumOut} (h : (numRest o).length < n) : numProg n o := by
  cases o <;> simp only [numRest] at h <;> simp only [numProg] <;> omega

theorem numProg_mono {n m : Nat} {o : NumOut} (h : numProg n o) (hnm : n ≤ m) : numProg m o := by
  cases o <;> simp only [numProg] at h ⊢ <;> omega

theorem peek_is09_cons {s : Bytes} (h : is09 (peek s) = true) : ∃ c cs, s = c :: cs ∧ is09 c = true := by
  cases s with
  | nil => exact absurd h (by decide)
  | cons c cs => exact ⟨c, cs, rfl, h⟩

theorem exLen_eq {e : Except Bytes Bytes} {n : Nat} (h : exLen e ≤ n) :
    (∀ c, e = .error c → c.length ≤ n) ∧ (∀ r, e = .ok r → r.length ≤ n) := by
  constructor
  · intro c hc; subst hc; exact h
  · intro c hc; subst hc; exact h

def numAdv (s : Bytes) (o : NumOut) : Prop := numRest o <:+ s ∧ numProg s.length o

theorem numAdv_of_lt {s : Bytes} {o : NumOut} (h : numRest o <:+ s) (hl : (numRest o).length < s.length) : numAdv s o :=
  ⟨h, numProg_of_lt hl⟩

theorem radixPart_prog (cfg : Cfg) (neg : Bool) (s : Bytes) (h : is09 (peek s) = true) (r : NumOut)
    (hr : radixPart cfg neg s = some r) : numAdv s r := by
  obtain ⟨c, cs, rfl, hc⟩ := peek_is09_cons h
  unfold radixPart at hr
  dsimp only at hr
  have hdw : (c :: cs).dropWhile is09 = cs.dropWhile is09 := by simp [hc]
  have hds := List.dropWhile_suffix (l := cs) is09
  rw [hdw] at hr
  rcases ite_eq_elim hr with ⟨_, hr⟩ | ⟨_, hr⟩
  case inr => cases hr
  cases heq : cs.dropWhile is09 with
  | nil => rw [heq] at hr; cases hr
  | cons r0 rrest =>
    rw [heq] at hr hds
    dsimp only at hr
    -- the digits stand behind the radix letter, which stands behind the first digit
    have hsr : rrest <:+ c :: cs := (List.suffix_cons r0 rrest).trans (hds.trans (List.suffix_cons c cs))
    have hrr : rrest.length < (c :: cs).length := Nat.lt_succ_of_lt (Nat.lt_of_succ_le hds.length_le)
    rcases ite_eq_elim hr with ⟨_, hr⟩ | ⟨_, hr⟩
    case inr => cases hr
    generalize radixPrefixValue 0 (slice (c :: cs) (r0 :: rrest)) = rv at hr
    rcases ite_eq_elim hr with ⟨_, hr⟩ | ⟨_, hr⟩
    case inr => cases hr; exact ⟨List.suffix_refl _, Nat.le_refl _⟩
    rcases ite_eq_elim hr with ⟨_, hr⟩ | ⟨_, hr⟩
    · cases hr; exact ⟨hsr, Nat.le_of_lt hrr⟩
    have hlen := radixDigitsLoop_suffix cfg.exp rv true (rrest.length + 1) rrest
    cases hl : radixDigitsLoop cfg.exp rv true (rrest.length + 1) rrest with
    | error cur =>
      rw [hl] at hr hlen
      cases hr
      exact ⟨hlen.trans hsr, Nat.le_trans hlen.length_le (Nat.le_of_lt hrr)⟩
    | ok s' =>
      rw [hl] at hr hlen
      cases hr
      have h1 := (radixTail_suffix cfg neg rv false rrest s').trans hlen
      exact numAdv_of_lt (h1.trans hsr) (Nat.lt_of_le_of_lt h1.length_le hrr)

def branchRest : Option NumOut × Bytes → Bytes
  | (some r, _) => numRest r
  | (none, s) => s

theorem cljBranch_suffix (cfg : Cfg) (neg : Bool) (ds s1 : Bytes) : branchRest (cljBranch cfg neg ds s1) <:+ s1 := by
  unfold cljBranch
  dsimp only
  have hdw := List.dropWhile_suffix (l := s1) (· == 0x30)
  generalize List.dropWhile (· == 0x30) s1 = s2 at hdw ⊢
  have ha : adv s2 <:+ s1 := (adv_suffix s2).trans hdw
  have h16 := radixDigitsLoop_suffix cfg.exp 16 false ((adv s2).length + 1) (adv s2)
  have h8 := radixDigitsLoop_suffix cfg.exp 8 false (s2.length + 1) s2
  -- without the Clojure flag both exits leave the cursor at `s1`
  refine ite_ind (P := fun x => branchRest x <:+ s1) (fun _ => ?_)
    fun _ => ite_ind (P := fun x => branchRest x <:+ s1) (fun _ => List.suffix_refl _) fun _ => List.suffix_refl _
  -- with it: `0x` (first goal below), octal (second goal), then `8`/`9` and the fall-through, both at `s2`
  refine ite_ind (P := fun x => branchRest x <:+ s1) (fun _ => ?_) fun _ =>
    ite_ind (P := fun x => branchRest x <:+ s1) (fun _ => ?_) fun _ =>
    ite_ind (P := fun x => branchRest x <:+ s1) (fun _ => hdw) fun _ => hdw
  · refine ite_ind (P := fun x => branchRest x <:+ s1) (fun _ => ha) fun _ => ?_
    cases hl : radixDigitsLoop cfg.exp 16 false ((adv s2).length + 1) (adv s2) with
    | error cur => rw [hl] at h16; exact h16.trans ha
    | ok s' => rw [hl] at h16; exact (radixTail_suffix ..).trans (h16.trans ha)
  · cases hl : radixDigitsLoop cfg.exp 8 false (s2.length + 1) s2 with
    | error cur => rw [hl] at h8; exact h8.trans hdw
    | ok s' => rw [hl] at h8; exact (radixTail_suffix ..).trans (h8.trans hdw)

theorem zeroPart_suffix (cfg : Cfg) (s0 : Bytes) (neg : Bool) (ds : Bytes) :
    numRest (zeroPart cfg s0 neg ds) <:+ adv ds := by
  unfold zeroPart
  have h2 := cljBranch_suffix cfg neg ds (adv ds)
  generalize cljBranch cfg neg ds (adv ds) = b at h2
  obtain ⟨o, s2⟩ := b
  cases o with
  | some r => exact h2
  | none =>
    simp only [branchRest] at h2 ⊢
    unfold zeroRest
    have ha := (adv_suffix s2).trans h2
    apply numRest_ite
    · exact (decimalPart_suffix cfg s0 neg ds s2).trans h2
    apply numRest_ite
    · rw [finishNum_rest]; exact ha
    apply numRest_ite
    · rw [finishNum_rest]; exact ha
    apply numRest_ite
    · exact (exponentPart_suffix cfg s0 neg false ds s2).trans h2
    apply numRest_ite
    · have hr := (ratioDenominator_suffix (adv s2)).trans ha
      cases hrd : ratioDenominator (adv s2) with
      | error cur => rw [hrd] at hr; exact hr
      | ok s' => rw [hrd] at hr; exact hr
    · rw [finishNum_rest]; exact h2

theorem decDigitsLoop_step (exp : Bool) (f : Nat) (s : Bytes) (h : is09 (peek s) = true) :
    decDigitsLoop exp (f + 1) s = decDigitsLoop exp f (adv s) := by
  obtain ⟨h1, h2, -⟩ := is09_props h
  rw [decDigitsLoop]
  simp only [bne_iff_ne.mpr h1, h2, h, Bool.not_false, Bool.and_self, ↓reduceIte]

theorem nonzeroPart_suffix (cfg : Cfg) (s0 : Bytes) (neg : Bool) (s : Bytes) (h : is09 (peek s) = true) :
    numRest (nonzeroPart cfg s0 neg s) <:+ adv s := by
  unfold nonzeroPart afterIp
  rw [decDigitsLoop_step _ _ _ h]
  have hl := decDigitsLoop_suffix cfg.exp s.length (adv s)
  cases hd : decDigitsLoop cfg.exp s.length (adv s) with
  | error cur => rw [hd] at hl; exact hl
  | ok s1 =>
    rw [hd] at hl
    simp only []
    apply numRest_ite
    · exact (decimalPart_suffix cfg s0 neg s s1).trans hl
    · exact (afterMantissa_suffix cfg s0 neg false s s1).trans hl

theorem numBody_prog (cfg : Cfg) (s0 : Bytes) (neg : Bool) (s : Bytes) (h : is09 (peek s) = true) :
    numAdv s (numBody cfg s0 neg s) := by
  unfold numBody
  have hadv : (adv s).length < s.length := by
    obtain ⟨c, cs, rfl, _⟩ := peek_is09_cons h
    simp [adv]
  cases hrf : radixPart cfg neg s with
  | some r => exact radixPart_prog cfg neg s h r hrf
  | none =>
    simp only []
    split
    · have := zeroPart_suffix cfg s0 neg s
      exact numAdv_of_lt (this.trans (adv_suffix s)) (Nat.lt_of_le_of_lt this.length_le hadv)
    · have := nonzeroPart_suffix cfg s0 neg s h
      exact numAdv_of_lt (this.trans (adv_suffix s)) (Nat.lt_of_le_of_lt this.length_le hadv)

/-- behind a sign the reader advances as its body does: the cursor stays within `body` -/
theorem readNumber_sign_prog (cfg : Cfg) (sg body : Bytes) (neg : Bool) (hs : SignTok sg neg)
    (hb : is09 (peek body) = true) : numAdv body (readNumber cfg (sg ++ body)) :=
  readNumber_sign cfg sg body neg hs hb ▸ numBody_prog cfg (sg ++ body) neg body hb

theorem readNumber_prog (cfg : Cfg) (c : UInt8) (cs : Bytes)
    (hc : is09 c = true ∨ ((c == 0x2B || c == 0x2D) = true ∧ ∃ d t, cs = d :: t ∧ is09 d = true)) :
    numAdv (c :: cs) (readNumber cfg (c :: cs)) := by
  obtain ⟨sg, body, neg, e, hs, hb⟩ := start_split (s := c :: cs)
    ⟨c, cs, rfl, hc.imp_right fun ⟨h, hn⟩ => ⟨by simpa using h, hn⟩⟩
  have h := readNumber_sign_prog cfg sg body neg hs hb
  rw [e]
  exact ⟨h.1.trans (List.suffix_append sg body), numProg_mono h.2 (by simp)⟩

end Edn.Proofs
