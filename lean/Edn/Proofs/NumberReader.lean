/-
  C04 / C05 at reader level, for the tokens of core EDN: `edn_read_number` on each class of
  `Edn.Spec.CoreNum` in every configuration, and on a ratio with the Clojure flag (followed by the end of
  input or a terminator), consumes exactly the token and returns the payload the class denotes; these
  are instances of the class theorems `CNum.read_dec` … `read_radix` of NumberStages.  The converse for the core
  configuration (`readNumber_core_sound`, its lemmas in `NSnd`): whatever
  `edn_read_number` accepts is a number token of core EDN (`Edn.Spec.CoreNum`) followed by the end of
  the input or a terminator, and the payload is the one the token denotes.  Two facts about the grammars
  alone: the core tokens are tokens of the Clojure grammar of every configuration (`cljNum_of_coreNum`), and
  every token starts where the dispatcher sends a number (`cljNum_start`, `coreNum_start`).
-/
import Edn.Spec.NumberLit
import Edn.Proofs.NumberStages
import Edn.Proofs.DoubleSpec

namespace Edn.Proofs.CNum
open Edn.Model Edn.Spec Edn.Proofs

theorem decDigits_int (exp : Bool) {ds : Bytes} (hd : DecDigits ds) : ds = [0x30] ∨ NzRun exp ds := by
  obtain ⟨hall, rfl | ⟨d, t, rfl, hd0⟩⟩ := decDigits_cases hd
  · exact Or.inl rfl
  · right
    refine ⟨⟨d, t, rfl, hall d (by simp), uRun_of_all (fun c hc => hall c (by simp [hc]))⟩, ?_, ?_⟩
    · simp [hd0]
    · exact noTrailU_of_not_mem (allDigits_no_underscore hall)

theorem cljInt_of_single (exp : Bool) {ip : Bytes} (h : ip = [0x30] ∨ NzRun exp ip) : CljInt exp ip :=
  h.imp_left fun e => by subst e; exact ⟨by simp, by simp⟩

theorem zeroNorm_mantissa {exp : Bool} {ip fr ex : Bytes} (hip : ip = [0x30] ∨ NzRun exp ip)
    (hfr : CljFrac exp fr) (hex : CljExp exp ex) : zeroNorm (ip ++ fr ++ ex) = ip ++ fr ++ ex := by
  rcases hip with rfl | hn
  · by_cases h1 : fr = [] ∧ ex = []
    · obtain ⟨rfl, rfl⟩ := h1
      rfl
    · exact zeroNorm_body hfr hex (fun h2 h3 => absurd ⟨h2, h3⟩ h1)
  · exact zeroNorm_body hfr hex (fun _ _ => hn)

theorem bigdec_shape {body : Bytes} (hb : DecDigits body ∨ FloatTok body)
    (hnosign : ∀ c, body.head? = some c → c ≠ 0x2B ∧ c ≠ 0x2D) :
    ∃ ip fr ex, body = ip ++ fr ++ ex ∧ DecDigits ip ∧ FracPart fr ∧ ExpPart ex := by
  rcases hb with hb | ⟨sg', ip, fr, ex, neg', rfl, hs', hip, hfr, hex, -⟩
  · exact ⟨body, [], [], by simp, hb, Or.inl rfl, Or.inl rfl⟩
  · rcases hs' with ⟨rfl, -⟩ | ⟨rfl, -⟩ | ⟨rfl, -⟩
    · exact ⟨ip, fr, ex, by simp, hip, hfr, hex⟩
    · exact absurd rfl (hnosign 0x2B (by simp)).1
    · exact absurd rfl (hnosign 0x2D (by simp)).2

theorem bigdec_of_parts (cfg : Cfg) {sg ip fr ex : Bytes} {neg : Bool} (hs : SignTok sg neg)
    (hip : DecDigits ip) (hfr : FracPart fr) (hex : ExpPart ex) :
    CoreNum cfg (sg ++ (ip ++ fr ++ ex) ++ [0x4D]) (.bigdec neg (ip ++ fr ++ ex)) := by
  refine CoreNum.bigdec sg _ neg hs ?_ ?_
  · by_cases hz : fr = [] ∧ ex = []
    · obtain ⟨rfl, rfl⟩ := hz
      exact Or.inl (by simpa using hip)
    · refine Or.inr ⟨[], ip, fr, ex, false, by simp, Or.inl ⟨rfl, rfl⟩, hip, hfr, hex, ?_⟩
      by_cases h1 : fr = []
      · exact Or.inr (fun h2 => hz ⟨h1, h2⟩)
      · exact Or.inl h1
  · intro c hc
    have h9 : is09 c = true := by
      have := decDigits_peek hip (fr ++ ex)
      rwa [← List.append_assoc, peek, List.headD_eq_head?_getD, hc] at this
    exact ⟨by simpa using (is09_not_sign h9).2, by simpa using (is09_not_sign h9).1⟩

theorem zeroNorm_decDigits {ds : Bytes} (hd : DecDigits ds) : zeroNorm ds = ds := by
  obtain ⟨-, rfl | ⟨d, t, rfl, hd0⟩⟩ := decDigits_cases hd
  · rfl
  · exact zeroNorm_of_mem (c := d) (by simp) hd0

theorem mantissa_of_core (exp : Bool) {ip fr ex : Bytes} (hip : DecDigits ip) (hfr : FracPart fr)
    (hex : ExpPart ex) : CljMantissa exp ip fr ex ∧ NoTrailU (ip ++ fr ++ ex) := by
  refine ⟨⟨cljInt_of_single exp (decDigits_int exp hip), cljFrac_of_fracPart exp hfr, cljExp_of_expPart exp hex,
    fun _ => noTrailU_of_not_mem (fracPart_no_underscore hfr)⟩, ?_⟩
  exact noTrailU_of_not_mem (mantissa_no_underscore hip hfr hex)

theorem digRun_of_all {exp : Bool} {p : UInt8 → Bool} {ds : Bytes} (hne : ds ≠ []) (h : ∀ c ∈ ds, p c = true) :
    DigRun exp p ds := by
  cases ds with
  | nil => exact absurd rfl hne
  | cons d t => exact ⟨d, t, rfl, h d (by simp), uRun_of_all fun c hc => h c (by simp [hc])⟩

end Edn.Proofs.CNum

namespace Edn.Proofs.NSnd
open Edn.Model Edn.Spec Edn.Proofs Edn.Proofs.CNum

theorem core_clj : Cfg.core.clj = false := rfl
theorem core_exp : Cfg.core.exp = false := rfl

theorem peek_cons (c : UInt8) (t : Bytes) : peek (c :: t) = c := Edn.Proofs.peek_cons c t
theorem adv_cons (c : UInt8) (t : Bytes) : adv (c :: t) = t := Edn.Proofs.adv_cons c t
theorem peek_nil : peek ([] : Bytes) = 0 := Edn.Proofs.peek_nil

theorem decDigits_of_int {ip : Bytes} (h : ip = [0x30] ∨ NzRun false ip) : DecDigits ip := by
  rcases h with rfl | h
  · exact ⟨by simp, by simp, by simp⟩
  · obtain ⟨d, t, rfl, hd, hd0, ht⟩ := nzRun_cons h
    refine ⟨by simp, ?_, fun _ => by simpa using hd0⟩
    intro c hc
    rcases List.mem_cons.mp hc with rfl | hc
    · exact (is09_iff _).mp hd
    · exact (is09_iff _).mp (uRun_false_all ht c hc)

theorem fracPart_of_clj {fr : Bytes} (h : CljFrac false fr) : FracPart fr :=
  h.imp_right fun ⟨fd, e, hfd, _⟩ => ⟨fd, e, uRun_false_all hfd⟩

theorem expPart_of_clj {ex : Bytes} (h : CljExp false ex) : ExpPart ex :=
  h.imp_right fun ⟨e, es, ed, hex, he, hes, hed⟩ =>
    ⟨e, es, ed, hex, he, hes, by obtain ⟨d, t, rfl, -⟩ := hed; simp, uRun_false_all (digRun_uRun hed)⟩

theorem decimal_sound (sg : Bytes) (neg : Bool) (ip X : Bytes) (v : NumVal) (rest : Bytes)
    (hs : SignTok sg neg) (hip : DecDigits ip)
    (h : afterIp Cfg.core (sg ++ (ip ++ X)) neg (ip ++ X) X = .ok v rest) :
    ∃ tok v', sg ++ (ip ++ X) = tok ++ rest ∧ CoreNum Cfg.core tok v' ∧ TermStart rest := by
  obtain ⟨fr, ex, hfr, hex, -, -, hshape⟩ := afterIp_shapes Cfg.core sg neg ip X v rest h
  have hfr := fracPart_of_clj hfr
  have hex := expPart_of_clj hex
  rcases hshape with ⟨rfl, rfl, rfl, -, ht, -⟩ | ⟨rfl, -, ht, -⟩ | ⟨hc, -⟩ | ⟨hne, rfl, -, ht⟩ |
    ⟨rfl, rfl, rfl, -, ht⟩
  · exact ⟨sg ++ ip ++ [0x4E], _, by simp, CoreNum.bigN sg ip neg hs hip, ht⟩
  · exact ⟨sg ++ (ip ++ fr ++ ex) ++ [0x4D], _, by simp, bigdec_of_parts Cfg.core hs hip hfr hex, ht⟩
  · exact Bool.noConfusion hc
  · exact ⟨sg ++ ip ++ fr ++ ex, _, by simp, CoreNum.float _ ⟨sg, ip, fr, ex, neg, rfl, hs, hip, hfr, hex, hne⟩, ht⟩
  · by_cases hr : (if neg then natOfDigits ip ≤ 9223372036854775808 else natOfDigits ip ≤ 9223372036854775807)
    · exact ⟨sg ++ ip, _, by simp, CoreNum.int sg ip neg hs hip hr, ht⟩
    · exact ⟨sg ++ ip, _, by simp, CoreNum.big sg ip neg hs hip hr, ht⟩

end Edn.Proofs.NSnd

namespace Edn.Proofs
open Edn.Model Edn.Spec CNum

theorem readNumber_decimal (cfg : Cfg) (sg ds : Bytes) (neg : Bool) (rest : Bytes)
    (hs : SignTok sg neg) (hd : DecDigits ds) (ht : TermStart rest) :
    readNumber cfg (sg ++ ds ++ rest) =
      .ok (if (if neg then natOfDigits ds ≤ 9223372036854775808 else natOfDigits ds ≤ 9223372036854775807)
           then .int (if neg then -(natOfDigits ds : Int) else (natOfDigits ds : Int))
           else .bigint neg 10 ds) rest := by
  have hip := decDigits_int cfg.exp hd
  rw [read_dec cfg sg ds rest neg hs (cljInt_of_single _ hip) (Or.inr hip) ht, intPayload,
    radixNat_digits ds (decDigits_cases hd).1]

theorem readNumber_decimalN (cfg : Cfg) (sg ds : Bytes) (neg : Bool) (rest : Bytes)
    (hs : SignTok sg neg) (hd : DecDigits ds) (ht : TermStart rest) :
    readNumber cfg (sg ++ ds ++ 0x4E :: rest) = .ok (.bigint neg 10 ds) rest := by
  have hip := decDigits_int cfg.exp hd
  rw [show sg ++ ds ++ 0x4E :: rest = sg ++ ds ++ [0x4E] ++ rest by simp,
    read_decN cfg sg ds rest neg hs (cljInt_of_single _ hip) (Or.inr hip) ht, zeroNorm_decDigits hd]

theorem readNumber_float (cfg : Cfg) (tok rest : Bytes) (h : FloatTok tok) (ht : TermStart rest) :
    readNumber cfg (tok ++ rest) = .ok (.float (parseDouble cfg tok)) rest := by
  obtain ⟨sg, ip, fr, ex, neg, rfl, hs, hip, hfr, hex, hne⟩ := h
  exact read_float cfg sg ip fr ex rest neg hs (mantissa_of_core cfg.exp hip hfr hex).1
    (Or.inr (decDigits_int cfg.exp hip)) hne ht

theorem readNumber_float_value (cfg : Cfg) (tok rest : Bytes) (h : FloatTok tok) (ht : TermStart rest) :
    readNumber cfg (tok ++ rest) =
      .ok (.float (let p := decimalParts tok; withSign p.1 (ofDec p.2.1 p.2.2))) rest := by
  rw [readNumber_float cfg tok rest h ht,
    DoubleSpecAux.parseDouble_of_noUnderscore cfg tok (fun _ => floatTok_no_underscore h)]

theorem readNumber_bigdec (cfg : Cfg) (sg body rest : Bytes) (neg : Bool) (hs : SignTok sg neg)
    (hb : DecDigits body ∨ FloatTok body) (hnosign : ∀ c, body.head? = some c → c ≠ 0x2B ∧ c ≠ 0x2D)
    (ht : TermStart rest) :
    readNumber cfg (sg ++ body ++ [0x4D] ++ rest) = .ok (.bigdec neg body) rest := by
  obtain ⟨ip, fr, ex, rfl, hip, hfr, hex⟩ := bigdec_shape hb hnosign
  obtain ⟨hm, hu⟩ := mantissa_of_core cfg.exp hip hfr hex
  have hi := decDigits_int cfg.exp hip
  rw [show sg ++ (ip ++ fr ++ ex) ++ [0x4D] ++ rest = sg ++ ip ++ fr ++ ex ++ [0x4D] ++ rest by simp,
    read_decM cfg sg ip fr ex rest neg hs hm (Or.inr hi) hu ht, zeroNorm_mantissa hi hm.hfr hm.hex]

/-- `hzero` cannot be dropped: with the numerator `0` the reader takes the zero path of
    `edn_read_number`, which returns the integer 0 after validating the denominator's spelling
    only — it never converts the denominator, so it never produces the big-ratio form that
    `ratioValue` prescribes when the denominator does not fit 64 bits.  With the Clojure flag on,
    `0/9223372036854775808` reads as `.int 0` whereas `ratioValue cfg false "0" "9223372036854775808"`
    is `.bigratio false "0" "9223372036854775808"` (see the `example`s below). -/
theorem readNumber_ratio (cfg : Cfg) (hc : cfg.clj = true) (sg nd dd rest : Bytes) (neg : Bool) (hs : SignTok sg neg)
    (hn : DecDigits nd) (hd : dd ≠ [] ∧ AllDigits dd ∧ dd.head? ≠ some 0x30) (ht : TermStart rest)
    (hzero : nd = [0x30] → natOfDigits dd ≤ 9223372036854775807) :
    readNumber cfg (sg ++ nd ++ [0x2F] ++ dd ++ rest) = .ok (ratioValue cfg neg nd dd) rest := by
  rcases decDigits_int cfg.exp hn with rfl | hnz
  · -- the zero path answers 0 without converting the denominator
    have hn0 : inRange neg 0 = some 0 := by
      unfold inRange
      cases neg <;> simp
    have hd0 : inRange false (natOfDigits dd) = some (natOfDigits dd : Int) := by
      unfold inRange
      simp [hzero rfl]
    rw [read_zeroRatio cfg hc sg [0x30] dd rest neg hs ⟨by simp, by simp⟩ hd (TermStart.delimStart ht)]
    unfold ratioValue
    rw [parseInt64_digits cfg [0x30] neg (decDigits_cases hn).1,
      parseInt64_digits cfg dd false hd.2.1, show natOfDigits [0x30] = 0 by decide, hn0, hd0]
    simp
  · exact read_ratio cfg hc sg nd dd rest neg hs hnz hd (Or.inl ht)

/-- the counterexample that makes `hzero` necessary -/
example : readNumber ⟨true, false⟩ "0/9223372036854775808".toUTF8.toList = .ok (.int 0) [] := by
  decide +kernel
example : ratioValue ⟨true, false⟩ false "0".toUTF8.toList "9223372036854775808".toUTF8.toList =
    .bigratio false "0".toUTF8.toList "9223372036854775808".toUTF8.toList := by
  decide +kernel

theorem readNumber_coreNum (cfg : Cfg) (tok rest : Bytes) (v : NumVal) (h : CoreNum cfg tok v) (ht : TermStart rest) :
    readNumber cfg (tok ++ rest) = .ok v rest := by
  cases h with
  | int sg ds neg hs hd hr =>
    rw [readNumber_decimal cfg sg ds neg rest hs hd ht, if_pos hr]
  | big sg ds neg hs hd hr =>
    rw [readNumber_decimal cfg sg ds neg rest hs hd ht, if_neg hr]
  | bigN sg ds neg hs hd =>
    rw [List.append_assoc, List.singleton_append]
    exact readNumber_decimalN cfg sg ds neg rest hs hd ht
  | float tok h => exact readNumber_float cfg tok rest h ht
  | bigdec sg body neg hs hb hnosign => exact readNumber_bigdec cfg sg body rest neg hs hb hnosign ht

theorem cljNum_of_coreNum (cfg : Cfg) (tok : Bytes) (v : NumVal) (h : CoreNum cfg tok v) : CljNum cfg tok v := by
  cases h with
  | int sg ds neg hs hd hr =>
    have := CljNum.dec (cfg := cfg) sg ds neg hs (cljInt_of_single _ (decDigits_int _ hd))
    unfold intPayload at this
    rwa [radixNat_digits ds (decDigits_cases hd).1, if_pos hr] at this
  | big sg ds neg hs hd hr =>
    have := CljNum.dec (cfg := cfg) sg ds neg hs (cljInt_of_single _ (decDigits_int _ hd))
    unfold intPayload at this
    rwa [radixNat_digits ds (decDigits_cases hd).1, if_neg hr] at this
  | bigN sg ds neg hs hd =>
    have := CljNum.decN (cfg := cfg) sg ds neg hs (cljInt_of_single _ (decDigits_int _ hd))
    rwa [zeroNorm_decDigits hd] at this
  | float tok h =>
    obtain ⟨sg, ip, fr, ex, neg, rfl, hs, hip, hfr, hex, hne⟩ := h
    exact CljNum.float sg ip fr ex neg hs (mantissa_of_core _ hip hfr hex).1 hne
  | bigdec sg body neg hs hb hnosign =>
    obtain ⟨ip, fr, ex, rfl, hip, hfr, hex⟩ := bigdec_shape hb hnosign
    obtain ⟨hm, hu⟩ := mantissa_of_core cfg.exp hip hfr hex
    have := CljNum.decM (cfg := cfg) sg ip fr ex neg hs hm hu
    rw [zeroNorm_mantissa (decDigits_int cfg.exp hip) hm.hfr hm.hex] at this
    simpa only [List.append_assoc] using this

/-- every token starts where the dispatcher sends a number (`Edn.Spec.NumStart`, written out as in
    `CNum.start_split`), whatever follows it -/
theorem cljNum_start {cfg : Cfg} {tok : Bytes} {v : NumVal} (h : CljNum cfg tok v) (rest : Bytes) :
    ∃ c t, tok ++ rest = c :: t ∧
      (is09 c = true ∨ ((c = 0x2B ∨ c = 0x2D) ∧ ∃ nx t', t = nx :: t' ∧ is09 nx = true)) := by
  have key : ∀ (sg ip : Bytes) (neg : Bool) (tail : Bytes), SignTok sg neg → CljInt cfg.exp ip →
      ∃ c t, sg ++ (ip ++ tail) = c :: t ∧
        (is09 c = true ∨ ((c = 0x2B ∨ c = 0x2D) ∧ ∃ nx t', t = nx :: t' ∧ is09 nx = true)) :=
    fun sg ip neg tail hs hip => start_join hs (cljInt_peek hip tail)
  cases h with
  | dec sg ip neg hs hip => simpa only [List.append_assoc] using key sg ip neg rest hs hip
  | decN sg ip neg hs hip => simpa only [List.append_assoc] using key sg ip neg _ hs hip
  | float sg ip fr ex neg hs hm hne => simpa only [List.append_assoc] using key sg ip neg _ hs hm.hip
  | decM sg ip fr ex neg hs hm hu => simpa only [List.append_assoc] using key sg ip neg _ hs hm.hip
  | ratio sg nd dd neg hs hn hd => simpa only [List.append_assoc] using key sg nd neg _ hs (.inr hn)
  | zeroRatio sg zs dd neg hs hz hd => simpa only [List.append_assoc] using key sg zs neg _ hs (.inl hz)
  | hex sg zs hs x neg suf hs' hz hx hh => simpa only [List.append_assoc] using key sg zs neg _ hs' (.inl hz)
  | octal sg zs os neg suf hs hz ho hfirst => simpa only [List.append_assoc] using key sg zs neg _ hs (.inl hz)
  | radix sg rp ds r neg suf hs hrp hrv hr hd hu hsuf =>
    have := start_join (body := rp ++ ([r] ++ ds ++ suf.bytes ++ rest)) hs (peek_prefix hrp.1 hrp.2 _)
    simpa only [List.append_assoc] using this

theorem coreNum_start {cfg : Cfg} {tok : Bytes} {v : NumVal} (h : CoreNum cfg tok v) (rest : Bytes) :
    ∃ c t, tok ++ rest = c :: t ∧
      (is09 c = true ∨ ((c = 0x2B ∨ c = 0x2D) ∧ ∃ nx t', t = nx :: t' ∧ is09 nx = true)) :=
  cljNum_start (cljNum_of_coreNum cfg tok v h) rest

/-- `hstart`: `s` starts where the dispatcher sends a number (a digit, or a sign followed by a digit) -/
theorem readNumber_core_sound (s rest : Bytes) (v : NumVal)
    (hstart : ∃ c t, s = c :: t ∧ (is09 c = true ∨ ((c = 0x2B ∨ c = 0x2D) ∧ ∃ nx t', t = nx :: t' ∧ is09 nx = true)))
    (h : readNumber Cfg.core s = .ok v rest) :
    ∃ tok, s = tok ++ rest ∧ CoreNum Cfg.core tok v ∧ TermStart rest := by
  -- a core token of some value in front of `rest` is enough: by completeness that value is `v`
  suffices hs : ∃ tok v', s = tok ++ rest ∧ CoreNum Cfg.core tok v' ∧ TermStart rest by
    obtain ⟨tok, v', rfl, hn, ht⟩ := hs
    have hv := readNumber_coreNum Cfg.core tok rest v' hn ht
    rw [h] at hv
    injection hv with hv
    exact ⟨tok, rfl, hv ▸ hn, ht⟩
  obtain ⟨sg, body, neg, rfl, hs, hb⟩ := CNum.start_split hstart
  rw [CNum.readNumber_sign Cfg.core sg body neg hs hb] at h
  obtain ⟨ip, X, rfl, hip, h⟩ := CNum.numBody_noclj_inv Cfg.core rfl _ neg body v rest hb h
  exact NSnd.decimal_sound sg neg ip X v rest hs (NSnd.decDigits_of_int hip) h

theorem readNumber_core_iff (s rest : Bytes) (v : NumVal)
    (hstart : ∃ c t, s = c :: t ∧ (is09 c = true ∨ ((c = 0x2B ∨ c = 0x2D) ∧ ∃ nx t', t = nx :: t' ∧ is09 nx = true))) :
    readNumber Cfg.core s = .ok v rest ↔ ∃ tok, s = tok ++ rest ∧ CoreNum Cfg.core tok v ∧ TermStart rest := by
  constructor
  · exact readNumber_core_sound s rest v hstart
  · rintro ⟨tok, rfl, hn, ht⟩
    exact readNumber_coreNum Cfg.core tok rest v hn ht

end Edn.Proofs
