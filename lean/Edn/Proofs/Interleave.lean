/-
  Keys and values in reading order.  The specifications write the function for values
  (`Edn.Spec.interleave`, ranges) and for any element type (`Edn.Spec.interleave2`, dispatch); it is one
  function (`interleave_eq`), and its lemmas are proved once, about `interleave2`.  The grammar's
  `Edn.Spec.interleaveKV` has the same body again, but no equation here: what is needed of it
  (GrammarTok, CompleteSeq) is proved there by inductions of its own.
-/
import Edn.Spec.Dispatch
import Edn.Spec.Ranges

namespace Edn.Proofs
open Edn.Model Edn.Spec

theorem interleave_eq : ∀ ks vs : List Val, interleave ks vs = interleave2 ks vs
  | [], _ => rfl
  | _ :: _, [] => rfl
  | k :: ks, v :: vs => congrArg (k :: v :: ·) (interleave_eq ks vs)

theorem interleave2_append {α : Type} : ∀ (a1 b1 a2 b2 : List α), a1.length = b1.length →
    interleave2 (a1 ++ a2) (b1 ++ b2) = interleave2 a1 b1 ++ interleave2 a2 b2
  | [], [], _, _, _ => rfl
  | [], _ :: _, _, _, h => nomatch h
  | _ :: _, [], _, _, h => nomatch h
  | x :: a1, y :: b1, a2, b2, h => congrArg (x :: y :: ·) (interleave2_append a1 b1 a2 b2 (Nat.succ.inj h))

theorem mem_interleave2 {α : Type} : ∀ (a b : List α) (x : α), x ∈ interleave2 a b → x ∈ a ∨ x ∈ b
  | [], _, x, h => by simp [interleave2] at h
  | _ :: _, [], x, h => by simp [interleave2] at h
  | k :: ks, v :: vs, x, h => by
    rw [interleave2] at h
    rcases List.mem_cons.mp h with rfl | h
    · exact .inl List.mem_cons_self
    rcases List.mem_cons.mp h with rfl | h
    · exact .inr List.mem_cons_self
    rcases mem_interleave2 ks vs x h with h | h
    · exact .inl (List.mem_cons_of_mem _ h)
    · exact .inr (List.mem_cons_of_mem _ h)

theorem interleave2_map {α β : Type} (f : α → β) : ∀ (a b : List α),
    (interleave2 a b).map f = interleave2 (a.map f) (b.map f)
  | [], _ => rfl
  | _ :: _, [] => rfl
  | x :: a, y :: b => congrArg (f x :: f y :: ·) (interleave2_map f a b)

/-- two accumulators (newest first) of equal length, turned into reading order -/
theorem interleave2_reverse {α : Type} : ∀ (a b : List α), a.length = b.length →
    interleave2 a.reverse b.reverse = (interleave2 b a).reverse
  | [], [], _ => rfl
  | [], _ :: _, h => nomatch h
  | _ :: _, [], h => nomatch h
  | x :: a, y :: b, h => by
    have hl := Nat.succ.inj h
    rw [List.reverse_cons, List.reverse_cons,
      interleave2_append _ _ _ _ (by rw [List.length_reverse, List.length_reverse, hl]),
      interleave2_reverse a b hl]
    exact (List.append_assoc _ [x] [y]).symm.trans
      ((List.reverse_cons ..).trans (congrArg (· ++ [y]) (List.reverse_cons ..))).symm

end Edn.Proofs
