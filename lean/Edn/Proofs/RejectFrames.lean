/-
  C10 / C19, whole documents, the reader's side: the declarative *open context* of a defect (`Desc`,
  `DescClj`) and one lemma per kind of frame (`site_…`): the error raised behind the frame is the error of
  the frame.  The frame lemmas speak of the reader only: complete forms enter as tokens that are read as
  one value (`ReadsAs`; the inductive `Run` of this file is a row of them), whatever grammar says so.
  No reader registry.
  Every statement is about the answer of a call at any sufficient fuel, `Evals ctx c r`; the fuel is counted
  once (`Evals.intro`), and a frame lemma is the rule of `StepRel` that fires on the answer behind the frame
  (`Evals.rule`), behind the first step of `readValue` on the opening bytes where there is one (`Evals.of_eq`).
-/
import Edn.Proofs.GrammarTok
import Edn.Proofs.NumberExact
import Edn.Proofs.DispatchDiscard

namespace Edn.Proofs.RejectDoc
open Edn.Model Edn.Spec Edn.Generated Edn.Proofs Edn.Proofs.Cmpl

/-- `Forms k n body after`: `body` is `n` complete forms of `Edn.Spec.Form` one after the other
    (each with the blanks, comments and discarded forms in front of it), nesting at most `k`,
    followed by `after` -/
inductive Forms : Nat → Nat → Bytes → Bytes → Prop
  | nil (k : Nat) (after : Bytes) : Forms k 0 [] after
  | cons (k n : Nat) (a : Val) (tok body after : Bytes) (h : Form k a tok (body ++ after))
      (hr : Forms k n body after) : Forms k (n + 1) (tok ++ body) after

/-- opening delimiter of a collection: kind 0 list, 1 vector, 2 set, anything else map -/
def opener : Nat → Bytes
  | 0 => [0x28]
  | 1 => [0x5B]
  | 2 => [0x23, 0x7B]
  | _ => [0x7B]

/-- `Desc s c d dm pre d' dm'`: the *open context* of a defect.  A reader that expects a form at
    nesting depth `d` (discard mode `dm`) and is given `pre ++ s` works through `pre` - blanks,
    comments, complete discarded forms, a discard marker or a tag whose operand is still to
    come, and (when `c = true`) opening delimiters of collections with complete forms after
    them - and arrives in front of `s` expecting a form at depth `d'` (mode `dm'`).
    `c = false`: no collection is opened on the way (a *flat* context). -/
inductive Desc (s : Bytes) : Bool → Nat → Bool → Bytes → Nat → Bool → Prop
  | here (c : Bool) (d : Nat) (dm : Bool) : Desc s c d dm [] d dm
  | blank (c : Bool) (d : Nat) (dm : Bool) (tr pre : Bytes) (d' : Nat) (dm' : Bool) (ht : Blank tr)
      (h : Desc s c d dm pre d' dm') : Desc s c d dm (tr ++ pre) d' dm'
  | skip (c : Bool) (d : Nat) (dm : Bool) (k : Nat) (b : Val) (tok pre : Bytes) (d' : Nat) (dm' : Bool)
      (hd : d + 1 + k ≤ Tables.maxNestingDepth) (hf : Form k b tok (pre ++ s))
      (h : Desc s c d dm pre d' dm') : Desc s c d dm (0x23 :: 0x5F :: (tok ++ pre)) d' dm'
  | discard (c : Bool) (d : Nat) (dm : Bool) (pre : Bytes) (d' : Nat) (dm' : Bool)
      (hd : d < Tables.maxNestingDepth) (h : Desc s c (d + 1) true pre d' dm') :
      Desc s c d dm (0x23 :: 0x5F :: pre) d' dm'
  | tag (c : Bool) (d : Nat) (dm : Bool) (tg : Bytes) (ns : Option Bytes) (nm : Bytes) (pre : Bytes) (d' : Nat) (dm' : Bool)
      (hd : d < Tables.maxNestingDepth) (hl : IdentLex tg) (hden : IdentDenotes tg (.sym hdr0 none ns nm))
      (hu : tg.head? ≠ some 0x5F) (hsep : DelimStart (pre ++ s))
      (h : Desc s c (d + 1) dm pre d' dm') : Desc s c d dm (0x23 :: (tg ++ pre)) d' dm'
  | coll (d : Nat) (dm : Bool) (kind k n : Nat) (body pre : Bytes) (d' : Nat) (dm' : Bool)
      (hd : d + 1 + k ≤ Tables.maxNestingDepth) (hb : Forms k n body (pre ++ s))
      (h : Desc s true (d + 1) dm pre d' dm') : Desc s true d dm (opener kind ++ (body ++ pre)) d' dm'

theorem Desc.mono {s : Bytes} {c : Bool} {d : Nat} {dm : Bool} {pre : Bytes} {d' : Nat} {dm' : Bool}
    (h : Desc s c d dm pre d' dm') : Desc s true d dm pre d' dm' := by
  induction h with
  | here c d dm => exact .here true d dm
  | blank c d dm tr pre d' dm' ht _ ih => exact .blank true d dm tr pre d' dm' ht ih
  | skip c d dm k b tok pre d' dm' hd hf _ ih => exact .skip true d dm k b tok pre d' dm' hd hf ih
  | discard c d dm pre d' dm' hd _ ih => exact .discard true d dm pre d' dm' hd ih
  | tag c d dm tg ns nm pre d' dm' hd hl hden hu hsep _ ih => exact .tag true d dm tg ns nm pre d' dm' hd hl hden hu hsep ih
  | coll d dm kind k n body pre d' dm' hd hb _ ih => exact .coll d dm kind k n body pre d' dm' hd hb ih

theorem Desc.depth_le {s : Bytes} {c : Bool} {d : Nat} {dm : Bool} {pre : Bytes} {d' : Nat} {dm' : Bool}
    (h : Desc s c d dm pre d' dm') : d ≤ d' := by
  induction h with
  | here => exact Nat.le_refl _
  | blank _ _ _ _ _ _ _ _ _ ih => exact ih
  | skip _ _ _ _ _ _ _ _ _ _ _ _ ih => exact ih
  | discard _ _ _ _ _ _ _ _ ih => omega
  | tag _ _ _ _ _ _ _ _ _ _ _ _ _ _ _ ih => omega
  | coll _ _ _ _ _ _ _ _ _ _ _ _ ih => omega

theorem Desc.trans {s : Bytes} {c : Bool} {d : Nat} {dm : Bool} {pre : Bytes} {d1 : Nat} {dm1 : Bool}
    (h : Desc (pre2 ++ s) c d dm pre d1 dm1) {d2 : Nat} {dm2 : Bool} (h2 : Desc s c d1 dm1 pre2 d2 dm2) :
    Desc s c d dm (pre ++ pre2) d2 dm2 := by
  induction h with
  | here c d dm => simpa using h2
  | blank c d dm tr pre d' dm' ht _ ih =>
    rw [List.append_assoc]
    exact .blank c d dm tr _ d2 dm2 ht (ih h2)
  | skip c d dm k b tok pre d' dm' hd hf _ ih =>
    have e : (0x23 :: 0x5F :: (tok ++ pre)) ++ pre2 = 0x23 :: 0x5F :: (tok ++ (pre ++ pre2)) := by simp
    rw [e]
    exact .skip c d dm k b tok _ d2 dm2 hd (by rw [List.append_assoc]; exact hf) (ih h2)
  | discard c d dm pre d' dm' hd _ ih =>
    exact .discard c d dm _ d2 dm2 hd (ih h2)
  | tag c d dm tg ns nm pre d' dm' hd hl hden hu hsep _ ih =>
    have e : (0x23 :: (tg ++ pre)) ++ pre2 = 0x23 :: (tg ++ (pre ++ pre2)) := by simp
    rw [e]
    exact .tag c d dm tg ns nm _ d2 dm2 hd hl hden hu (by rw [List.append_assoc]; exact hsep) (ih h2)
  | coll d dm kind k n body pre d' dm' hd hb _ ih =>
    have e : (opener kind ++ (body ++ pre)) ++ pre2 = opener kind ++ (body ++ (pre ++ pre2)) := by simp
    rw [e]
    exact .coll d dm kind k n body _ d2 dm2 hd (by rw [List.append_assoc]; exact hb) (ih h2)

theorem Forms.mono {k n : Nat} {body after : Bytes} (h : Forms k n body after) (k' : Nat) (hk : k ≤ k') :
    Forms k' n body after := by
  induction h with
  | nil after => exact .nil k' after
  | cons n a tok body after hf _ ih => exact .cons k' n a tok body after (Snd.form_mono hf k' hk) ih

def SiteErr (opts : Opts) (d : Nat) (dm : Bool) (s : Bytes) (e : ErrInfo) (r : Bytes) : Prop :=
  ∀ (cl : List Call) (f : Nat), 2 * s.length + 2 ≤ f →
    readValue (cctx opts) f d dm { rest := s, calls := cl } = .err e { rest := r, calls := cl }

/-- the error `readValue` raises at the end of the input at depth `d` (`eofErrOf d st` is
    `.err (eofE d) st`) -/
def eofE (d : Nat) : ErrInfo := { code := .unexpectedEof, es := none, ee := none, eofTop := d == 0 }

end Edn.Proofs.RejectDoc

namespace Edn.Proofs.RejectDocClj
open Edn.Model Edn.Spec Edn.Generated Edn.Proofs Edn.Proofs.Cmpl Edn.Proofs.CmplX Edn.Proofs.RejectDoc Edn.Proofs.RejectDocX

abbrev FX (cfg : Cfg) : Nat → Val → Bytes → Bytes → Prop := FormX cfg (numJOf cfg) (strJOf cfg)

inductive FormsX (cfg : Cfg) : Nat → Nat → Bytes → Bytes → Prop
  | nil (k : Nat) (after : Bytes) : FormsX cfg k 0 [] after
  | cons (k n : Nat) (a : Val) (tok body after : Bytes) (h : FX cfg k a tok (body ++ after))
      (hr : FormsX cfg k n body after) : FormsX cfg k (n + 1) (tok ++ body) after

/-- `DescClj cfg s c d dm pre d' dm'`: the *open context* of a defect over the grammar `FX cfg`.  The
    definition makes sense for any `cfg`; the reader follows it (`descClj_err`) when
    `cfg.clj = true`, since only then it knows `^` and `#:`.  Beside the constructs of `Desc` the
    context may hold

    * `metaAnn`  a `^` whose annotation is still to come,
    * `metaTgt`  a `^` and a complete annotation (of an annotation kind) whose target is still to come,
    * `nsBody`   `#:name`, blanks, `{`, `n` complete forms and the open element.

    Metadata and namespaced maps count as nesting levels, as in the model. -/
inductive DescClj (cfg : Cfg) (s : Bytes) : Bool → Nat → Bool → Bytes → Nat → Bool → Prop
  | here (c : Bool) (d : Nat) (dm : Bool) : DescClj cfg s c d dm [] d dm
  | blank (c : Bool) (d : Nat) (dm : Bool) (tr pre : Bytes) (d' : Nat) (dm' : Bool) (ht : Blank tr)
      (h : DescClj cfg s c d dm pre d' dm') : DescClj cfg s c d dm (tr ++ pre) d' dm'
  | skip (c : Bool) (d : Nat) (dm : Bool) (k : Nat) (b : Val) (tok pre : Bytes) (d' : Nat) (dm' : Bool)
      (hd : d + 1 + k ≤ Tables.maxNestingDepth) (hf : FX cfg k b tok (pre ++ s))
      (h : DescClj cfg s c d dm pre d' dm') : DescClj cfg s c d dm (0x23 :: 0x5F :: (tok ++ pre)) d' dm'
  | discard (c : Bool) (d : Nat) (dm : Bool) (pre : Bytes) (d' : Nat) (dm' : Bool)
      (hd : d < Tables.maxNestingDepth) (h : DescClj cfg s c (d + 1) true pre d' dm') :
      DescClj cfg s c d dm (0x23 :: 0x5F :: pre) d' dm'
  | tag (c : Bool) (d : Nat) (dm : Bool) (tg : Bytes) (ns : Option Bytes) (nm : Bytes) (pre : Bytes) (d' : Nat) (dm' : Bool)
      (hd : d < Tables.maxNestingDepth) (hl : IdentLex tg) (hden : IdentDenotes tg (.sym hdr0 none ns nm))
      (hu : tg.head? ≠ some 0x5F) (hsep : DelimStart (pre ++ s))
      (h : DescClj cfg s c (d + 1) dm pre d' dm') : DescClj cfg s c d dm (0x23 :: (tg ++ pre)) d' dm'
  | coll (d : Nat) (dm : Bool) (kind k n : Nat) (body pre : Bytes) (d' : Nat) (dm' : Bool)
      (hd : d + 1 + k ≤ Tables.maxNestingDepth) (hb : FormsX cfg k n body (pre ++ s))
      (h : DescClj cfg s true (d + 1) dm pre d' dm') : DescClj cfg s true d dm (opener kind ++ (body ++ pre)) d' dm'
  | metaAnn (c : Bool) (d : Nat) (dm : Bool) (pre : Bytes) (d' : Nat) (dm' : Bool)
      (hd : d < Tables.maxNestingDepth) (h : DescClj cfg s c (d + 1) dm pre d' dm') :
      DescClj cfg s c d dm (0x5E :: pre) d' dm'
  | metaTgt (c : Bool) (d : Nat) (dm : Bool) (k : Nat) (am : Val) (nks nvs : List Val) (tokm pre : Bytes) (d' : Nat) (dm' : Bool)
      (hd : d + 1 + k ≤ Tables.maxNestingDepth) (hm : FX cfg k am tokm (pre ++ s))
      (he : metaEntriesC am = some (nks, nvs))
      (h : DescClj cfg s c (d + 1) dm pre d' dm') : DescClj cfg s c d dm (0x5E :: (tokm ++ pre)) d' dm'
  | nsBody (d : Nat) (dm : Bool) (name tr : Bytes) (k n : Nat) (body pre : Bytes) (d' : Nat) (dm' : Bool)
      (hd : d + 1 + k ≤ Tables.maxNestingDepth)
      (hl : IdentLex (0x3A :: name)) (hden : IdentDenotes (0x3A :: name) (.kw hdr0 none name)) (ht : Blank tr)
      (hb : FormsX cfg k n body (pre ++ s))
      (h : DescClj cfg s true (d + 1) dm pre d' dm') :
      DescClj cfg s true d dm (0x23 :: 0x3A :: (name ++ (tr ++ 0x7B :: (body ++ pre)))) d' dm'

/-- `SiteErr` in the configuration `cfg`: in front of `s`, at depth `d` in mode `dm`, `readValue` answers the
    error `e` with `r` left, whatever the call log, at every sufficient fuel.  It is `∀ cl, Evals …` with the
    bound `Call6.need` written out (`SiteErrX.evals`, `SiteErrX.of_evals`). -/
def SiteErrX (cfg : Cfg) (opts : Opts) (d : Nat) (dm : Bool) (s : Bytes) (e : ErrInfo) (r : Bytes) : Prop :=
  ∀ (cl : List Call) (f : Nat), 2 * s.length + 2 ≤ f →
    readValue (xctx cfg opts) f d dm { rest := s, calls := cl } = .err e { rest := r, calls := cl }

theorem siteErr_eq (opts : Opts) : SiteErr opts = SiteErrX Cfg.core opts := rfl

/-- `n` tokens one after the other, each read as one value (`ReadsAs`, whatever it says of the value) -/
inductive Run (cfg : Cfg) (opts : Opts) (d : Nat) : Nat → Bytes → Bytes → Prop
  | nil (after : Bytes) : Run cfg opts d 0 [] after
  | cons (n : Nat) (P : Val → Prop) (tok body after : Bytes) (h : ReadsAs (xctx cfg opts) d P tok (body ++ after))
      (hr : Run cfg opts d n body after) : Run cfg opts d (n + 1) (tok ++ body) after

theorem Run.snoc {cfg : Cfg} {opts : Opts} {d n : Nat} {body after : Bytes} (h : Run cfg opts d (n + 1) body after) :
    ∃ body1 tok P, body = body1 ++ tok ∧ Run cfg opts d n body1 (tok ++ after) ∧ ReadsAs (xctx cfg opts) d P tok after := by
  generalize hm : n + 1 = m at h
  induction h generalizing n with
  | nil => omega
  | cons n' P tok body after hf hr ih =>
    obtain rfl : n = n' := by omega
    cases n with
    | zero =>
      cases hr with
      | nil => exact ⟨[], tok, P, by simp, .nil _, by simpa using hf⟩
    | succ n0 =>
      obtain ⟨body1, tok1, P1, rfl, h1, h2⟩ := ih rfl
      refine ⟨tok ++ body1, tok1, P1, by simp, ?_, h2⟩
      exact .cons n0 P tok body1 _ (by simpa using hf) h1

section frames
variable {cfg : Cfg} {opts : Opts} {d : Nat} {dm : Bool} {e : ErrInfo} {r : Bytes}

theorem SiteErrX.evals {s : Bytes} (h : SiteErrX cfg opts d dm s e r) (cl : List Call) :
    Evals (xctx cfg opts) (.v d dm { rest := s, calls := cl }) (.err e { rest := r, calls := cl }) := h cl

theorem SiteErrX.of_evals {s : Bytes}
    (h : ∀ cl, Evals (xctx cfg opts) (.v d dm { rest := s, calls := cl }) (.err e { rest := r, calls := cl })) :
    SiteErrX cfg opts d dm s e r := h

theorem SiteErrX.not_fuelOut {s : Bytes} (h : SiteErrX cfg opts d dm s e r) : e.fuelOut = false :=
  (h.evals []).not_fuelOut

theorem SiteErrX.top {input : Bytes} (h : SiteErrX cfg opts 0 false input e r) :
    readValue (xctx cfg opts) (readFuel input) 0 false { rest := input } = .err e { rest := r, calls := [] } :=
  h [] (readFuel input) (by simp only [readFuel]; omega)

def LoopErrSX (cfg : Cfg) (opts : Opts) (d : Nat) (dm : Bool) (kind start : Nat) (s : Bytes) (e : ErrInfo) (r : Bytes) : Prop :=
  ∀ (cl : List Call) (acc : List Val),
    Evals (xctx cfg opts) (.s d dm kind start { rest := s, calls := cl } acc) (.err e { rest := r, calls := cl })

def LoopErrMX (cfg : Cfg) (opts : Opts) (d : Nat) (dm : Bool) (start : Nat) (ns : Option Bytes) (s : Bytes) (e : ErrInfo) (r : Bytes) : Prop :=
  ∀ (cl : List Call) (ks vs : List Val),
    Evals (xctx cfg opts) (.m d dm start ns { rest := s, calls := cl } ks vs) (.err e { rest := r, calls := cl })

theorem rs_run {n : Nat} {body after : Bytes} (h : Run cfg opts (d + 1) n body after) {kind start : Nat}
    (hs : LoopErrSX cfg opts d dm kind start after e r) : LoopErrSX cfg opts d dm kind start (body ++ after) e r := by
  induction h with
  | nil after => exact hs
  | cons n _ tok body after hf _ ih =>
    intro cl acc
    obtain ⟨v, -, hv⟩ := hf dm cl
    rw [List.append_assoc]
    exact hv.rule₂ (ih hs cl (v :: acc)) fun _ h1 h2 => .sNext h1 h2

theorem rm_run {after : Bytes} {start : Nat} {ns : Option Bytes} (hs : LoopErrMX cfg opts d dm start ns after e r) :
    ∀ (m : Nat) (body : Bytes), Run cfg opts (d + 1) (2 * m) body after → LoopErrMX cfg opts d dm start ns (body ++ after) e r := by
  intro m
  induction m with
  | zero =>
    intro body h
    cases h with
    | nil => exact hs
  | succ m ih =>
    intro body h
    have e2 : 2 * (m + 1) = (2 * m + 1) + 1 := by omega
    rw [e2] at h
    cases h with
    | cons _ _ tok1 body1 _ hf1 hr1 =>
      cases hr1 with
      | cons _ _ tok2 body2 _ hf2 hr2 =>
        intro cl ks vs
        obtain ⟨v1, -, hv1⟩ := hf1 dm cl
        obtain ⟨v2, -, hv2⟩ := hf2 dm cl
        rw [List.append_assoc] at hv1 ⊢
        rw [List.append_assoc]
        exact hv1.rule₃ hv2 (ih body2 hr2 cl _ (v2 :: vs)) fun _ h1 h2 h3 => .mNext h1 h2 h3

theorem loopSX_of_site {kind start : Nat} {s : Bytes}
    (h : SiteErrX cfg opts (d + 1) dm s e r) : LoopErrSX cfg opts d dm kind start s (loopErr start e r) r :=
  fun cl _ => (h.evals cl).rule fun _ hv => .sErr hv

theorem loopMX_of_site {start : Nat} {ns : Option Bytes} {s : Bytes}
    (h : SiteErrX cfg opts (d + 1) dm s e r) : LoopErrMX cfg opts d dm start ns s (loopErr start e r) r :=
  fun cl _ _ => (h.evals cl).rule fun _ hv => .mErr hv

theorem loopMX_of_site2 {start : Nat} {ns : Option Bytes} {tok s : Bytes} {P : Val → Prop} (hf : ReadsAs (xctx cfg opts) (d + 1) P tok s)
    (h : SiteErrX cfg opts (d + 1) dm s e r) : LoopErrMX cfg opts d dm start ns (tok ++ s) (loopErr start e r) r :=
  fun cl _ _ =>
    let ⟨_, _, hv⟩ := hf dm cl
    hv.rule₂ (h.evals cl) fun _ h1 h2 => .mErr₂ h1 h2

theorem loopSX_of_closer {kind start : Nat} {tr : Bytes} {c : UInt8} {rest : Bytes}
    (h : CmplX.TrailRX cfg opts d tr (c :: rest)) (hc : c ≠ closerByte kind) :
    LoopErrSX cfg opts d dm kind start (tr ++ c :: rest) (mkErr .unmatchedDelimiter (some start) (some rest.length)) (c :: rest) :=
  fun cl _ => (h dm cl).rule fun _ hv => .sStray hv fun _ e => hc (List.head_eq_of_cons_eq e)

theorem loopMX_of_closer {start : Nat} {ns : Option Bytes} {tr : Bytes} {c : UInt8} {rest : Bytes}
    (h : CmplX.TrailRX cfg opts d tr (c :: rest)) (hc : c ≠ 0x7D) :
    LoopErrMX cfg opts d dm start ns (tr ++ c :: rest) (mkErr .unmatchedDelimiter (some start) (some rest.length)) (c :: rest) :=
  fun cl _ _ => (h dm cl).rule fun _ hv => .mStray hv rfl hc

theorem loopMX_of_closer2 {start : Nat} {ns : Option Bytes} {tok tr : Bytes} {c : UInt8} {rest : Bytes}
    {P : Val → Prop} (hf : ReadsAs (xctx cfg opts) (d + 1) P tok (tr ++ c :: rest)) (h : CmplX.TrailRX cfg opts d tr (c :: rest)) :
    LoopErrMX cfg opts d dm start ns (tok ++ (tr ++ c :: rest))
      (mkErr .invalidSyntax (some start) (some (rest.length + 1))) (c :: rest) :=
  fun cl _ _ =>
    let ⟨_, _, hv⟩ := hf dm cl
    hv.rule₂ (h dm cl) fun _ h1 h2 => .mOdd h1 h2

theorem opener_map {kind : Nat} (hk : 3 ≤ kind) : opener kind = [0x7B] := by
  match kind, hk with
  | _ + 3, _ => rfl

theorem readValue_seqOpen (ctx : Ctx) (f d : Nat) (dm : Bool) (kind : Nat) (hk : kind < 3) (x : Bytes) (cl : List Call)
    (hd : d < Tables.maxNestingDepth) :
    readValue ctx (f + 1) d dm { rest := opener kind ++ x, calls := cl } =
      readSeq ctx f d dm kind (opener kind ++ x).length { rest := x, calls := cl } [] := by
  match kind, hk with
  | 0, _ => exact readValue_listOpen ctx f d dm x cl hd
  | 1, _ => exact readValue_vecOpen ctx f d dm x cl hd
  | 2, _ => exact readValue_setOpen ctx f d dm x cl hd

theorem siteX_of_loopS {kind : Nat} (hk : kind < 3) {x : Bytes} (hd : d < Tables.maxNestingDepth)
    (h : LoopErrSX cfg opts d dm kind (opener kind ++ x).length x e r) : SiteErrX cfg opts d dm (opener kind ++ x) e r :=
  .of_evals fun cl => (h cl []).of_eq fun f => readValue_seqOpen _ f d dm kind hk x cl hd

theorem siteX_of_loopM {kind : Nat} (hk : 3 ≤ kind) {x : Bytes} (hd : d < Tables.maxNestingDepth)
    (h : LoopErrMX cfg opts d dm (opener kind ++ x).length none x e r) : SiteErrX cfg opts d dm (opener kind ++ x) e r := by
  rw [opener_map hk] at h ⊢
  exact .of_evals fun cl => (h cl [] []).of_eq fun f => readValue_mapOpen _ f d dm x cl hd

theorem siteX_of_loopNs (hclj : cfg.clj = true) {name tr x : Bytes} (hd : d < Tables.maxNestingDepth)
    (hl : IdentLex (0x3A :: name)) (hden : IdentDenotes (0x3A :: name) (.kw hdr0 none name)) (ht : Blank tr)
    (h : LoopErrMX cfg opts d dm (0x23 :: 0x3A :: (name ++ (tr ++ 0x7B :: x))).length (some name) x e r) :
    SiteErrX cfg opts d dm (0x23 :: 0x3A :: (name ++ (tr ++ 0x7B :: x))) e r := .of_evals fun cl =>
  let ⟨_, hk⟩ := evals_kwPrefix (xctx cfg opts) d dm cl hl hden (CmplX.delimStart_blank_brace ht x)
  evals_ns hclj hd (hk.rule₂ (h cl [] []) fun _ h1 h2 => .nNext h1 (CmplX.skipWs_blank_brace ht x) h2)

theorem site_eofX {s : Bytes} (h : skipWsScalar s = []) : SiteErrX cfg opts d dm s (eofE d) [] :=
  .of_evals fun cl => Evals.intro 0 fun f _ => readValue_trivia_only _ f d dm s cl h

theorem site_blank {tr x : Bytes} (ht : Blank tr)
    (h : SiteErrX cfg opts d dm x e r) : SiteErrX cfg opts d dm (tr ++ x) e r :=
  .of_evals fun cl => .blank ht (h.evals cl)

theorem site_skip {tok x : Bytes} (hd : d < Tables.maxNestingDepth) {P : Val → Prop} (ht : ReadsAs (xctx cfg opts) (d + 1) P tok x)
    (h : SiteErrX cfg opts d dm x e r) : SiteErrX cfg opts d dm (0x23 :: 0x5F :: (tok ++ x)) e r := .of_evals fun cl =>
  let ⟨_, _, hv⟩ := ht true cl
  .discard hd hv (h.evals cl)

theorem site_discard {x : Bytes} (hd : d < Tables.maxNestingDepth) (h : SiteErrX cfg opts (d + 1) true x e r) :
    SiteErrX cfg opts d dm (0x23 :: 0x5F :: x) e r := .of_evals fun cl =>
  (h.evals cl).bind fun f (h1 : readValue _ f (d + 1) true _ = _) =>
    (readValue_at_discard _ f d dm _ cl hd).trans (by rw [h1])

theorem site_discard_closer {tr : Bytes} {c : UInt8} {rest : Bytes}
    (hd : d < Tables.maxNestingDepth) (h : CmplX.TrailRX cfg opts d tr (c :: rest)) :
    SiteErrX cfg opts d dm (0x23 :: 0x5F :: (tr ++ c :: rest))
      (mkErr .invalidDiscard (some ((tr ++ c :: rest).length + 2)) (some (tr ++ c :: rest).length)) (c :: rest) := .of_evals fun cl =>
  (h true cl).bind fun f (h1 : readValue _ f (d + 1) true _ = _) =>
    (readValue_at_discard _ f d dm _ cl hd).trans (by rw [h1])

theorem site_tag {tg : Bytes} {ns : Option Bytes} {nm x : Bytes}
    (hd : d < Tables.maxNestingDepth) (hl : IdentLex tg) (hden : IdentDenotes tg (.sym hdr0 none ns nm))
    (hu : tg.head? ≠ some 0x5F) (hsep : DelimStart x)
    (h : SiteErrX cfg opts (d + 1) dm x e r) : SiteErrX cfg opts d dm (0x23 :: (tg ++ x)) e r := .of_evals fun cl =>
  evals_tag hd hl hden hu hsep (h.evals cl) fun _ _ _ _ _ _ hs hc hid hv => .tErr hs hc hid hv

theorem site_tag_closer {tg : Bytes} {ns : Option Bytes} {nm tr : Bytes} {c : UInt8} {rest : Bytes}
    (hd : d < Tables.maxNestingDepth) (hl : IdentLex tg) (hden : IdentDenotes tg (.sym hdr0 none ns nm))
    (hu : tg.head? ≠ some 0x5F) (hsep : DelimStart (tr ++ c :: rest)) (h : CmplX.TrailRX cfg opts d tr (c :: rest)) :
    SiteErrX cfg opts d dm (0x23 :: (tg ++ (tr ++ c :: rest)))
      (mkErr .invalidSyntax (some ((tg ++ (tr ++ c :: rest)).length + 1)) (some (rest.length + 1))) (c :: rest) := .of_evals fun cl =>
  evals_tag hd hl hden hu hsep (h dm cl) fun _ _ _ _ _ _ hs hc hid hv => .tCloser hs hc hid hv

/-- after an even number of complete forms the failing element is a key, after an odd number the
    value of the last form -/
theorem loopMX_of_elem {start : Nat} {ns : Option Bytes} {n : Nat} {body x : Bytes}
    (hb : Run cfg opts (d + 1) n body x) (h : SiteErrX cfg opts (d + 1) dm x e r) :
    LoopErrMX cfg opts d dm start ns (body ++ x) (loopErr start e r) r := by
  obtain ⟨m, rfl | rfl⟩ : ∃ m, n = 2 * m ∨ n = 2 * m + 1 := ⟨n / 2, by omega⟩
  · exact rm_run (loopMX_of_site h) m body hb
  · obtain ⟨body1, tok, _, rfl, h1, h2⟩ := hb.snoc
    rw [List.append_assoc]
    exact rm_run (loopMX_of_site2 h2 h) m body1 h1

/-- hard errors unchanged, the end of the input as UNTERMINATED_COLLECTION -/
theorem siteX_of_elem {kind n : Nat} {body x : Bytes}
    (hd : d < Tables.maxNestingDepth) (hb : Run cfg opts (d + 1) n body x)
    (h : SiteErrX cfg opts (d + 1) dm x e r) :
    SiteErrX cfg opts d dm (opener kind ++ (body ++ x)) (loopErr (opener kind ++ (body ++ x)).length e r) r := by
  by_cases hk : kind < 3
  · exact siteX_of_loopS hk hd (rs_run hb (loopSX_of_site h))
  · exact siteX_of_loopM (by omega) hd (loopMX_of_elem hb h)

theorem siteX_of_nsElem (hclj : cfg.clj = true) {name tr : Bytes} {n : Nat} {body x : Bytes} (hd : d < Tables.maxNestingDepth)
    (hl : IdentLex (0x3A :: name)) (hden : IdentDenotes (0x3A :: name) (.kw hdr0 none name)) (ht : Blank tr)
    (hb : Run cfg opts (d + 1) n body x) (h : SiteErrX cfg opts (d + 1) dm x e r) :
    SiteErrX cfg opts d dm (0x23 :: 0x3A :: (name ++ (tr ++ 0x7B :: (body ++ x))))
      (loopErr (0x23 :: 0x3A :: (name ++ (tr ++ 0x7B :: (body ++ x)))).length e r) r :=
  siteX_of_loopNs hclj hd hl hden ht (loopMX_of_elem hb h)

theorem site_metaAnn (hclj : cfg.clj = true) {x : Bytes} (hd : d < Tables.maxNestingDepth)
    (h : SiteErrX cfg opts (d + 1) dm x e r) : SiteErrX cfg opts d dm (0x5E :: x) e r :=
  .of_evals fun cl => evals_meta hclj hd ((h.evals cl).rule fun _ hv => .meErr hv)

end frames

end Edn.Proofs.RejectDocClj
