/-
  C01 (arithmetic half): the accumulators that the C code keeps in
  fixed-width signed or unsigned integers never leave their range, for every input.
  (The model computes in unbounded naturals; these theorems show the values it computes
  are the ones a 64-bit / 32-bit machine computes without overflow.)
-/
import Edn.Model.Number
import Edn.Proofs.Number

namespace Edn.Proofs
open Edn.Model
open Edn.Proofs.NumSwar (dval_le_nine)
open Edn.Proofs.NumInt (scalarDigits10_eq scalarDigits_run swarLoop_run fastSmall_val runVal_bound)

/-- invariant of the float mantissa accumulator (`int64_t mantissa`): it stays below 10^(digits
    counted so far, at most 18).  The conclusion has the form of the hypothesis, so it also covers
    the second call of `parse_double_from_buffer`, for the fraction, which starts from the result
    of the first. -/
theorem accDigits_inv (exp : Bool) : ∀ (s : Bytes) (m n : Nat), m < 10 ^ (min n 18) →
    (accDigits exp m n s).1 < 10 ^ (min (accDigits exp m n s).2.1 18)
  | [], m, n, h => by rw [accDigits]; exact h
  | c :: cs, m, n, h => by
    rw [accDigits]
    by_cases hus : (exp && c == 0x5F) = true
    · rw [if_pos hus]; exact accDigits_inv exp cs m n h
    · rw [if_neg hus]
      by_cases h9 : is09 c = true
      · rw [if_pos h9]
        apply accDigits_inv
        have hd := dval_le_nine h9
        by_cases hn : n < 18
        · rw [if_pos hn, show min (n + 1) 18 = min n 18 + 1 by omega, Nat.pow_succ]
          omega
        · rw [if_neg hn, show min (n + 1) 18 = min n 18 by omega]
          exact h
      · rw [if_neg h9]; exact h

/-- hence below 10^18 < 2^63 -/
theorem accDigits_bound (exp : Bool) (s : Bytes) (m n : Nat) (h : m < 10 ^ (min n 18)) :
    (accDigits exp m n s).1 < 10 ^ 18 :=
  Nat.lt_of_lt_of_le (accDigits_inv exp s m n h) (Nat.pow_le_pow_right (by decide) (Nat.min_le_right _ _))

/-- `accExp` returns the exponent after the clamp at 1000 -/
theorem accExp_le (exp : Bool) : ∀ (s : Bytes) (v : Nat), v ≤ 1000 → accExp exp v s ≤ 1000 := by
  intro s
  induction s with
  | nil => intro v h; rw [accExp]; exact h
  | cons c cs ih =>
    intro v h
    rw [accExp]
    split
    · exact ih v h
    · split
      · simp only []
        split
        · exact Nat.le_refl _
        · apply ih; omega
      · exact h

/-- the weaker bound that C01 states: 10009 = 1000 · 10 + 9 is what the C variable `int64_t exp_value`
    can reach before the clamp; `accExp` clamps before it returns, so that intermediate is no value of
    the model -/
theorem accExp_bound (exp : Bool) (s : Bytes) (v : Nat) (h : v ≤ 1000) : accExp exp v s ≤ 10009 :=
  Nat.le_trans (accExp_le exp s v h) (by decide)

/-- the radix prefix accumulator (`int radix_val`) never exceeds 369 -/
theorem radixPrefixValue_bound : ∀ (s : Bytes) (v : Nat), v ≤ 369 → (∀ c ∈ s, is09 c = true) →
    radixPrefixValue v s ≤ 369 := by
  intro s
  induction s with
  | nil => intro v h _; rw [radixPrefixValue]; exact h
  | cons c cs ih =>
    intro v h hall
    rw [radixPrefixValue]
    apply ih
    · have hd := dval_le_nine (hall c (List.mem_cons_self))
      split <;> omega
    · intro x hx; exact hall x (List.mem_cons_of_mem _ hx)

/-- the 64-bit accumulator of `parse_int64_from_buffer` never wraps: `swarLoop_run` and
    `scalarDigits_run` describe the loops on any bytes with `w64` applied only to values already
    below 2^64, and whatever a loop hands on is within the bound it tests against -/
theorem swarLoop_no_wrap (maxVal : Nat) (hmax : maxVal ≤ 9223372036854775808) :
    ∀ (f v : Nat) (s : Bytes), v ≤ maxVal → ∀ r rest, swarLoop maxVal f v s = some (r, rest) → r ≤ maxVal := by
  intro f v s hv r rest h
  have := swarLoop_run false hmax f v s hv
  rw [h] at this
  exact this.1

theorem scalarDigits_no_wrap (exp : Bool) {radix maxVal : Nat} (hr : 1 ≤ radix)
    (hmax : maxVal ≤ 9223372036854775808) : ∀ (s : Bytes) (v : Nat), v ≤ maxVal →
      ∀ r, scalarDigits exp radix (maxVal / radix) (maxVal % radix) v s = some r → r ≤ maxVal := by
  intro s v hv r h
  rw [scalarDigits_run exp hr hmax s v hv] at h
  split at h
  · cases h; assumption
  · cases h

theorem scalarDigits10_no_wrap (exp : Bool) (maxVal : Nat) (hmax : maxVal ≤ 9223372036854775808) :
    ∀ (s : Bytes) (v : Nat), v ≤ maxVal →
      ∀ r, scalarDigits10 exp (maxVal / 10) (maxVal % 10) v s = some r → r ≤ maxVal := by
  intro s v
  rw [scalarDigits10_eq]
  exact scalarDigits_no_wrap exp (by decide) hmax s v

/-- the ultra-fast path: on the at most three bytes `parseInt64` gives it, from `v = 0`, this is
    `< 1000` -/
theorem fastSmall_bound (exp : Bool) (s : Bytes) (v : Nat) (moved : Bool) :
    (fastSmall exp v moved s).1 < (v + 1) * 10 ^ s.length :=
  fastSmall_val exp s v moved ▸ runVal_bound (by decide) s v

/-- the result of `parse_int64_from_buffer` always fits the signed 64-bit range (so the final
    conversion and negation are defined) -/
theorem parseInt64_in_range (cfg : Cfg) (ds : Bytes) (radix : Nat) (hr : 2 ≤ radix ∧ radix ≤ 36) (neg : Bool) (i : Int)
    (h : parseInt64 cfg ds radix neg = some i) : -9223372036854775808 ≤ i ∧ i ≤ 9223372036854775807 :=
  (inRange_some (parseInt64_eq cfg (Nat.le_of_succ_le hr.1) ds neg ▸ h)).2

end Edn.Proofs
