/-
  C16, the fault theorem: under EVERY fault oracle (every single failing request, every from-k-on
  failure, every other schedule) the reader of Edn.Model.ReaderA returns either the complete value of
  the fault-free reader — identical up to cache cells, with the same rest of the input and the same
  call log — or the caller's end-of-input value exactly where the fault-free reader returns it, or an
  error.  Never a different or partial value, and the model's recursion fuel still suffices.

  Cache cells: when the scratch memory of the duplicate check is refused, the check falls back to a
  strategy that does not hash the elements, so the returned elements have empty cache cells where
  the fault-free run has filled ones; `Edn.Spec.eraseCache` empties all cache cells.

  Hypothesis `RegistryOK cfg opts` (trivially true without a registry): every handler, given
  arguments that differ in cache cells only, gives up on both or returns results that differ in
  cache cells only and are again operands of the value algebra (`HandlerOK`).  A tag handler is an
  arbitrary function of the value it is given, cache cells included, so without such a hypothesis
  "equal up to cache cells" is not preserved by the model
  (`fault_theorem_needs_registry_hypothesis`).  The handlers of the harness satisfy it
  (`HandlerOK_id`, `HandlerOK_fail`, `HandlerOK_ext`).

  Why the arena counts refused requests (`arena->failed_requests` in edn.c, `ASt.failedArena`
  here).  Equality cannot tell a refused lazy decoding from an undecodable literal, so a refused
  request inside the duplicate check or the metadata merge changes the verdict.  Without the count
  the theorem is false: in the core configuration `#{"a\n" "a<LF>"}` (escape vs. raw line feed) with
  request 6 alone failing yields a set with two equal elements where the fault-free run reports
  DUPLICATE_ELEMENT; in the Clojure configuration `^{"a\n" 1} ^{"a<LF>" 2} x` with request 17 and
  every later one failing yields `x` with a two-entry metadata map with equal keys.  edn.c has
  this defect in the parent of commit 3ec3cdf of /repo, which introduces the count: the set / map
  close and the metadata merge report OUT_OF_MEMORY when it moved during the comparison.  The
  proof uses exactly this: a verdict obtained while the count stood still is the fault-free
  verdict (`Sim`, Edn.Proofs.AllocFrame).

  Proof.  `eraseCache` commutes with everything the reader does to a value after it has been read,
  and equality, the duplicate check under an allocation outcome and the metadata merge do not depend
  on cache cells of well-formed values with valid caches (Edn.Proofs.CacheErase).  `Same`: equal up
  to cache cells and operands on both sides (`VOK` of Edn.Proofs.ReaderInv), with the reader's
  constructions as its congruences; `Good` adds `MdOK` for the keys of an attached metadata map;
  `RelF` is the relation of results over it, and `faultWorld` shows it closed as `World` of
  Edn.Proofs.AllocSim demands.
-/
import Edn.Proofs.CacheErase
import Edn.Proofs.ReaderInv
import Edn.Proofs.AllocSim

namespace Edn.Proofs.AllocSim
open Edn.Model Edn.Spec Edn.Proofs Edn.Generated Edn.Proofs.AllocBasic

/-! `Same` asks `VOK` of both sides: equality is independent of cache cells only on operands of the
value algebra. -/

structure Same (cfg : Cfg) (d : Nat) (v v0 : Val) : Prop where
  er : eraseCache v = eraseCache v0
  ok : VOK cfg d v
  ok0 : VOK cfg d v0

structure SameL (cfg : Cfg) (d : Nat) (xs xs0 : List Val) : Prop where
  er : eraseCacheL xs = eraseCacheL xs0
  ok : ∀ y ∈ xs, VOK cfg d y
  ok0 : ∀ y ∈ xs0, VOK cfg d y

theorem Same.weaken {cfg : Cfg} {d : Nat} {v v0 : Val} (h : Same cfg (d + 1) v v0) : Same cfg d v v0 :=
  ⟨h.er, h.ok.weaken, h.ok0.weaken⟩

/-- the header replacement of `edn_read_tagged`: the result of a handler gets the range of the
    tagged form -/
theorem Same.setRange {cfg : Cfg} {d : Nat} {v v0 : Val} (s e : Nat) (h : Same cfg d v v0) :
    Same cfg d (v.setHdr { v.hdr with s := s, e := e }) (v0.setHdr { v0.hdr with s := s, e := e }) :=
  ⟨setRange_of_erase s e h.er, VOK_setHdr _ rfl h.ok, VOK_setHdr _ rfl h.ok0⟩

theorem SameL.nil {cfg : Cfg} {d : Nat} : SameL cfg d [] [] := ⟨rfl, no_mem_nil, no_mem_nil⟩

theorem SameL.cons {cfg : Cfg} {d : Nat} {v v0 : Val} {xs xs0 : List Val} (g : Same cfg d v v0)
    (h : SameL cfg d xs xs0) : SameL cfg d (v :: xs) (v0 :: xs0) :=
  ⟨eraseCacheL_cons_congr g.er h.er, mem_cons_all g.ok h.ok, mem_cons_all g.ok0 h.ok0⟩

theorem SameL.reverse {cfg : Cfg} {d : Nat} {xs xs0 : List Val} (h : SameL cfg d xs xs0) :
    SameL cfg d xs.reverse xs0.reverse :=
  ⟨eraseCacheL_reverse_congr h.er, mem_reverse_all h.ok, mem_reverse_all h.ok0⟩

theorem SameL.list {cfg : Cfg} {d : Nat} {xs xs0 : List Val} (s e : Nat) (hd : d < Generated.Tables.maxNestingDepth)
    (h : SameL cfg (d + 1) xs xs0) : Same cfg d (.list (mkHdr s e) none xs) (.list (mkHdr s e) none xs0) :=
  ⟨congrArg (Val.list (mkHdr s e) none) h.er, VOK_list s e hd h.ok, VOK_list s e hd h.ok0⟩

theorem SameL.vec {cfg : Cfg} {d : Nat} {xs xs0 : List Val} (s e : Nat) (hd : d < Generated.Tables.maxNestingDepth)
    (h : SameL cfg (d + 1) xs xs0) : Same cfg d (.vec (mkHdr s e) none xs) (.vec (mkHdr s e) none xs0) :=
  ⟨congrArg (Val.vec (mkHdr s e) none) h.er, VOK_vec s e hd h.ok, VOK_vec s e hd h.ok0⟩

theorem Same.tagged {cfg : Cfg} {d : Nat} {v v0 : Val} (s e : Nat) (tag : Bytes)
    (h : Same cfg (d + 1) v v0) : Same cfg d (.tagged (mkHdr s e) none tag v) (.tagged (mkHdr s e) none tag v0) :=
  ⟨congrArg (Val.tagged (mkHdr s e) none tag) h.er, VOK_tagged s e tag h.ok, VOK_tagged s e tag h.ok0⟩

/-- `c`, `m`: the outcomes of the two scratch allocations of the check on the left (`true`, `true`:
    `hasDuplicates` itself) -/
theorem SameL.dup {cfg : Cfg} {d : Nat} {xs xs0 : List Val} (c m : Bool) (hd : d < Generated.Tables.maxNestingDepth)
    (h : SameL cfg (d + 1) xs xs0) :
    (hasDuplicatesF cfg c m xs).1 = (hasDuplicates cfg xs0).1 ∧
    ((hasDuplicates cfg xs0).1 = false →
      SameL cfg (d + 1) (hasDuplicatesF cfg c m xs).2 (hasDuplicates cfg xs0).2 ∧
      pairwiseDistinct cfg (hasDuplicatesF cfg c m xs).2 ∧ pairwiseDistinct cfg (hasDuplicates cfg xs0).2 ∧
      (hasDuplicatesF cfg c m xs).2.length = xs.length ∧ (hasDuplicates cfg xs0).2.length = xs0.length) := by
  obtain ⟨v1, v2, v3, v4, v5⟩ := hasDuplicatesF_spec cfg c m xs (Elems_of_VOK h.ok)
  obtain ⟨w1, w2, w3, w4, w5⟩ := hasDuplicates_iff cfg xs0 (Elems_of_VOK h.ok0)
  have pd := pairwiseDistinct_of_erase cfg xs0 xs h.er
  refine ⟨bool_eq_of_false_iff (v1.trans (pd.trans w1.symm)), fun h0 => ?_⟩
  have p0 := w1.mp h0
  refine ⟨⟨by rw [hasDuplicatesF_snd_erase, hasDuplicates_snd_erase, h.er], VOK_of_Elems v2 ?_, VOK_of_Elems w2 ?_⟩,
    v4 (pd.mpr p0), w4 p0, v3, w3⟩
  · rw [v5]; exact depthL_VOK hd h.ok
  · rw [w5]; exact depthL_VOK hd h.ok0

theorem SameL.set {cfg : Cfg} {d : Nat} {xs xs0 : List Val} (c m : Bool) (s e : Nat)
    (hd : d < Generated.Tables.maxNestingDepth) (h : SameL cfg (d + 1) xs xs0) (h0 : (hasDuplicates cfg xs0).1 = false) :
    Same cfg d (.set (mkHdr s e) none (hasDuplicatesF cfg c m xs).2)
      (.set (mkHdr s e) none (hasDuplicates cfg xs0).2) := by
  obtain ⟨g, p, p0, -, -⟩ := (h.dup c m hd).2 h0
  exact ⟨congrArg (Val.set (mkHdr s e) none) g.er, VOK_set s e hd g.ok p, VOK_set s e hd g.ok0 p0⟩

theorem SameL.map {cfg : Cfg} {d : Nat} {ks ks0 vs vs0 : List Val} (c m : Bool) (s e : Nat)
    (hd : d < Generated.Tables.maxNestingDepth) (hk : SameL cfg (d + 1) ks ks0) (hv : SameL cfg (d + 1) vs vs0)
    (hl : ks.length = vs.length) (hl0 : ks0.length = vs0.length) (h0 : (hasDuplicates cfg ks0).1 = false) :
    Same cfg d (.map (mkHdr s e) none (hasDuplicatesF cfg c m ks).2 vs)
      (.map (mkHdr s e) none (hasDuplicates cfg ks0).2 vs0) := by
  obtain ⟨g, p, p0, l, l0⟩ := (hk.dup c m hd).2 h0
  refine ⟨?_, VOK_map s e hd g.ok hv.ok p (l.trans hl), VOK_map s e hd g.ok0 hv.ok0 p0 (l0.trans hl0)⟩
  show Val.map (mkHdr s e) none (eraseCacheL _) (eraseCacheL _) = Val.map (mkHdr s e) none (eraseCacheL _) (eraseCacheL _)
  rw [g.er, hv.er]

theorem equal_erase (cfg : Cfg) {a b a0 b0 : Val} (ha : eraseCache a = eraseCache a0) (hb : eraseCache b = eraseCache b0)
    (ea : El cfg a) (eb : El cfg b) (ea0 : El cfg a0) (eb0 : El cfg b0) : equal cfg a b = equal cfg a0 b0 := by
  have h1 := equal_iff_Eqv cfg a b ea.1 eb.1 ea.2.1 eb.2.1 ea.2.2 eb.2.2
  have h2 := equal_iff_Eqv cfg a0 b0 ea0.1 eb0.1 ea0.2.1 eb0.2.1 ea0.2.2 eb0.2.2
  have h3 := Eqv_of_erase cfg ha hb
  cases hx : equal cfg a b <;> cases hy : equal cfg a0 b0 <;> simp_all

theorem any_equal_erase (cfg : Cfg) {k k0 : Val} (hk : eraseCache k = eraseCache k0) (ek : El cfg k) (ek0 : El cfg k0)
    (nks nks0 : List Val) (he : eraseCacheL nks = eraseCacheL nks0) :
    (∀ y ∈ nks, El cfg y) → (∀ y ∈ nks0, El cfg y) →
    nks.any (fun nk => equal cfg k nk) = nks0.any (fun nk => equal cfg k0 nk) := by
  rw [eraseCacheL_eq_map, eraseCacheL_eq_map] at he
  have hr := all₂_of_map_eq he
  clear he
  induction hr with
  | nil => exact fun _ _ => rfl
  | @cons y y0 ys ys0 e1 _ ih =>
    intro h1 h2
    rw [List.any_cons, List.any_cons,
      equal_erase cfg hk e1 ek (h1 y List.mem_cons_self) ek0 (h2 y0 List.mem_cons_self),
      ih (fun z hz => h1 z (List.mem_cons_of_mem _ hz)) (fun z hz => h2 z (List.mem_cons_of_mem _ hz))]

theorem keepOld_erase (cfg : Cfg) (nks nks0 : List Val) (hn : eraseCacheL nks = eraseCacheL nks0)
    (en : ∀ y ∈ nks, El cfg y) (en0 : ∀ y ∈ nks0, El cfg y) :
    ∀ (ks ks0 : List Val), eraseCacheL ks = eraseCacheL ks0 → ∀ (vs vs0 : List Val), eraseCacheL vs = eraseCacheL vs0 →
    (∀ y ∈ ks, El cfg y) → (∀ y ∈ ks0, El cfg y) →
    eraseCacheL (keepOld cfg nks ks vs).1 = eraseCacheL (keepOld cfg nks0 ks0 vs0).1 ∧
    eraseCacheL (keepOld cfg nks ks vs).2 = eraseCacheL (keepOld cfg nks0 ks0 vs0).2 := by
  intro ks ks0 hk vs vs0 hv e1 e2
  simp only [eraseCacheL_eq_map] at hk hv ⊢
  have := keepBy_rel (all₂_of_map_eq hk)
    (fun k hk k0 hk0 e => any_equal_erase cfg e (e1 k hk) (e2 k0 hk0) nks nks0 hn en en0) (all₂_of_map_eq hv)
  rw [keepOld_eq_keepBy, keepOld_eq_keepBy]
  exact ⟨map_eq_of_all₂ this.1, map_eq_of_all₂ this.2⟩

structure Good (cfg : Cfg) (d : Nat) (v v0 : Val) : Prop where
  er : eraseCache v = eraseCache v0
  ok : VOK cfg d v
  ok0 : VOK cfg d v0
  md : MdOK cfg v
  md0 : MdOK cfg v0

theorem Good.same {cfg : Cfg} {d : Nat} {v v0 : Val} (h : Good cfg d v v0) : Same cfg d v v0 := ⟨h.er, h.ok, h.ok0⟩

theorem Good.of {cfg : Cfg} {d : Nat} {v v0 : Val} (h : Same cfg d v v0) (m : MdOK cfg v) (m0 : MdOK cfg v0) :
    Good cfg d v v0 := ⟨h.er, h.ok, h.ok0, m, m0⟩

theorem Good.fresh {cfg : Cfg} {d : Nat} {v v0 : Val} (h : Same cfg d v v0) (m : v.md = none) (m0 : v0.md = none) :
    Good cfg d v v0 := .of h (MdOK_of_none m) (MdOK_of_none m0)

theorem Good.weaken {cfg : Cfg} {d : Nat} {v v0 : Val} (h : Good cfg (d + 1) v v0) : Good cfg d v v0 :=
  .of h.same.weaken h.md h.md0

theorem Good.setRange {cfg : Cfg} {d : Nat} {v v0 : Val} (s e : Nat) (h : Good cfg d v v0) :
    Good cfg d (v.setHdr { v.hdr with s := s, e := e }) (v0.setHdr { v0.hdr with s := s, e := e }) :=
  .of (h.same.setRange s e) (MdOK_setHdr _ h.md) (MdOK_setHdr _ h.md0)

def HandlerOK (cfg : Cfg) (h : Handler) : Prop :=
  ∀ (d : Nat) (v v0 : Val), Good cfg (d + 1) v v0 →
    match h.run v, h.run v0 with
    | none, none => True
    | some r, some r0 => Good cfg d r r0
    | _, _ => False

def RegistryOK (cfg : Cfg) (opts : Opts) : Prop :=
  ∀ reg, opts.registry = some reg → ∀ tag h, reg tag = some h → HandlerOK cfg h

theorem RegistryOK_of_none {cfg : Cfg} {opts : Opts} (h : opts.registry = none) : RegistryOK cfg opts := by
  intro reg e; rw [h] at e; cases e

theorem handler_answers {R : Val → Val → Prop} {o o0 : Option Val}
    (h : match o, o0 with | none, none => True | some r, some r0 => R r r0 | _, _ => False) :
    (o = none ∧ o0 = none) ∨ ∃ r r0, o = some r ∧ o0 = some r0 ∧ R r r0 := by
  cases o <;> cases o0 <;> first | exact .inl ⟨rfl, rfl⟩ | exact .inr ⟨_, _, rfl, rfl, h⟩ | exact h.elim

/-- a value is matched by a value that differs in cache cells only, "closer" by "closer", an error by
    itself; an ordinary error — neither the end of input between top-level forms, which the caller may
    turn into its end-of-input value, nor the model's "out of fuel" — by anything -/
def RelF (cfg : Cfg) (d : Nat) (rA r0 : Res) : Prop :=
  match rA with
  | .ok v st' => ∃ v0, r0 = .ok v0 st' ∧ Good cfg d v v0
  | .closer st' => r0 = .closer st'
  | .err e st' => r0 = .err e st' ∨ Ordinary e

theorem dup_after {x : ACtx} {xs : List Val} {a1 a2 : ASt} {dup : Bool} {ys : List Val}
    (hq : hasDuplicatesA x xs a1 = ((dup, ys), a2)) (hc : a2.failedArena = a1.failedArena)
    (hr : (a2.request x.orc .arena).1 = true) : DupOut x xs (dup, ys) := by
  have h := hasDuplicatesA_out x xs a1
  rw [hq] at h
  have ha2 := request_arena_alive x.orc a2 0 hr
  exact h.2 (h.1.arena.symm.trans ha2) hc

theorem attachMeta_erase (cfg : Cfg) {m m0 form form0 : Val} {nks nvs nks0 nvs0 : List Val}
    (hf : eraseCache form = eraseCache form0) (hk : eraseCacheL nks = eraseCacheL nks0)
    (hv : eraseCacheL nvs = eraseCacheL nvs0) (en : ∀ y ∈ nks, El cfg y) (en0 : ∀ y ∈ nks0, El cfg y)
    (hm : MdOK cfg form) (hm0 : MdOK cfg form0) :
    eraseCache (attachMeta cfg m form nks nvs) = eraseCache (attachMeta cfg m0 form0 nks0 nvs0) := by
  have hmd := md_of_erase hf
  have fresh : eraseCacheO (some (Val.map synthHdr none nks nvs)) = eraseCacheO (some (Val.map synthHdr none nks0 nvs0)) :=
    congrArg some (erase_map rfl rfl hk hv)
  -- erasure keeps "the metadata cell holds a map": the mixed cases are impossible
  have mixed : ∀ {f f0 : Val} {h md ks vs}, eraseCacheO f.md = eraseCacheO f0.md → f.md = some (.map h md ks vs) →
      (∀ h md ks vs, f0.md ≠ some (.map h md ks vs)) → False := by
    intro f f0 h md ks vs hq e c0
    rw [e] at hq
    cases e0 : f0.md with
    | none => rw [e0] at hq; cases hq
    | some w =>
      rw [e0] at hq
      obtain ⟨h0, md0, ks0, vs0, rfl, -⟩ := map_of_erase (Option.some.inj hq)
      exact c0 _ _ _ _ e0
  rcases attachMeta_cases cfg m form nks nvs with ⟨h, md, ks, vs, e, ea⟩ | ⟨c, ea⟩ <;>
    rcases attachMeta_cases cfg m0 form0 nks0 nvs0 with ⟨h0, md0, ks0, vs0, e0, ea0⟩ | ⟨c0, ea0⟩ <;> rw [ea, ea0]
  · rw [e, e0] at hmd
    obtain ⟨_, _, _, _, ew, q1, q2, q3, q4⟩ := map_of_erase (Option.some.inj hmd)
    cases ew
    obtain ⟨o1, o2⟩ := keepOld_erase cfg nks nks0 hk en en0 ks ks0 q3 vs vs0 q4 (hm h md ks vs e) (hm0 h0 md0 ks0 vs0 e0)
    refine setMd_of_erase hf (congrArg some (erase_map q1 q2 ?_ ?_))
    · rw [eraseCacheL_append, eraseCacheL_append, hk, o1]
    · rw [eraseCacheL_append, eraseCacheL_append, hv, o2]
  · exact (mixed hmd e c0).elim
  · exact (mixed hmd.symm e0 c).elim
  · exact setMd_of_erase hf fresh

section
variable (x : ACtx)

def F4 (RA : Nat → Bool → Nat → St → ASt → Res × ASt) (R0 : Nat → Bool → Nat → St → Res) : Prop :=
  ∀ d dm start st a, d < Tables.maxNestingDepth → RelF x.ctx.cfg d (RA d dm start st a).1 (R0 d dm start st)

variable {x}

/-- when the count of refused requests stood still, the check computed `hasDuplicatesF` for some
    allocation outcome: the verdict is the fault-free one (`SameL.dup`); `hgood` builds the value from
    the elements handed back -/
theorem dupClose_fault {d : Nat} {xs xs0 : List Val} (a : ASt) (hd : d < Tables.maxNestingDepth)
    (hacc : SameL x.ctx.cfg (d + 1) xs xs0) (e : ErrInfo) (he : Ordinary e) (st : St) (mk mk0 : List Val → Val)
    (hgood : (hasDuplicates x.ctx.cfg xs0).1 = false → ∀ c m,
      Good x.ctx.cfg d (mk (hasDuplicatesF x.ctx.cfg c m xs).2) (mk0 (hasDuplicates x.ctx.cfg xs0).2)) :
    RelF x.ctx.cfg d (dupCloseA x xs a e st mk).1 (dupClose x.ctx.cfg xs0 e st mk0) := by
  unfold dupCloseA valueA dupClose
  rcases hdq : hasDuplicatesA x xs a with ⟨⟨dup, ys⟩, a2⟩
  simp only
  split
  · exact .inr ⟨rfl, rfl⟩
  · next hcnt =>
    cases dup
    · cases hreq : (a2.request x.orc .arena).1
      · exact .inr ⟨rfl, rfl⟩
      · obtain ⟨c', m', e1, e2, -⟩ := dup_after hdq (by simpa using hcnt) hreq
        have h0 : (hasDuplicates x.ctx.cfg xs0).1 = false := (hacc.dup c' m' hd).1.symm.trans e1.symm
        have e3 : ys = (hasDuplicatesF x.ctx.cfg c' m' xs).2 := e2 rfl
        rw [h0, e3]
        exact ⟨_, rfl, hgood h0 c' m'⟩
    · exact .inr he

theorem LeafCall.inv {LA : St → ASt → Res × ASt} {L : St → Res} (c : LeafCall x LA L) (s : St) {d : Nat}
    (hd : d ≤ Tables.maxNestingDepth) : (L s).okP fun v => VOK x.ctx.cfg d v ∧ MdOK x.ctx.cfg v := by
  cases c
  · exact (readIdentifier_leafRes _ _).post.inv hd
  · exact (readString_leafRes _ _).post.inv hd
  · exact (readCharacter_leafRes _ _).post.inv hd
  · exact (readSymbolic_leafRes _ _).post.inv hd
  · exact (readNumberRes_leafRes _ _).post.inv hd

/-- without a claim on the allocation state there is a state in which a request can be refused (one
    without an arena), so an ordinary error matches anything -/
theorem rel_iff_RelF {cfg : Cfg} {d : Nat} {r : Res × ASt} {r0 : Res} :
    Rel x (fun _ => True) (Good cfg d) r r0 ↔ RelF cfg d r.1 r0 := by
  obtain ⟨r, a⟩ := r
  cases r with
  | err e st =>
    exact ⟨fun h => h.2.imp id And.left, fun h => ⟨trivial, h.imp id fun o => ⟨o, {}, trivial, fun q => nomatch q.2⟩⟩⟩
  | _ => exact ⟨And.right, And.intro trivial⟩

def faultWorld (x : ACtx) (hR : RegistryOK x.ctx.cfg x.ctx.opts) : World x where
  P := fun _ => True
  D := fun d => d ≤ Tables.maxNestingDepth
  G := Good x.ctx.cfg
  Acc := fun d => SameL x.ctx.cfg (d + 1)
  Acc2 := fun d ks vs ks0 vs0 =>
    SameL x.ctx.cfg (d + 1) ks ks0 ∧ SameL x.ctx.cfg (d + 1) vs vs0 ∧ ks.length = vs.length ∧ ks0.length = vs0.length
  P_fr := fun _ _ => trivial
  D_pred := Nat.le_of_succ_le
  D_lt := id
  G_erase := Good.er
  G_leaf := fun {d LA L s v st} hd c h => by
    have hv := c.inv s hd
    rw [h] at hv
    exact ⟨rfl, hv.1, hv.1, hv.2, hv.2⟩
  G_weaken := Good.weaken
  G_list := fun s e hd h => .fresh (h.reverse.list s e hd) rfl rfl
  G_vec := fun s e hd h => .fresh (h.reverse.vec s e hd) rfl rfl
  G_tagged := fun s e tag g => .fresh (g.same.tagged s e tag) rfl rfl
  G_handler := fun {d reg tag h v v0} s e hreg hh g =>
    (handler_answers (hR reg hreg tag h hh d v v0 g)).imp id
      fun ⟨r, r0, e1, e2, gr⟩ => ⟨r, r0, e1, e2, gr.setRange s e⟩
  G_meta := by
    intro d m m0 form form0 nks nvs nks0 nvs0 start gm gf hme hme0 ht
    have ht0 : form0.metaTarget = true := metaTarget_of_erase gf.er ▸ ht
    have hkv := metaEntries_of_erase gm.er
    rw [hme, hme0] at hkv
    simp only [eraseEntries, Option.some.injEq, Prod.mk.injEq] at hkv
    have en := El_metaEntries gm.ok hme
    have en0 := El_metaEntries gm.ok0 hme0
    exact ⟨setStart_of_erase start (attachMeta_erase x.ctx.cfg (m := m) (m0 := m0) gf.er hkv.1 hkv.2 en en0 gf.md gf.md0),
      VOK_meta m nks nvs start gf.ok, VOK_meta m0 nks0 nvs0 start gf.ok0,
      MdOK_setHdr _ (MdOK_attachMeta ht en gf.md), MdOK_setHdr _ (MdOK_attachMeta ht0 en0 gf.md0)⟩
  acc_nil := .nil
  acc_cons := fun g h => h.cons g.same
  acc2_nil := ⟨.nil, .nil, rfl, rfl⟩
  acc2_cons := fun gk gv h => ⟨h.1.cons gk.same, h.2.1.cons gv.same,
    by rw [List.length_cons, List.length_cons, h.2.2.1], by rw [List.length_cons, List.length_cons, h.2.2.2]⟩
  acc2_qual := fun n hd gk gv h =>
    ⟨h.1.cons ⟨qualifyKey_of_erase n gk.er, VOK_qualifyKey n hd gk.ok, VOK_qualifyKey n hd gk.ok0⟩,
      h.2.1.cons gv.same,
      by rw [List.length_cons, List.length_cons, h.2.2.1], by rw [List.length_cons, List.length_cons, h.2.2.2]⟩
  closeSet := fun s e err st he hd h _ => rel_iff_RelF.mpr <|
    dupClose_fault _ hd h.reverse err he st _ _ fun h0 c m => .fresh (h.reverse.set c m s e hd h0) rfl rfl
  closeMap := fun {d ks vs ks0 vs0 a} s e err st he hd h _ => rel_iff_RelF.mpr <|
    dupClose_fault _ hd h.1.reverse err he st _ _ fun h0 c m =>
      .fresh (h.1.reverse.map c m s e hd h.2.1.reverse
        (by rw [List.length_reverse, List.length_reverse, h.2.2.1])
        (by rw [List.length_reverse, List.length_reverse, h.2.2.2]) h0) rfl rfl

end

theorem readValueA_fault (x : ACtx) (hR : RegistryOK x.ctx.cfg x.ctx.opts) (f d : Nat) (dm : Bool) (st : St) (a : ASt)
    (hd : d ≤ Tables.maxNestingDepth) : RelF x.ctx.cfg d (readValueA x f d dm st a).1 (readValue x.ctx f d dm st) :=
  rel_iff_RelF.mp (((faultWorld x hR).readers f).1 d dm st a trivial hd)

def FaultOutcome (o o0 : Outcome) : Prop :=
  match o with
  | .value v => ∃ v0, o0 = .value v0 ∧ eraseCache v = eraseCache v0
  | .eofValue => o0 = .eofValue
  | .error _ _ _ => True
  | .fuelOut => False

theorem readA_fault (cfg : Cfg) (opts : Opts) (hR : RegistryOK cfg opts) (orc : Nat → Bool) (input : Bytes)
    (grow : Nat → Nat) (handlerReq : String → Bool) (sortTouch : Nat → List Nat) :
    FaultOutcome (readA cfg opts orc input grow handlerReq sortTouch).out (Edn.Model.read cfg opts input).out ∧
    (∀ v, (readA cfg opts orc input grow handlerReq sortTouch).out = .value v →
      (readA cfg opts orc input grow handlerReq sortTouch).calls = (Edn.Model.read cfg opts input).calls) := by
  have hncl := run_noCloser { cfg := cfg, opts := opts } (readFuel input) (c := .v 0 false { rest := input }) (· rfl)
  have hsuff := run_fuel_sufficient { cfg := cfg, opts := opts } (readFuel input) (.v 0 false { rest := input })
    (by simp only [Call6.need, readFuel]; omega)
  rw [run_v] at hncl hsuff
  unfold readA
  simp only
  rcases hq0 : ({} : ASt).arenaCreate orc false with ⟨ok0, a0⟩
  simp only
  have hf := readValueA_fault
    { ctx := { cfg := cfg, opts := opts }, orc := orc, grow := grow, handlerReq := handlerReq, sortTouch := sortTouch }
    hR (readFuel input) 0 false { rest := input } a0 (Nat.zero_le _)
  rcases hq : readValueA
    { ctx := { cfg := cfg, opts := opts }, orc := orc, grow := grow, handlerReq := handlerReq, sortTouch := sortTouch }
    (readFuel input) 0 false { rest := input } a0 with ⟨r, a⟩
  rw [hq] at hf
  cases r with
  | ok v st =>
    obtain ⟨v0, h1, g⟩ := hf
    rw [read_of_ok h1]
    exact ⟨⟨v0, rfl, g.er⟩, fun _ _ => rfl⟩
  | closer st =>
    rw [show readValue _ _ _ _ _ = Res.closer st from hf] at hncl
    cases hncl
  | err e st =>
    simp only
    by_cases hfo : e.fuelOut = true
    · rw [hf.resolve_right fun o => Bool.false_ne_true (o.2.symm.trans hfo)] at hsuff
      exact absurd (hsuff.symm.trans hfo) Bool.false_ne_true
    · simp only [if_neg hfo]
      rcases hql : lineIndexA orc input a with ⟨haveIdx, a1⟩
      simp only
      by_cases he : (e.code == Err.unexpectedEof && e.eofTop && opts.eofValue) = true
      · simp only [if_pos he]
        have ht : e.eofTop = true := by
          simp only [Bool.and_eq_true] at he
          exact he.1.2
        rw [read_of_err (hf.resolve_right fun o => Bool.false_ne_true (o.1.symm.trans ht)), if_pos he]
        exact ⟨rfl, fun v hv => nomatch hv⟩
      · simp only [if_neg he]
        cases haveIdx <;> exact ⟨trivial, fun v hv => nomatch hv⟩

theorem readA_fault_noRegistry (cfg : Cfg) (opts : Opts) (hreg : opts.registry = none) (orc : Nat → Bool) (input : Bytes)
    (grow : Nat → Nat) (handlerReq : String → Bool) (sortTouch : Nat → List Nat) :
    FaultOutcome (readA cfg opts orc input grow handlerReq sortTouch).out (Edn.Model.read cfg opts input).out :=
  (readA_fault cfg opts (RegistryOK_of_none hreg) orc input grow handlerReq sortTouch).1

theorem HandlerOK_id (cfg : Cfg) (name : String) : HandlerOK cfg ⟨name, fun v => some v⟩ := by
  intro d v v0 g
  exact g.weaken

theorem HandlerOK_fail (cfg : Cfg) (name : String) : HandlerOK cfg ⟨name, fun _ => none⟩ := by
  intro d v v0 g
  trivial

theorem HandlerOK_ext (cfg : Cfg) (name : String) (hdr : Hdr) (hc : hdr.hc = 0) (tid : Nat) (g : Nat → Nat → Nat) :
    HandlerOK cfg ⟨name, fun v => some (.ext hdr tid (g v.hdr.s v.hdr.e))⟩ := by
  intro d v v0 gd
  have hd : d ≤ Tables.maxNestingDepth := by have := gd.ok.1; omega
  have hf : freshLeaf (.ext hdr tid (g v0.hdr.s v0.hdr.e)) = true := by
    show (true && hdr.hc == 0) = true
    rw [hc]; rfl
  show Good cfg d (.ext hdr tid (g v.hdr.s v.hdr.e)) (.ext hdr tid (g v0.hdr.s v0.hdr.e))
  rw [(hdr_of_erase gd.er).1, (hdr_of_erase gd.er).2.1]
  exact .fresh ⟨rfl, VOK_of_freshLeaf hf hd, VOK_of_freshLeaf hf hd⟩ rfl rfl

def peekHandler : Handler :=
  { name := "peek",
    run := fun v => match v with
      | .set _ _ (y :: _) => if y.hdr.hc == 0 then some (.nil (mkHdr 0 0)) else some (.bool (mkHdr 0 0) true)
      | _ => none }

def peekOpts : Opts :=
  { registry := some (fun tag => if tag == "t".toUTF8.toList then some peekHandler else none) }

def outcomeTag : Outcome → Nat
  | .value (.nil _) => 1
  | .value (.bool _ true) => 2
  | _ => 0

/-- `#t #{1 … 17}`: without a fault the handler sees hashed elements and answers `true`; with the
    `malloc` of the sorted copy (request 23) refused it sees unhashed elements and answers `nil` — two
    different values, so "equal up to cache cells" fails with such a handler -/
theorem fault_theorem_needs_registry_hypothesis :
    outcomeTag (Edn.Model.read Cfg.core peekOpts "#t #{1 2 3 4 5 6 7 8 9 10 11 12 13 14 15 16 17}".toUTF8.toList).out = 2 ∧
    outcomeTag (readA Cfg.core peekOpts (fun i => i == 23) "#t #{1 2 3 4 5 6 7 8 9 10 11 12 13 14 15 16 17}".toUTF8.toList).out = 1 := by
  decide +kernel

end Edn.Proofs.AllocSim
