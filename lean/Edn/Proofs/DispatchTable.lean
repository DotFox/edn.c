/-
  The dispatch table of the reader in closed form: one sweep of the core table against `dispSpec`; the
  flags reach the class of `^` only, which is read off the metadata mask (`metaMask_bit`), not swept;
  what each class says of the byte (`dispatch_row`) is the closed form inverted once.
-/
import Edn.Proofs.Bytes
import Edn.Proofs.Ite

namespace Edn.Proofs
open Edn.Model

/-- the dispatch table in closed form, on the number of the byte: six one-byte classes, the signs, the
    digits, the closers, and `^` with the Clojure flag; every other byte starts an identifier -/
def dispSpec (cfg : Cfg) (n : Nat) : Disp :=
  if n = 0x22 then .string else if n = 0x5C then .character else if n = 0x28 then .listOpen
  else if n = 0x5B then .vectorOpen else if n = 0x7B then .mapOpen else if n = 0x23 then .hash
  else if n = 0x2B ∨ n = 0x2D then .sign else if 0x30 ≤ n ∧ n ≤ 0x39 then .digit
  else if n = 0x29 ∨ n = 0x5D ∨ n = 0x7D then .delimiter
  else if cfg.clj = true ∧ n = 0x5E then .metadata else .identifier

theorem dispatch_core_eq : ∀ c, decide (dispatch Cfg.core c = dispSpec Cfg.core c.toNat) = true :=
  forall_u8_bool _ (by decide +kernel)

theorem metaMask_bit (cfg : Cfg) (c : UInt8) :
    maskBit (Generated.Tables.dispMetadataMask cfg.clj cfg.exp) c = (cfg.clj && c == 0x5E) := by
  obtain ⟨clj, exp⟩ := cfg
  have h2 : maskBit (2 ^ 94) c = (c == 0x5E) := by
    rw [maskBit, Nat.testBit_two_pow, Bool.eq_iff_iff, decide_eq_true_eq, beq_iff_eq, ← UInt8.toNat_inj]
    exact eq_comm
  cases clj <;> cases exp
  · exact Nat.zero_testBit _
  · exact Nat.zero_testBit _
  · exact h2
  · exact h2

theorem dispatch_flag (cfg : Cfg) {c : UInt8} (h : c ≠ 0x5E) : dispatch cfg c = dispatch Cfg.core c := by
  unfold dispatch
  rw [metaMask_bit, metaMask_bit, beq_eq_false_iff_ne.mpr h, Bool.and_false, Bool.and_false]

theorem dispatch_eq (cfg : Cfg) (c : UInt8) : dispatch cfg c = dispSpec cfg c.toNat := by
  by_cases h : c = 0x5E
  · subst h
    obtain ⟨clj, exp⟩ := cfg
    cases clj <;> cases exp <;> decide
  · have hn : ∀ {cfg : Cfg}, ¬ (cfg.clj = true ∧ c.toNat = 0x5E) := fun e => h (UInt8.toNat_inj.mp e.2)
    rw [dispatch_flag cfg h, of_decide_eq_true (dispatch_core_eq c)]
    unfold dispSpec
    rw [if_neg hn, if_neg hn]

def DispRow (cfg : Cfg) (c : UInt8) : Disp → Prop
  | .string => c = 0x22 | .character => c = 0x5C | .listOpen => c = 0x28 | .vectorOpen => c = 0x5B
  | .mapOpen => c = 0x7B | .hash => c = 0x23 | .sign => c = 0x2B ∨ c = 0x2D | .digit => is09 c = true
  | .delimiter => c = 0x29 ∨ c = 0x5D ∨ c = 0x7D | .metadata => cfg.clj = true ∧ c = 0x5E
  | .identifier => c ≠ 0x2B ∧ c ≠ 0x2D ∧ is09 c = false

theorem dispatch_row (cfg : Cfg) (c : UInt8) : DispRow cfg c (dispatch cfg c) := by
  have byte : ∀ {b : UInt8}, c.toNat = b.toNat → c = b := UInt8.toNat_inj.mp
  have dig : (0x30 ≤ c.toNat ∧ c.toNat ≤ 0x39) ↔ is09 c = true := by
    rw [is09_iff, UInt8.le_iff_toNat_le, UInt8.le_iff_toNat_le]; rfl
  rw [dispatch_eq]
  unfold dispSpec
  refine ite_ind (byte (b := 0x22)) fun _ => ?_
  refine ite_ind (byte (b := 0x5C)) fun _ => ?_
  refine ite_ind (byte (b := 0x28)) fun _ => ?_
  refine ite_ind (byte (b := 0x5B)) fun _ => ?_
  refine ite_ind (byte (b := 0x7B)) fun _ => ?_
  refine ite_ind (byte (b := 0x23)) fun _ => ?_
  refine ite_ind (Or.imp (byte (b := 0x2B)) (byte (b := 0x2D))) fun hs => ?_
  refine ite_ind dig.mp fun hd => ?_
  refine ite_ind (Or.imp (byte (b := 0x29)) (Or.imp (byte (b := 0x5D)) (byte (b := 0x7D)))) fun _ => ?_
  refine ite_ind (And.imp_right (byte (b := 0x5E))) fun _ => ?_
  exact ⟨fun e => hs (.inl (congrArg UInt8.toNat e)), fun e => hs (.inr (congrArg UInt8.toNat e)),
    Bool.eq_false_iff.mpr (mt dig.mpr hd)⟩

theorem dispatch_closer (cfg : Cfg) (c : UInt8) (hc : c = 0x29 ∨ c = 0x5D ∨ c = 0x7D) :
    dispatch cfg c = .delimiter ∧ isPreWs c = false := by
  rcases hc with rfl | rfl | rfl <;> exact ⟨by rw [dispatch_eq]; rfl, by decide⟩

theorem DispRow.of {cfg : Cfg} {c : UInt8} {k : Disp} (h : dispatch cfg c = k) : DispRow cfg c k :=
  h ▸ dispatch_row cfg c

theorem dispatch_sign {cfg : Cfg} {c : UInt8} (h : dispatch cfg c = .sign) : (c == 0x2B || c == 0x2D) = true := by
  have hr := dispatch_row cfg c
  rw [h] at hr
  simpa [DispRow] using hr

theorem dispatch_digit {cfg : Cfg} {c : UInt8} (h : dispatch cfg c = .digit) : is09 c = true := DispRow.of h

theorem dispatch_of_sign (cfg : Cfg) {c : UInt8} (h : c = 0x2B ∨ c = 0x2D) : dispatch cfg c = .sign := by
  rcases h with rfl | rfl <;> exact (dispatch_eq ..).trans rfl

namespace SndX
variable {cfg : Cfg}

theorem dispX_metadata_iff (c : UInt8) : dispatch cfg c = .metadata ↔ (cfg.clj = true ∧ c = 0x5E) := by
  constructor
  · exact DispRow.of
  · rintro ⟨h1, rfl⟩
    obtain ⟨clj, exp⟩ := cfg
    subst h1
    cases exp <;> rfl

/-- the six one-byte classes and the closers are delimiter bytes -/
theorem nondelim_dispX {c : UInt8} (h : isDelim c = false) :
    dispatch cfg c = .identifier ∨ dispatch cfg c = .sign ∨ dispatch cfg c = .digit ∨ dispatch cfg c = .metadata := by
  have hr := dispatch_row cfg c
  have no : ∀ {b : UInt8}, isDelim b = true → c ≠ b := fun hb e => by rw [e, hb] at h; cases h
  cases hd : dispatch cfg c with
  | identifier => exact .inl rfl
  | sign => exact .inr (.inl rfl)
  | digit => exact .inr (.inr (.inl rfl))
  | metadata => exact .inr (.inr (.inr rfl))
  | string => rw [hd] at hr; exact absurd hr (no (by decide +kernel))
  | character => rw [hd] at hr; exact absurd hr (no (by decide +kernel))
  | listOpen => rw [hd] at hr; exact absurd hr (no (by decide +kernel))
  | vectorOpen => rw [hd] at hr; exact absurd hr (no (by decide +kernel))
  | mapOpen => rw [hd] at hr; exact absurd hr (no (by decide +kernel))
  | hash => rw [hd] at hr; exact absurd hr (no (by decide +kernel))
  | delimiter =>
    rw [hd] at hr
    rcases hr with hr | hr | hr <;> exact absurd hr (no (by decide +kernel))

end SndX

theorem dispatch_hash (cfg : Cfg) : dispatch cfg 0x23 = .hash :=
  (dispatch_eq ..).trans rfl

end Edn.Proofs
