/-
  Walking through a conditional.  `split` and `simp` re-simplify the whole goal at every `if`; on
  terms the size of the reader functions that dominates the cost of a proof.  These lemmas touch
  only the head of the goal, so a proof can follow the text of a definition branch by branch
  (`refine ite_ind (fun hc => ?_) (fun hc => ?_)`).
-/
namespace Edn.Proofs

theorem ite_ind {α : Sort _} {P : α → Prop} {c : Prop} [Decidable c] {a b : α}
    (ha : c → P a) (hb : ¬ c → P b) : P (if c then a else b) := by
  by_cases h : c
  · rw [if_pos h]; exact ha h
  · rw [if_neg h]; exact hb h

theorem ite_rel {α β : Sort _} {R : α → β → Prop} {c : Prop} [Decidable c] {a b : α} {a' b' : β}
    (ha : c → R a a') (hb : ¬ c → R b b') : R (if c then a else b) (if c then a' else b') := by
  by_cases h : c
  · rw [if_pos h, if_pos h]; exact ha h
  · rw [if_neg h, if_neg h]; exact hb h

/-- the first run branches, the second has been reduced already -/
theorem ite_rel_left {α β : Sort _} {R : α → β → Prop} (c : Prop) [Decidable c] {a b : α} {a' : β}
    (h1 : c → R a a') (h2 : ¬ c → R b a') : R (if c then a else b) a' :=
  ite_ind (P := (R · a')) h1 h2

theorem ite_eq_elim {α : Sort _} {c : Prop} [Decidable c] {a b x : α} (h : (if c then a else b) = x) :
    c ∧ a = x ∨ ¬ c ∧ b = x := by
  by_cases hc : c
  · exact .inl ⟨hc, (if_pos hc).symm.trans h⟩
  · exact .inr ⟨hc, (if_neg hc).symm.trans h⟩

end Edn.Proofs
