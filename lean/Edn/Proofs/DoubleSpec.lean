/-
  C05 (completion): the mantissa/exponent pair accumulated by
  `parse_double_from_buffer` denotes the literal's exact decimal value whenever the fast path
  is taken, hence `parse_double_from_buffer` returns the correctly rounded double of the
  literal's decimal value for every literal (given the `strtod` assumption for the slow path).

  `parseDouble` and `decimalParts` are cut into their phases (sign, integer digits, fraction,
  exponent) and compared phase by phase: the capped accumulators `accDigits`, `accExp` against
  the uncapped accumulator `decimalParts.digs`.
-/
import Edn.Proofs.Float

namespace Edn.Proofs
open Edn.Model Edn.Spec

namespace DoubleSpecAux

abbrev D := decimalParts.digs

theorem D_nil (m n : Nat) : D m n [] = (m, n, []) := by
  unfold D; rw [decimalParts.digs]

theorem D_cons (m n : Nat) (c : UInt8) (cs : Bytes) :
    D m n (c :: cs) =
      if c == 0x5F then D m n cs
      else if is09 c then D (m * 10 + dval c) (n + 1) cs else (m, n, c :: cs) := by
  unfold D; rw [decimalParts.digs]

theorem accDigits_nil (e : Bool) (m n : Nat) : accDigits e m n [] = (m, n, []) := by
  rw [accDigits]

theorem accDigits_cons (e : Bool) (m n : Nat) (c : UInt8) (cs : Bytes) :
    accDigits e m n (c :: cs) =
      if e && c == 0x5F then accDigits e m n cs
      else if is09 c then accDigits e (if n < 18 then m * 10 + dval c else m) (n + 1) cs
      else (m, n, c :: cs) := by
  rw [accDigits]

theorem accExp_nil (e : Bool) (v : Nat) : accExp e v [] = v := by
  rw [accExp]

theorem accExp_cons (e : Bool) (v : Nat) (c : UInt8) (cs : Bytes) :
    accExp e v (c :: cs) =
      if e && c == 0x5F then accExp e v cs
      else if is09 c then
        (if v * 10 + dval c > 1000 then 1000 else accExp e (v * 10 + dval c) cs)
      else v := by
  rw [accExp]

theorem us_not09 : is09 (0x5F : UInt8) = false := by decide

theorem D_mono : ∀ (s : Bytes) (m n : Nat), m ≤ (D m n s).1 := by
  intro s
  induction s with
  | nil => intro m n; rw [D_nil]; exact Nat.le_refl _
  | cons c cs ih =>
    intro m n
    rw [D_cons]
    split
    · exact ih m n
    · split
      · exact Nat.le_trans (by omega) (ih _ (n + 1))
      · exact Nat.le_refl _

theorem D_suffix : ∀ (s : Bytes) (m n : Nat), (D m n s).2.2 <:+ s
  | [], m, n => by rw [D_nil]; exact List.suffix_refl _
  | c :: cs, m, n => by
    rw [D_cons]
    split
    · exact (D_suffix cs m n).trans (List.suffix_cons _ _)
    · split
      · exact (D_suffix cs _ _).trans (List.suffix_cons _ _)
      · exact List.suffix_refl _

/-- underscores occur only with the experimental flag, which makes the accumulators skip them -/
def NoUS (e : Bool) (s : Bytes) : Prop := e = false → (0x5F : UInt8) ∉ s

theorem NoUS.mono {e : Bool} {s t : Bytes} (h : NoUS e s) (ht : t <:+ s) : NoUS e t :=
  fun he hm => h he (ht.subset hm)

theorem NoUS.tail {e : Bool} {c : UInt8} {s : Bytes} (h : NoUS e (c :: s)) : NoUS e s :=
  h.mono (List.suffix_cons _ _)

theorem usTest {e : Bool} {c : UInt8} {cs : Bytes} (hus : NoUS e (c :: cs)) :
    (e && c == 0x5F) = (c == 0x5F) := by
  cases e with
  | true => rfl
  | false =>
    have : c ≠ 0x5F := fun h => hus rfl (h ▸ List.mem_cons_self)
    simpa using this

/-- `accDigits` against `digs`: same rest, same number of digits (whatever the mantissas), and
    the same mantissa as long as the 18-digit cap was not reached -/
theorem accDigits_digs (e : Bool) : ∀ (s : Bytes) (m m' n k : Nat), NoUS e s →
    (accDigits e m n s).2.2 = (D m' k s).2.2 ∧
    (accDigits e m n s).2.1 + k = (D m' k s).2.1 + n ∧
    n ≤ (accDigits e m n s).2.1 ∧
    ((accDigits e m n s).2.1 ≤ 18 → m = m' → (accDigits e m n s).1 = (D m' k s).1) := by
  intro s
  induction s with
  | nil => intro m m' n k _; rw [accDigits_nil, D_nil]; exact ⟨rfl, Nat.add_comm _ _, Nat.le_refl _, fun _ h => h⟩
  | cons c cs ih =>
    intro m m' n k hus
    rw [accDigits_cons, D_cons, usTest hus]
    split
    · exact ih m m' n k hus.tail
    · split
      · obtain ⟨a, b, c', d⟩ := ih (if n < 18 then m * 10 + dval c else m) (m' * 10 + dval c) (n + 1) (k + 1) hus.tail
        refine ⟨a, by omega, by omega, fun h18 hm => d h18 ?_⟩
        rw [if_pos (by omega), hm]
      · exact ⟨rfl, Nat.add_comm _ _, Nat.le_refl _, fun _ h => h⟩

theorem accExp_digs (e : Bool) : ∀ (s : Bytes) (v k : Nat), NoUS e s → v ≤ 1000 →
    accExp e v s = min (D v k s).1 1000 := by
  intro s
  induction s with
  | nil => intro v k _ hv; rw [accExp_nil, D_nil]; exact (Nat.min_eq_left hv).symm
  | cons c cs ih =>
    intro v k hus hv
    rw [accExp_cons, D_cons, usTest hus]
    split
    · exact ih v k hus.tail hv
    · split
      · split
        · have := D_mono cs (v * 10 + dval c) (k + 1)
          omega
        · exact ih _ (k + 1) hus.tail (by omega)
      · exact (Nat.min_eq_left hv).symm

def pdSign (text : Bytes) : Bool × Bytes :=
  match text with
  | c :: r => if c == 0x2D then (true, r) else if c == 0x2B then (false, r) else (false, c :: r)
  | [] => (false, [])

/-- fraction phase of `parseDouble`: (mantissa, digit count, fraction digits, rest) -/
def pdFrac (e : Bool) (m1 n1 : Nat) (s1 : Bytes) : Nat × Nat × Nat × Bytes :=
  match s1 with
  | c :: r =>
    if c == 0x2E then
      ((accDigits e m1 n1 r).1, (accDigits e m1 n1 r).2.1, (accDigits e m1 n1 r).2.1 - n1,
        (accDigits e m1 n1 r).2.2)
    else (m1, n1, 0, c :: r)
  | [] => (m1, n1, 0, [])

def pdExp (e : Bool) (e10 : Int) (s2 : Bytes) : Int :=
  match s2 with
  | c :: r =>
    if c == 0x65 || c == 0x45 then
      let p : Bool × Bytes := pdSign r
      e10 + (if p.1 then -(accExp e 0 p.2 : Int) else (accExp e 0 p.2 : Int))
    else e10
  | [] => e10

/-- accumulators of `parseDouble` after the sign: (mantissa, digit count, exponent) -/
def pdAcc (cfg : Cfg) (s : Bytes) : Nat × Nat × Int :=
  let a := accDigits cfg.exp 0 0 s
  let b := pdFrac cfg.exp a.1 a.2.1 a.2.2
  (b.1, b.2.1, pdExp cfg.exp (-(b.2.2.1 : Int)) b.2.2.2)

theorem parseDouble_eq (cfg : Cfg) (text : Bytes) :
    parseDouble cfg text =
      match (if (pdAcc cfg (pdSign text).2).2.1 ≤ 15
              then parseDoubleFast (pdAcc cfg (pdSign text).2).1 (pdAcc cfg (pdSign text).2).2.2 (pdSign text).1
              else none) with
      | some r => r
      | none => strtodSpec text := by
  rfl

/- `dpSign` and `dpAcc` are the text of `decimalParts` cut once, behind the sign (`decimalParts_eq`); `dpAcc`
   is only a stepping stone: `dpAcc_eq` cuts it again into the phases `dpFrac` and `dpExp`, and the
   comparison with `parseDouble` goes through those. -/
def dpSign (text : Bytes) : Bool × Bytes :=
  match text with
    | 0x2D :: r => (true, r)
    | 0x2B :: r => (false, r)
    | r => (false, r)

def dpAcc (s : Bytes) : Nat × Int :=
  let (m1, _, s1) := D 0 0 s
  let (m2, fr, s2) := match s1 with
    | 0x2E :: r => let (m, n, r') := D m1 0 r; (m, n, r')
    | r => (m1, 0, r)
  let e : Int := match s2 with
    | c :: r =>
      if c == 0x65 || c == 0x45 then
        let (eneg, r1) := match r with
          | 0x2D :: r' => (true, r')
          | 0x2B :: r' => (false, r')
          | r' => (false, r')
        let (ev, _, _) := D 0 0 r1
        if eneg then -(ev : Int) else (ev : Int)
      else 0
    | [] => 0
  (m2, e - (fr : Int))

theorem dpSign_eq (text : Bytes) : dpSign text = pdSign text := by
  unfold dpSign pdSign
  split
  · rfl
  · rfl
  · rename_i h1 h2
    cases text with
    | nil => rfl
    | cons c r =>
      have a : c ≠ 0x2D := fun h => h1 r (by rw [h])
      have b : c ≠ 0x2B := fun h => h2 r (by rw [h])
      simp [a, b]

theorem decimalParts_eq (text : Bytes) :
    decimalParts text = ((pdSign text).1, (dpAcc (pdSign text).2).1, (dpAcc (pdSign text).2).2) := by
  rw [← dpSign_eq]; rfl

theorem pdSign_suffix (text : Bytes) : (pdSign text).2 <:+ text := by
  unfold pdSign
  split
  · split
    · exact List.suffix_cons _ _
    · split
      · exact List.suffix_cons _ _
      · exact List.suffix_refl _
  · exact List.suffix_refl _

def dpFrac (m1 : Nat) (s1 : Bytes) : Nat × Nat × Bytes :=
  match s1 with
  | 0x2E :: r => ((D m1 0 r).1, (D m1 0 r).2.1, (D m1 0 r).2.2)
  | r => (m1, 0, r)

theorem dpFrac_dot (m1 : Nat) (r : Bytes) :
    dpFrac m1 (0x2E :: r) = ((D m1 0 r).1, (D m1 0 r).2.1, (D m1 0 r).2.2) := rfl

theorem dpFrac_other (m1 : Nat) (c : UInt8) (r : Bytes) (h : c ≠ 0x2E) :
    dpFrac m1 (c :: r) = (m1, 0, c :: r) := by
  unfold dpFrac
  split
  · rename_i heq; exact absurd (List.cons.inj heq).1 h
  · rfl

theorem dpFrac_suffix (m1 : Nat) (s1 : Bytes) : (dpFrac m1 s1).2.2 <:+ s1 := by
  cases s1 with
  | nil => exact List.suffix_refl _
  | cons c r =>
    by_cases hc : c = 0x2E
    · subst hc; rw [dpFrac_dot]; exact (D_suffix r m1 0).trans (List.suffix_cons _ _)
    · rw [dpFrac_other _ _ _ hc]; exact List.suffix_refl _

theorem frac_agree (e : Bool) (m1 m1' n1 : Nat) (s1 : Bytes) (hus : NoUS e s1) :
    (pdFrac e m1 n1 s1).2.2.2 = (dpFrac m1' s1).2.2 ∧
    (pdFrac e m1 n1 s1).2.2.1 = (dpFrac m1' s1).2.1 ∧
    n1 ≤ (pdFrac e m1 n1 s1).2.1 ∧
    (pdFrac e m1 n1 s1).2.2.1 ≤ (pdFrac e m1 n1 s1).2.1 ∧
    ((pdFrac e m1 n1 s1).2.1 ≤ 18 → m1 = m1' → (pdFrac e m1 n1 s1).1 = (dpFrac m1' s1).1) := by
  cases s1 with
  | nil => exact ⟨rfl, rfl, Nat.le_refl _, Nat.zero_le _, fun _ h => h⟩
  | cons c r =>
    by_cases hc : c = 0x2E
    · subst hc
      rw [dpFrac_dot]
      have hp : pdFrac e m1 n1 (0x2E :: r) = ((accDigits e m1 n1 r).1, (accDigits e m1 n1 r).2.1,
          (accDigits e m1 n1 r).2.1 - n1, (accDigits e m1 n1 r).2.2) := rfl
      rw [hp]
      obtain ⟨a, b, hm, d⟩ := accDigits_digs e r m1 m1' n1 0 hus.tail
      exact ⟨a, by simp only []; omega, hm, by simp only []; omega, d⟩
    · rw [dpFrac_other _ _ _ hc]
      have hp : pdFrac e m1 n1 (c :: r) = (m1, n1, 0, c :: r) := by
        unfold pdFrac
        have : (c == 0x2E) = false := by simpa using hc
        simp only [this, Bool.false_eq_true, if_false]
      rw [hp]
      exact ⟨rfl, rfl, Nat.le_refl _, Nat.zero_le _, fun _ h => h⟩

def dpExp (s2 : Bytes) : Int :=
  match s2 with
  | c :: r =>
    if c == 0x65 || c == 0x45 then
      let p : Bool × Bytes := dpSign r
      if p.1 then -((D 0 0 p.2).1 : Int) else ((D 0 0 p.2).1 : Int)
    else 0
  | [] => 0

theorem exp_agree (e : Bool) (e10 : Int) (s2 : Bytes) (hus : NoUS e s2) :
    pdExp e e10 s2 = e10 + dpExp s2 ∨ pdExp e e10 s2 ≥ e10 + 1000 ∨ pdExp e e10 s2 ≤ e10 - 1000 := by
  cases s2 with
  | nil => exact Or.inl (Int.add_zero _).symm
  | cons c r =>
    unfold pdExp dpExp
    by_cases hc : (c == 0x65 || c == 0x45) = true
    · simp only [hc, if_true]
      rw [dpSign_eq]
      rw [accExp_digs e (pdSign r).2 0 0 ((hus.tail).mono (pdSign_suffix r)) (by decide)]
      by_cases hle : (D 0 0 (pdSign r).2).1 ≤ 1000
      · rw [Nat.min_eq_left hle]; exact Or.inl rfl
      · rw [Nat.min_eq_right (by omega)]
        cases (pdSign r).1
        · right; left; simp
        · right; right; simp; omega
    · have hc' : (c == 0x65 || c == 0x45) = false := by simpa using hc
      simp only [hc', Bool.false_eq_true, if_false]
      exact Or.inl (Int.add_zero _).symm

theorem dpAcc_eq (s : Bytes) :
    dpAcc s =
      ((dpFrac (D 0 0 s).1 (D 0 0 s).2.2).1,
       dpExp (dpFrac (D 0 0 s).1 (D 0 0 s).2.2).2.2 - ((dpFrac (D 0 0 s).1 (D 0 0 s).2.2).2.1 : Int)) := by
  rfl

/-- with at most 15 digits the accumulators of `parseDouble` are the exact decimal parts,
    unless the exponent was clamped, in which case it is far outside the fast-path range -/
theorem acc_agree (cfg : Cfg) (s : Bytes) (hus : NoUS cfg.exp s)
    (h15 : (pdAcc cfg s).2.1 ≤ 15) :
    (pdAcc cfg s).1 = (dpAcc s).1 ∧
    ((pdAcc cfg s).2.2 = (dpAcc s).2 ∨ (pdAcc cfg s).2.2 < -22 ∨ (pdAcc cfg s).2.2 > 22) := by
  dsimp only [pdAcc] at h15 ⊢
  rw [dpAcc_eq]
  obtain ⟨a1, b1, _, c1⟩ := accDigits_digs cfg.exp s 0 0 0 0 hus
  have hus1 : NoUS cfg.exp (accDigits cfg.exp 0 0 s).2.2 := a1 ▸ hus.mono (D_suffix s 0 0)
  obtain ⟨a2, b2, c2, d2, e2⟩ := frac_agree cfg.exp (accDigits cfg.exp 0 0 s).1 (D 0 0 s).1
    (accDigits cfg.exp 0 0 s).2.1 (accDigits cfg.exp 0 0 s).2.2 hus1
  rw [← a1]
  have hus2 : NoUS cfg.exp
      (pdFrac cfg.exp (accDigits cfg.exp 0 0 s).1 (accDigits cfg.exp 0 0 s).2.1 (accDigits cfg.exp 0 0 s).2.2).2.2.2 :=
    a2 ▸ hus1.mono (dpFrac_suffix _ _)
  have hx := exp_agree cfg.exp (-((pdFrac cfg.exp (accDigits cfg.exp 0 0 s).1 (accDigits cfg.exp 0 0 s).2.1 (accDigits cfg.exp 0 0 s).2.2).2.2.1 : Int)) _ hus2
  generalize pdFrac cfg.exp (accDigits cfg.exp 0 0 s).1 (accDigits cfg.exp 0 0 s).2.1 (accDigits cfg.exp 0 0 s).2.2 = P
    at h15 a2 b2 c2 d2 e2 hx ⊢
  simp only [] at h15 ⊢
  refine ⟨e2 (by omega) (c1 (by omega) rfl), ?_⟩
  rw [← a2, ← b2]
  rcases hx with hx | hx | hx
  · left; rw [hx]; omega
  · right; right; omega
  · right; left; omega

theorem parseDoubleFast_some {m : Nat} {e : Int} {neg : Bool} {r : UInt64}
    (h : parseDoubleFast m e neg = some r) : m ≤ 9007199254740991 ∧ -22 ≤ e ∧ e ≤ 22 := by
  unfold parseDoubleFast at h
  by_cases h1 : (decide (e < -22) || decide (e > 22)) = true
  · rw [if_pos h1] at h; cases h
  · rw [if_neg h1] at h
    by_cases h2 : m > 9007199254740991
    · rw [if_pos h2] at h; cases h
    · simp only [Bool.or_eq_true, decide_eq_true_eq, not_or] at h1
      omega

theorem strtodSpec_eq (text : Bytes) :
    strtodSpec text = (let p := decimalParts text; withSign p.1 (ofDec p.2.1 p.2.2)) := by
  unfold strtodSpec
  simp only [ofDecC_eq]

theorem parseDouble_of_noUnderscore (cfg : Cfg) (text : Bytes) (h : cfg.exp = false → (0x5F : UInt8) ∉ text) :
    parseDouble cfg text = (let p := decimalParts text; withSign p.1 (ofDec p.2.1 p.2.2)) := by
  have hslow := strtodSpec_eq text
  rw [parseDouble_eq]
  by_cases h15 : (pdAcc cfg (pdSign text).2).2.1 ≤ 15
  · rw [if_pos h15]
    cases hf : parseDoubleFast (pdAcc cfg (pdSign text).2).1 (pdAcc cfg (pdSign text).2).2.2 (pdSign text).1 with
    | none => exact hslow
    | some r =>
      simp only []
      obtain ⟨hm, he1, he2⟩ := parseDoubleFast_some hf
      rw [fast_path_correct _ _ _ hm ⟨he1, he2⟩] at hf
      obtain ⟨a, b⟩ := acc_agree cfg (pdSign text).2 (NoUS.mono h (pdSign_suffix text)) h15
      have b' : (pdAcc cfg (pdSign text).2).2.2 = (dpAcc (pdSign text).2).2 := by
        rcases b with b | b | b
        · exact b
        · omega
        · omega
      rw [decimalParts_eq]
      simp only []
      rw [← a, ← b']
      exact (Option.some.inj hf).symm
  · rw [if_neg h15]; exact hslow

end DoubleSpecAux

/-- a float literal as the scanner of `edn_read_number` delimits it: optional sign, digits,
    optional fraction, optional exponent (digits may contain underscores only with the
    experimental flag) -/
def FloatText (cfg : Cfg) (text : Bytes) : Prop :=
  (cfg.exp = false → 0x5F ∉ text) ∧
  ∃ (sign ip fr ex : Bytes),
    text = sign ++ ip ++ fr ++ ex ∧
    (sign = [] ∨ sign = [0x2D] ∨ sign = [0x2B]) ∧
    (∀ c ∈ ip, is09 c = true ∨ c = 0x5F) ∧ (∃ c ∈ ip, is09 c = true) ∧ (ip.head? ≠ some 0x5F) ∧
    (fr = [] ∨ ∃ fd, fr = 0x2E :: fd ∧ ∀ c ∈ fd, is09 c = true ∨ c = 0x5F) ∧
    (ex = [] ∨ ∃ e es ed, ex = e :: (es ++ ed) ∧ (e = 0x65 ∨ e = 0x45) ∧ (es = [] ∨ es = [0x2D] ∨ es = [0x2B]) ∧
        (∀ c ∈ ed, is09 c = true ∨ c = 0x5F) ∧ (∃ c ∈ ed, is09 c = true) ∧ (ed.head? ≠ some 0x5F))

/-- for every float literal: the double returned is the one nearest to the literal's exact
    decimal value (ties to even), whichever path is taken -/
theorem parseDouble_correctly_rounded (cfg : Cfg) (text : Bytes) (h : FloatText cfg text) :
    parseDouble cfg text = (let p := decimalParts text; withSign p.1 (ofDec p.2.1 p.2.2)) :=
  -- only the first component of `FloatText` (no underscore without the experimental flag) is
  -- needed: the two scanners stop at the same bytes whatever the shape of the text
  DoubleSpecAux.parseDouble_of_noUnderscore cfg text h.1

theorem same_value_same_double (cfg : Cfg) (t1 t2 : Bytes) (h1 : FloatText cfg t1) (h2 : FloatText cfg t2)
    (hs : (decimalParts t1).1 = (decimalParts t2).1)
    (hv : ∃ k : Nat, ((decimalParts t1).2.1 = (decimalParts t2).2.1 * 10 ^ k ∧ (decimalParts t1).2.2 + k = (decimalParts t2).2.2) ∨
                     ((decimalParts t2).2.1 = (decimalParts t1).2.1 * 10 ^ k ∧ (decimalParts t2).2.2 + k = (decimalParts t1).2.2)) :
    parseDouble cfg t1 = parseDouble cfg t2 := by
  rw [parseDouble_correctly_rounded cfg t1 h1, parseDouble_correctly_rounded cfg t2 h2]
  simp only []
  rw [hs]
  obtain ⟨k, ⟨hm, he⟩ | ⟨hm, he⟩⟩ := hv
  · rw [hm, ← he, FloatAux.ofDec_shift]
  · rw [hm, ← he, FloatAux.ofDec_shift]

end Edn.Proofs
