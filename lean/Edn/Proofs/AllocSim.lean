/-
  C16, refinement: the allocation-aware reader of Edn.Model.ReaderA run with a fault oracle that
  fails no request IS the reader of Edn.Model.Reader (`readA_nofault`), so every theorem about `read`
  transfers to `readA`.

  `World`: what a relation between a result of `readValueA` … `readMetaA` (with the allocation state it
  leaves) and a result of `readValue` … `readMeta` must be closed under; it then holds of the six
  functions by ONE induction on the fuel that follows their text once (`World.readers`).  `nfWorld` is
  the instance here, the fault theorem (Edn.Proofs.AllocSimFault) a second one.
-/
import Edn.Proofs.AllocSimLeaf
import Edn.Proofs.AllocSimDup
import Edn.Proofs.ReaderSteps
import Edn.Proofs.CacheErase

namespace Edn.Proofs.AllocSim
open Edn.Model Edn.Proofs.AllocBasic Edn.Proofs

/-- what the relation of `nfWorld` comes to (`nf_of_rel`; NF = no fault) -/
def NF (r : Res × ASt) (r0 : Res) : Prop := r.1 = r0 ∧ r.2.arena = .alive

theorem NF.pure (r0 : Res) {a : ASt} (ha : a.arena = .alive) : NF (r0, a) r0 := ⟨rfl, ha⟩

section
open Edn.Spec Edn.Generated

/-- a result of the allocation-aware reader with the state it leaves, against a result of the
    reader: a value by a `G`-related value with the same parser state, "closer" by "closer", an
    error by the same error — or, being ordinary, by anything, provided `P` admits a state in which a
    request can be refused; the state satisfies `P` -/
def Rel (x : ACtx) (P : ASt → Prop) (G : Val → Val → Prop) (r : Res × ASt) (r0 : Res) : Prop :=
  P r.2 ∧ match r.1 with
    | .ok v st => ∃ v0, r0 = .ok v0 st ∧ G v v0
    | .closer st => r0 = .closer st
    | .err e st => r0 = .err e st ∨ Ordinary e ∧ ∃ a, P a ∧ ¬ Quiet x a

def dupClose (cfg : Cfg) (xs : List Val) (e : ErrInfo) (st : St) (mk : List Val → Val) : Res :=
  if (hasDuplicates cfg xs).1 = true then .err e st else .ok (mk (hasDuplicates cfg xs).2) st

/-- `P`: what is known of the allocation state between two calls; `D`: the nesting depths at which the
    relation is claimed; `G d`: values at depth `d`; `Acc`, `Acc2`: the accumulators of the element
    loop and of the entry loop.  The fields say: a granted request keeps `P`; each value the readers
    build from related parts is related.  Errors need no field: both readers make the same error on
    the spot and hand an error up, or replace it, alike; a refusal (impossible in a quiet state) makes
    an ordinary error, and what an ordinary error is replaced by is ordinary.
    The ledger's induction (`reader_rg`, Edn.Proofs.AllocLedger) speaks of the allocation state of the
    run of ReaderA alone: a `World` relates that run to the run of Edn.Model.Reader, whose text the
    induction has to follow at the same time. -/
structure World (x : ACtx) where
  P : ASt → Prop
  D : Nat → Prop
  G : Nat → Val → Val → Prop
  Acc : Nat → List Val → List Val → Prop
  Acc2 : Nat → List Val → List Val → List Val → List Val → Prop
  P_fr : ∀ {a a'}, P a → Fr x a a' → P a'
  D_pred : ∀ {d}, D (d + 1) → D d
  D_lt : ∀ {d}, d < Tables.maxNestingDepth → D (d + 1)
  G_erase : ∀ {d v v0}, G d v v0 → eraseCache v = eraseCache v0
  G_leaf : ∀ {d LA L s v st}, D d → LeafCall x LA L → L s = .ok v st → G d v v
  G_weaken : ∀ {d v v0}, G (d + 1) v v0 → G d v v0
  G_list : ∀ {d acc acc0} (s e : Nat), D (d + 1) → Acc d acc acc0 →
    G d (.list (mkHdr s e) none acc.reverse) (.list (mkHdr s e) none acc0.reverse)
  G_vec : ∀ {d acc acc0} (s e : Nat), D (d + 1) → Acc d acc acc0 →
    G d (.vec (mkHdr s e) none acc.reverse) (.vec (mkHdr s e) none acc0.reverse)
  G_tagged : ∀ {d v v0} (s e : Nat) (t : Bytes), G (d + 1) v v0 →
    G d (.tagged (mkHdr s e) none t v) (.tagged (mkHdr s e) none t v0)
  G_handler : ∀ {d reg tag h v v0} (s e : Nat), x.ctx.opts.registry = some reg → reg tag = some h → G (d + 1) v v0 →
    h.run v = none ∧ h.run v0 = none ∨
    ∃ r r0, h.run v = some r ∧ h.run v0 = some r0 ∧
      G d (r.setHdr { r.hdr with s := s, e := e }) (r0.setHdr { r0.hdr with s := s, e := e })
  G_meta : ∀ {d m m0 form form0 nks nvs nks0 nvs0} (start : Nat), G (d + 1) m m0 → G (d + 1) form form0 →
    metaEntries m = some (nks, nvs) → metaEntries m0 = some (nks0, nvs0) → form.metaTarget = true →
    G d ((attachMeta x.ctx.cfg m form nks nvs).setHdr { (attachMeta x.ctx.cfg m form nks nvs).hdr with s := start })
      ((attachMeta x.ctx.cfg m0 form0 nks0 nvs0).setHdr { (attachMeta x.ctx.cfg m0 form0 nks0 nvs0).hdr with s := start })
  acc_nil : ∀ {d}, Acc d [] []
  acc_cons : ∀ {d v v0 acc acc0}, G (d + 1) v v0 → Acc d acc acc0 → Acc d (v :: acc) (v0 :: acc0)
  acc2_nil : ∀ {d}, Acc2 d [] [] [] []
  acc2_cons : ∀ {d k k0 v v0 ks vs ks0 vs0}, G (d + 1) k k0 → G (d + 1) v v0 → Acc2 d ks vs ks0 vs0 →
    Acc2 d (k :: ks) (v :: vs) (k0 :: ks0) (v0 :: vs0)
  acc2_qual : ∀ {d k k0 v v0 ks vs ks0 vs0} (n : Bytes), D (d + 1) → G (d + 1) k k0 → G (d + 1) v v0 →
    Acc2 d ks vs ks0 vs0 → Acc2 d (qualifyKey n k :: ks) (v :: vs) (qualifyKey n k0 :: ks0) (v0 :: vs0)
  closeSet : ∀ {d acc acc0 a} (s e : Nat) (err : ErrInfo) (st : St), Ordinary err → D (d + 1) → Acc d acc acc0 → P a →
    Rel x P (G d) (dupCloseA x acc.reverse a err st (Val.set (mkHdr s e) none))
      (dupClose x.ctx.cfg acc0.reverse err st (Val.set (mkHdr s e) none))
  closeMap : ∀ {d ks vs ks0 vs0 a} (s e : Nat) (err : ErrInfo) (st : St), Ordinary err → D (d + 1) →
    Acc2 d ks vs ks0 vs0 → P a →
    Rel x P (G d) (dupCloseA x ks.reverse a err st fun ys => Val.map (mkHdr s e) none ys vs.reverse)
      (dupClose x.ctx.cfg ks0.reverse err st fun ys => Val.map (mkHdr s e) none ys vs0.reverse)

namespace World
variable {x : ACtx} (W : World x)

def R (d : Nat) : Res × ASt → Res → Prop := Rel x W.P (W.G d)

-- `V S M N T Me`: the relation holds of `readValueA`, `readSeqA`, `readMapA`, `readNsMapA`,
-- `readTaggedA`, `readMetaA` with fuel `f`, each against its counterpart of Edn.Model.Reader.
def V (f : Nat) : Prop := ∀ d dm st a, W.P a → W.D d →
  W.R d (readValueA x f d dm st a) (readValue x.ctx f d dm st)
def S (f : Nat) : Prop := ∀ d dm kind start st a b acc acc0, W.P a → W.D (d + 1) → W.Acc d acc acc0 →
  W.R d (readSeqA x f d dm kind start st a b acc) (readSeq x.ctx f d dm kind start st acc0)
def M (f : Nat) : Prop := ∀ d dm start ns st a b ks vs ks0 vs0, W.P a → W.D (d + 1) → W.Acc2 d ks vs ks0 vs0 →
  W.R d (readMapA x f d dm start ns st a b ks vs) (readMap x.ctx f d dm start ns st ks0 vs0)
def N (f : Nat) : Prop := ∀ d dm start st a, W.P a → W.D (d + 1) →
  W.R d (readNsMapA x f d dm start st a) (readNsMap x.ctx f d dm start st)
-- `T`: a `#` that ends the input reaches `readTaggedA` before the depth test (`V_succ`); the call
-- then fails at once, whatever the depth
def T (f : Nat) : Prop := ∀ d dm start st a, W.P a → (W.D (d + 1) ∨ st.rest = []) →
  W.R d (readTaggedA x f d dm start st a) (readTagged x.ctx f d dm start st)
def Me (f : Nat) : Prop := ∀ d dm start st a, W.P a → W.D (d + 1) →
  W.R d (readMetaA x f d dm start st a) (readMeta x.ctx f d dm start st)

variable {W} {d : Nat} {a : ASt} {st : St} {e : ErrInfo} {r0 r0' : Res} {v v0 : Val}

theorem ok (hp : W.P a) (g : W.G d v v0) : W.R d (.ok v st, a) (.ok v0 st) := ⟨hp, v0, rfl, g⟩

theorem closer (hp : W.P a) : W.R d (.closer st, a) (.closer st) := ⟨hp, rfl⟩

theorem err (hp : W.P a) : W.R d (.err e st, a) (.err e st) := ⟨hp, .inl rfl⟩

theorem ite {c : Prop} [Decidable c] {r r' : Res × ASt} {q q' : Res} (h : c → W.R d r q) (h' : ¬ c → W.R d r' q') :
    W.R d (if c then r else r') (if c then q else q') := ite_rel h h'

theorem refused {α : Type} {good : α → Prop} {r : α × ASt} (hs : Step x r a good) (hp : W.P a) (hbad : ¬ good r.1)
    (he : Ordinary e) : W.R d (.err e st, r.2) r0 :=
  ⟨W.P_fr hp hs.fr, .inr ⟨he, a, hp, fun q => hbad (hs.exact q)⟩⟩

/-- a leaf reader answers as its counterpart does, or with an error that any result matches -/
theorem leaf_shape (W : World x) {r : Res × ASt} (hl : Leaf x r a r0) (hp : W.P a) :
    (∃ a', r = (r0, a') ∧ W.P a') ∨ ∃ e st a', r = (.err e st, a') ∧ ∀ d r0', W.R d (.err e st, a') r0' := by
  obtain ⟨r, a'⟩ := r
  have hp' := W.P_fr hp hl.fr
  rcases hl.out with e | ⟨e, hnq⟩
  · exact .inl ⟨a', Prod.ext e rfl, hp'⟩
  · cases r with
    | closer st' => exact e.elim
    | ok v st' => exact e.elim
    | err e' st' => exact .inr ⟨e', st', a', rfl, fun _ _ => ⟨hp', .inr ⟨e, a, hp, hnq⟩⟩⟩

@[elab_as_elim]
theorem sub (W : World x) {C : Res × ASt → Res → Prop} {r : Res × ASt} (h : W.R d r r0)
    (hok : ∀ v v0 st a, W.G d v v0 → W.P a → C (.ok v st, a) (.ok v0 st))
    (hcl : ∀ st a, W.P a → C (.closer st, a) (.closer st))
    (herr : ∀ e st a, W.R d (.err e st, a) r0 → C (.err e st, a) r0) : C r r0 := by
  obtain ⟨r, a⟩ := r
  obtain ⟨hp, h⟩ := h
  cases r with
  | ok v st =>
    obtain ⟨v0, rfl, g⟩ := h
    exact hok v v0 st a g hp
  | closer st => exact h ▸ hcl st a hp
  | err e st => exact herr e st a ⟨hp, h⟩

/-- an error that the reader hands up unchanged, from any depth -/
theorem pass {d' : Nat} (he : W.R d' (.err e st, a) r0') (h : r0' = .err e st → r0 = .err e st) :
    W.R d (.err e st, a) r0 :=
  ⟨he.1, he.2.imp h id⟩

theorem value (hp : W.P a) (g : W.G d v v0) : W.R d (valueA x a v st st) (.ok v0 st) := by
  have hs := (request_prim x a).step
  unfold valueA
  cases hr : (a.request x.orc .arena).1
  · exact refused hs hp (by rw [hr]; exact Bool.false_ne_true) ⟨rfl, rfl⟩
  · exact ok (W.P_fr hp hs.fr) g

/-- the element loops turn an end of input met by an element into "unterminated collection" and
    hand every other error up -/
theorem eofconv {d' : Nat} {e1 : St → ErrInfo} {s : St} (he : W.R d' (.err e s, a) r0') (h1 : ∀ s, Ordinary (e1 s))
    (hr : r0' = .err e s →
      r0 = if (e.code == Err.unexpectedEof && !e.fuelOut) = true then .err (e1 s) s else .err e s) :
    W.R d (if (e.code == Err.unexpectedEof && !e.fuelOut) = true then (Res.err (e1 s) s, a) else (Res.err e s, a)) r0 := by
  obtain ⟨hp, h | ⟨ho, hq⟩⟩ := he
  · rw [hr h]
    exact ite (fun _ => err hp) fun _ => err hp
  · exact ite_ind (P := fun r => W.R d r r0) (fun _ => ⟨hp, .inr ⟨h1 s, hq⟩⟩) fun _ => ⟨hp, .inr ⟨ho, hq⟩⟩

theorem S_succ (f : Nat) (hV : W.V f) (hS : W.S f) : W.S (f + 1) := by
  intro d dm kind start st a b acc acc0 hp hd hacc
  rw [readSeqA, readSeq_eq_stepS]
  unfold stepS
  dsimp only [run]
  refine W.sub (hV (d + 1) dm st a hp hd) (fun v v0 st' a' g hp' => ?_)
    (fun st' a' hp' => ?_) fun e st' a' he => ?_
  · simp only
    have hs := (add_prim x b a').step
    rcases hb : b.add x a' with ⟨ob, a1⟩
    rw [hb] at hs
    cases ob with
    | none => exact refused hs hp' (fun h => nomatch h) ⟨rfl, rfl⟩
    | some b' => exact hS d dm kind start st' a1 b' (v :: acc) (v0 :: acc0) (W.P_fr hp' hs.fr) hd (W.acc_cons g hacc)
  · simp only
    cases hrest : st'.rest with
    | nil => exact err hp'
    | cons c r =>
      simp only
      refine ite (fun _ => err hp') (fun _ => ?_)
      have hs := (finish_prim x b a').step
      rcases hb : b.finish x a' with ⟨okF, a1⟩
      rw [hb] at hs
      have hp1 := W.P_fr hp' hs.fr
      cases okF
      · exact refused hs hp' (fun h => nomatch h) ⟨rfl, rfl⟩
      · simp only [Bool.not_true, Bool.false_eq_true, ↓reduceIte]
        exact ite (fun _ => value hp1 (W.G_list _ _ hd hacc)) fun _ =>
          ite (fun _ => value hp1 (W.G_vec _ _ hd hacc)) fun _ =>
          W.closeSet _ _ _ _ ⟨rfl, rfl⟩ hd hacc hp1
  · exact eofconv he (e1 := fun s => mkErr .unterminatedCollection (some start) (some (x.ctx.pos s.rest)))
      (fun _ => ⟨rfl, rfl⟩) fun h => by rw [h]

theorem M_succ (f : Nat) (hV : W.V f) (hM : W.M f) : W.M (f + 1) := by
  intro d dm start ns st a b ks vs ks0 vs0 hp hd hacc
  rw [readMapA, readMap_eq_stepM]
  unfold stepM
  dsimp only [run]
  refine W.sub (hV (d + 1) dm st a hp hd) (fun k k0 st' a' gk hp' => ?_)
    (fun st' a' hp' => ?_) fun e st' a' he => ?_
  · simp only
    refine W.sub (hV (d + 1) dm st' a' hp' hd) (fun v v0 st'' a'' gv hp'' => ?_)
      (fun st'' a'' hp'' => ?_) fun e st'' a'' he2 => ?_
    · simp only
      have hs := (optional_prim x (ns.isSome && qualifyAllocs k) a'').step
      rcases hqk : (if (ns.isSome && qualifyAllocs k) = true then a''.request x.orc .arena else (true, a'')) with ⟨okK, a1⟩
      rw [hqk] at hs
      cases okK
      · exact refused hs hp'' (fun h => nomatch h) ⟨rfl, rfl⟩
      · simp only [Bool.not_true, Bool.false_eq_true, ↓reduceIte]
        have hp1 := W.P_fr hp'' hs.fr
        have hs2 := (addPair_prim x b a1).step
        rcases hb : b.addPair x a1 with ⟨ob, a2⟩
        rw [hb] at hs2
        cases ob with
        | none => exact refused hs2 hp1 (fun h => nomatch h) ⟨rfl, rfl⟩
        | some b' =>
          have hp2 := W.P_fr hp1 hs2.fr
          cases ns with
          | none => exact hM d dm start none st'' a2 b' _ _ _ _ hp2 hd (W.acc2_cons gk gv hacc)
          | some n =>
            exact hM d dm start (some n) st'' a2 b' _ _ _ _ hp2 hd (W.acc2_qual n hd gk gv hacc)
    · exact err hp''
    · exact eofconv he2 (e1 := fun s => mkErr .unterminatedCollection (some start) (some (x.ctx.pos s.rest)))
        (fun _ => ⟨rfl, rfl⟩) fun h => by rw [h]
  · simp only
    cases hrest : st'.rest with
    | nil => exact err hp'
    | cons c r =>
      simp only
      refine ite (fun _ => err hp') (fun _ => ?_)
      have hs := (finishPair_prim x b a').step
      rcases hb : b.finishPair x a' with ⟨okF, a1⟩
      rw [hb] at hs
      cases okF
      · exact refused hs hp' (fun h => nomatch h) ⟨rfl, rfl⟩
      · simp only [Bool.not_true, Bool.false_eq_true, ↓reduceIte]
        exact W.closeMap _ _ _ _ ⟨rfl, rfl⟩ hd hacc (W.P_fr hp' hs.fr)
  · exact eofconv he (e1 := fun s => mkErr .unterminatedCollection (some start) (some (x.ctx.pos s.rest)))
      (fun _ => ⟨rfl, rfl⟩) fun h => by rw [h]

theorem N_succ (f : Nat) (hV : W.V f) (hM : W.M f) : W.N (f + 1) := by
  intro d dm start st a hp hd
  rw [readNsMapA, readNsMap_eq_stepN]
  unfold stepN
  dsimp only [run]
  refine W.sub (hV d dm st a hp (W.D_pred hd)) (fun kwv kwv0 st' a' g hp' => ?_)
    (fun st' a' hp' => ?_) fun e st' a' he => ?_
  · simp only
    split
    · next h name =>
      obtain ⟨h0, rfl⟩ := kw_of_erase (W.G_erase g)
      simp only
      cases hs : skipWs st'.rest with
      | nil => exact err hp'
      | cons c r =>
        exact ite (fun _ => hM d dm start (some name) _ a' {} [] [] [] [] hp' hd W.acc2_nil)
          fun _ => err hp'
    · next hne =>
      have hne0 := not_kw_of_erase (W.G_erase g) hne
      split
      · next h name => exact (hne0 h name rfl).elim
      · exact err hp'
  · exact closer hp'
  · exact pass he fun h => by rw [h]

theorem T_succ (f : Nat) (hV : W.V f) : W.T (f + 1) := by
  intro d dm start st a hp hd
  rw [readTaggedA, readTagged_eq_stepT]
  unfold stepT tagOut
  dsimp only [run]
  obtain ⟨rest, calls⟩ := st
  cases rest with
  | nil => exact err hp
  | cons c cs =>
    have hlt : W.D (d + 1) := hd.resolve_right (List.cons_ne_nil c cs)
    refine ite (fun _ => err hp) (fun _ => ?_)
    rcases W.leaf_shape (LeafCall.ident.leaf ⟨c :: cs, calls⟩ a) hp with ⟨a', hq, hp'⟩ | ⟨e, st', a', hq, he⟩
    · rw [hq]
      cases hid : readIdentifier x.ctx ⟨c :: cs, calls⟩ with
      | closer st' => exact closer hp'
      | err e' st' => exact err hp'
      | ok tagv st' =>
        simp only
        split
        · refine W.sub (hV (d + 1) dm st' a' hp' hlt) (fun v v0 st'' a'' g hp'' => ?_)
            (fun st'' a'' hp'' => ?_) fun e st'' a'' he => ?_
          · simp only
            have hpass := value (st := st'') hp'' (W.G_tagged start (x.ctx.pos st''.rest) (slice (c :: cs) st'.rest) g)
            cases hregc : x.ctx.opts.registry with
            | none => exact hpass
            | some reg =>
              simp only
              cases dm
              · simp only [Bool.false_eq_true, ↓reduceIte]
                cases hh : reg (slice (c :: cs) st'.rest) with
                | some h =>
                  simp only
                  obtain ⟨rs, re, -⟩ := hdr_of_erase (W.G_erase g)
                  rw [rs, re]
                  have hs := (optional_prim x (x.handlerReq h.name) a'').step
                  rcases hqk : (if x.handlerReq h.name = true then a''.request x.orc .arena else (true, a'')) with ⟨okH, a1⟩
                  rw [hqk] at hs
                  simp only
                  cases okH
                  · exact refused hs hp'' (fun h => nomatch h) ⟨rfl, rfl⟩
                  · simp only [Bool.not_true, Bool.false_eq_true, ↓reduceIte]
                    have hp1 := W.P_fr hp'' hs.fr
                    rcases W.G_handler start (x.ctx.pos st''.rest) hregc hh g with ⟨e1, e2⟩ | ⟨r, r0, e1, e2, gr⟩
                    · rw [e1, e2]
                      exact err hp1
                    · rw [e1, e2]
                      exact ok (W.P_fr hp1 (rekey_fr x a1 _ _)) gr
                | none =>
                  simp only
                  exact ite (fun _ => ok hp'' (W.G_weaken g)) fun _ =>
                    ite (fun _ => err hp'') fun _ => hpass
              · exact hpass
          · exact err hp''
          · exact pass he fun h => by rw [h]
        · next hne =>
          split
          · next h md ns nm => exact (hne h md ns nm rfl).elim
          · exact err hp'
    · rw [hq]
      exact he _ _

theorem Me_succ (f : Nat) (hV : W.V f) : W.Me (f + 1) := by
  intro d dm start st a hp hd
  rw [readMetaA, readMeta_eq_stepMe]
  unfold stepMe
  dsimp only [run]
  refine W.sub (hV (d + 1) dm st a hp hd) (fun m m0 st' a' gm hp' => ?_)
    (fun st' a' hp' => ?_) fun e st' a' he => ?_
  · simp only
    cases hme : metaEntries m with
    | none =>
      have : metaEntries m0 = none := by
        cases h0 : metaEntries m0 with
        | none => rfl
        | some p0 =>
          obtain ⟨p, hp⟩ := metaEntries_some_of_erase (W.G_erase gm).symm h0
          rw [hme] at hp; cases hp
      rw [this]
      exact err hp'
    | some p =>
      obtain ⟨⟨nks0, nvs0⟩, hme0⟩ := metaEntries_some_of_erase (W.G_erase gm) hme
      obtain ⟨nks, nvs⟩ := p
      rw [hme0]
      simp only
      refine W.sub (hV (d + 1) dm st' a' hp' hd) (fun form form0 st'' a'' gf hp'' => ?_)
        (fun st'' a'' hp'' => ?_) fun e st'' a'' he2 => ?_
      · simp only
        rw [← metaTarget_of_erase (W.G_erase gf)]
        refine ite (fun _ => err hp'') (fun hmt => ?_)
        have ht : form.metaTarget = true := by simpa using hmt
        obtain ⟨hs, hsome⟩ := attachMetaA_spec x m form nks nvs a''
        rcases hqa : attachMetaA x m form nks nvs a'' with ⟨o, a1⟩
        rw [hqa] at hs hsome
        cases o with
        | none => exact refused hs hp'' (fun h => nomatch h) ⟨rfl, rfl⟩
        | some form' =>
          obtain rfl := hsome form' rfl
          exact ok (W.P_fr hp'' hs.fr) (W.G_meta start gm gf hme hme0 ht)
      · exact err hp''
      · exact pass he2 fun h => by rw [h]
  · exact err hp'
  · exact pass he fun h => by rw [h]

theorem leaf {LA : St → ASt → Res × ASt} {L : St → Res} (c : LeafCall x LA L) (s : St)
    (hp : W.P a) (hd : W.D d) : W.R d (LA s a) (L s) := by
  rcases W.leaf_shape (c.leaf s a) hp with ⟨a', hq, hp'⟩ | ⟨e, st', a', hq, he⟩
  · rw [hq]
    cases hr : L s with
    | ok v st' => exact ok hp' (W.G_leaf hd c hr)
    | closer st' => exact closer hp'
    | err e' st' => exact err hp'
  · rw [hq]
    exact he _ _

theorem V_succ (f : Nat) (hV : W.V f) (hS : W.S f) (hM : W.M f) (hN : W.N f) (hT : W.T f) (hMe : W.Me f) :
    W.V (f + 1) := by
  intro d dm st a hp hd
  rw [readValueA, readValue_eq_stepV]
  unfold stepV
  simp only
  have heof : ∀ s, W.R d (.err { code := .unexpectedEof, es := none, ee := none, eofTop := d == 0 } s, a) (eofErrOf d s) :=
    fun s => err hp
  have lt : ¬ decide (d ≥ Tables.maxNestingDepth) = true → W.D (d + 1) :=
    fun h => W.D_lt (Nat.lt_of_not_le fun h' => h (decide_eq_true h'))
  cases hs0 : st.rest with
  | nil => exact heof _
  | cons c0 t0 =>
    simp only
    cases hs : (if isPreWs c0 = true then skipWs (c0 :: t0) else c0 :: t0) with
    | nil => exact heof _
    | cons c cs =>
      simp only
      unfold stepD
      dsimp only [run]
      cases hdsp : dispatch x.ctx.cfg c <;> simp only
      · exact leaf .ident _ hp hd
      · exact leaf .str _ hp hd
      · exact leaf .char _ hp hd
      · exact ite (fun _ => err hp) fun h => hS d dm 0 _ _ a {} [] [] hp (lt h) W.acc_nil
      · exact ite (fun _ => err hp) fun h => hS d dm 1 _ _ a {} [] [] hp (lt h) W.acc_nil
      · exact ite (fun _ => err hp) fun h =>
          hM d dm _ none _ a {} [] [] [] [] hp (lt h) W.acc2_nil
      · cases cs with
        | nil => exact hT d dm _ _ a hp (.inr rfl)
        | cons nx cs' =>
          refine ite (fun _ => leaf .sym _ hp hd) fun _ =>
            ite (fun _ => err hp) fun h2 =>
            ite (fun _ => hS d dm 2 _ _ a {} [] [] hp (lt h2) W.acc_nil) fun _ =>
            ite (fun _ => ?_) fun _ =>
            ite (fun _ => hN d dm _ _ a hp (lt h2)) fun _ => hT d dm _ _ a hp (.inl (lt h2))
          -- the discard form `#_`
          refine W.sub (hV (d + 1) true _ a hp (lt h2)) (fun v v0 st' a' _ hp' => ?_)
            (fun st' a' hp' => ?_) fun e st' a' he => ?_
          · exact hV d dm st' a' hp' hd
          · exact err hp'
          · exact pass he fun h => by rw [h]
      · cases cs with
        | nil => exact leaf .ident _ hp hd
        | cons nx tl => exact ite (fun _ => leaf .num _ hp hd) fun _ => leaf .ident _ hp hd
      · exact leaf .num _ hp hd
      · exact ite (fun _ => err hp) fun _ => closer hp
      · exact ite (fun _ => err hp) fun h => hMe d dm _ _ a hp (lt h)

theorem readers (W : World x) : ∀ f, W.V f ∧ W.S f ∧ W.M f ∧ W.N f ∧ W.T f ∧ W.Me f := by
  have out : ∀ {d : Nat} {st : St} {a : ASt}, W.P a → W.R d (fuelOut st, a) (fuelOut st) :=
    fun hp => err hp
  intro f
  induction f with
  | zero =>
    refine ⟨?_, ?_, ?_, ?_, ?_, ?_⟩
    · intro d dm st a hp _; rw [readValueA, readValue_zero]; exact out hp
    · intro d dm kind start st a b acc acc0 hp _ _; rw [readSeqA, readSeq_zero]; exact out hp
    · intro d dm start ns st a b ks vs ks0 vs0 hp _ _; rw [readMapA, readMap_zero]; exact out hp
    · intro d dm start st a hp _; rw [readNsMapA, readNsMap_zero]; exact out hp
    · intro d dm start st a hp _; rw [readTaggedA, readTagged_zero]; exact out hp
    · intro d dm start st a hp _; rw [readMetaA, readMeta_zero]; exact out hp
  | succ f ih =>
    obtain ⟨hV, hS, hM, hN, hT, hMe⟩ := ih
    exact ⟨V_succ f hV hS hM hN hT hMe, S_succ f hV hS, M_succ f hV hM, N_succ f hV hM, T_succ f hV, Me_succ f hV⟩

end World
end

theorem dupClose_nofault {x : ACtx} {a : ASt} (q : Quiet x a) (xs : List Val) (e : ErrInfo) (st : St)
    (mk : List Val → Val) :
    Rel x (Quiet x) Eq (dupCloseA x xs a e st mk) (dupClose x.ctx.cfg xs e st mk) := by
  obtain ⟨d1, d2, d3, d4⟩ := hasDuplicatesA_nofault x q.1 xs a q.2
  have q2 : Quiet x (hasDuplicatesA x xs a).2 := ⟨q.1, d3⟩
  have hcnt : ((hasDuplicatesA x xs a).2.failedArena != a.failedArena) = false := by rw [d4]; exact bne_self_eq_false _
  unfold dupCloseA valueA dupClose
  rw [if_neg (by rw [hcnt]; exact Bool.false_ne_true), ← d1]
  cases hdup : (hasDuplicatesA x xs a).1.1
  · rw [← d2 hdup, q2.granted 0]
    exact ⟨q2.fr (request_fr x .arena _ 0), _, rfl, rfl⟩
  · exact ⟨q2, .inl rfl⟩

def nfWorld (x : ACtx) : World x where
  P := Quiet x
  D := fun _ => True
  G := fun _ v v0 => v = v0
  Acc := fun _ xs xs0 => xs = xs0
  Acc2 := fun _ ks vs ks0 vs0 => ks = ks0 ∧ vs = vs0
  P_fr := Quiet.fr
  D_pred := id
  D_lt := fun _ => trivial
  G_erase := fun h => congrArg _ h
  G_leaf := fun _ _ _ => rfl
  G_weaken := id
  G_list := fun _ _ _ h => h ▸ rfl
  G_vec := fun _ _ _ h => h ▸ rfl
  G_tagged := fun _ _ _ h => h ▸ rfl
  G_handler := by
    intro d reg tag h v v0 s e _ _ g
    subst g
    cases hr : h.run v with
    | none => exact .inl ⟨rfl, rfl⟩
    | some r => exact .inr ⟨r, r, rfl, rfl, rfl⟩
  G_meta := by
    intro d m m0 form form0 nks nvs nks0 nvs0 start gm gf hme hme0 _
    subst gm gf
    rw [hme] at hme0
    cases hme0
    rfl
  acc_nil := rfl
  acc_cons := fun g h => g ▸ h ▸ rfl
  acc2_nil := ⟨rfl, rfl⟩
  acc2_cons := fun gk gv h => ⟨gk ▸ h.1 ▸ rfl, gv ▸ h.2 ▸ rfl⟩
  acc2_qual := fun _ _ gk gv h => ⟨gk ▸ h.1 ▸ rfl, gv ▸ h.2 ▸ rfl⟩
  closeSet := fun _ _ err st _ _ h q => h ▸ dupClose_nofault q _ err st _
  closeMap := fun _ _ err st _ _ h q => h.1 ▸ h.2 ▸ dupClose_nofault q _ err st _

theorem nf_of_rel {x : ACtx} {d : Nat} {r : Res × ASt} {r0 : Res} (h : (nfWorld x).R d r r0) : NF r r0 := by
  obtain ⟨r, a⟩ := r
  obtain ⟨hp, h⟩ := h
  refine ⟨?_, hp.2⟩
  cases r with
  | ok v st => obtain ⟨v0, h1, rfl⟩ := h; exact h1.symm
  | closer st => exact h.symm
  | err e st => exact h.elim Eq.symm fun ⟨_, _, q, nq⟩ => absurd q nq

theorem readValueA_nofault (x : ACtx) (hx : ∀ n, x.orc n = false) (f d : Nat) (dm : Bool) (st : St) (a : ASt)
    (ha : a.arena = .alive) :
    (readValueA x f d dm st a).1 = readValue x.ctx f d dm st ∧ (readValueA x f d dm st a).2.arena = .alive :=
  nf_of_rel (((nfWorld x).readers f).1 d dm st a ⟨hx, ha⟩ trivial)

theorem readSeqA_nofault (x : ACtx) (hx : ∀ n, x.orc n = false) (f d : Nat) (dm : Bool) (kind start : Nat) (st : St)
    (a : ASt) (b : BSt) (acc : List Val) (ha : a.arena = .alive) :
    (readSeqA x f d dm kind start st a b acc).1 = readSeq x.ctx f d dm kind start st acc :=
  (nf_of_rel (((nfWorld x).readers f).2.1 d dm kind start st a b acc acc ⟨hx, ha⟩ trivial rfl)).1

theorem readMapA_nofault (x : ACtx) (hx : ∀ n, x.orc n = false) (f d : Nat) (dm : Bool) (start : Nat)
    (ns : Option Bytes) (st : St) (a : ASt) (b : BSt) (ks vs : List Val) (ha : a.arena = .alive) :
    (readMapA x f d dm start ns st a b ks vs).1 = readMap x.ctx f d dm start ns st ks vs :=
  (nf_of_rel (((nfWorld x).readers f).2.2.1 d dm start ns st a b ks vs ks vs ⟨hx, ha⟩ trivial ⟨rfl, rfl⟩)).1

theorem readNsMapA_nofault (x : ACtx) (hx : ∀ n, x.orc n = false) (f d : Nat) (dm : Bool) (start : Nat) (st : St)
    (a : ASt) (ha : a.arena = .alive) :
    (readNsMapA x f d dm start st a).1 = readNsMap x.ctx f d dm start st :=
  (nf_of_rel (((nfWorld x).readers f).2.2.2.1 d dm start st a ⟨hx, ha⟩ trivial)).1

theorem readTaggedA_nofault (x : ACtx) (hx : ∀ n, x.orc n = false) (f d : Nat) (dm : Bool) (start : Nat) (st : St)
    (a : ASt) (ha : a.arena = .alive) :
    (readTaggedA x f d dm start st a).1 = readTagged x.ctx f d dm start st :=
  (nf_of_rel (((nfWorld x).readers f).2.2.2.2.1 d dm start st a ⟨hx, ha⟩ (.inl trivial))).1

theorem readMetaA_nofault (x : ACtx) (hx : ∀ n, x.orc n = false) (f d : Nat) (dm : Bool) (start : Nat) (st : St)
    (a : ASt) (ha : a.arena = .alive) :
    (readMetaA x f d dm start st a).1 = readMeta x.ctx f d dm start st :=
  (nf_of_rel (((nfWorld x).readers f).2.2.2.2.2 d dm start st a ⟨hx, ha⟩ trivial)).1

theorem arenaCreate_nofault (orc : Nat → Bool) (hx : ∀ n, orc n = false) (tmp : Bool) (a : ASt) :
    (a.arenaCreate orc tmp).1 = true ∧ (tmp = false → (a.arenaCreate orc tmp).2.arena = .alive) := by
  have key : ∀ (k : ReqKind) (a : ASt), k ≠ .arena → ∃ i a1, a.rawAlloc orc k = (some i, a1) :=
    fun k a hk => (rawAlloc_succeeds orc k a (hx _) fun e => absurd e hk).imp fun i hi => ⟨_, Prod.ext hi rfl⟩
  unfold ASt.arenaCreate
  obtain ⟨i, a1, e1⟩ := key .arenaNew a (by decide)
  rw [e1]
  simp only
  obtain ⟨j, a2, e2⟩ := key .arenaNew a1 (by decide)
  rw [e2]
  simp only
  refine ⟨trivial, fun ht => ?_⟩
  subst ht
  rfl

theorem lineGrowA_nofault (orc : Nat → Bool) (hx : ∀ n, orc n = false) : ∀ (n count cap : Nat) (a : ASt),
    (lineGrowA orc n count cap a).1 = true := by
  intro n
  induction n with
  | zero => intro count cap a; rfl
  | succ n ih =>
    intro count cap a
    unfold lineGrowA
    split
    · have h := request_succeeds orc .arenaTmp a 0 (hx _) (fun e => by cases e)
      simp only [h, Bool.not_true, Bool.false_eq_true, ↓reduceIte]
      exact ih _ _ _
    · exact ih _ _ _

theorem lineIndexA_nofault (orc : Nat → Bool) (hx : ∀ n, orc n = false) (input : Bytes) (a : ASt) :
    (lineIndexA orc input a).1 = true := by
  unfold lineIndexA
  have h0 := (arenaCreate_nofault orc hx true a).1
  rcases hq : a.arenaCreate orc true with ⟨okA, a1⟩
  rw [hq] at h0
  simp only at h0 ⊢
  subst h0
  simp only [Bool.not_true, Bool.false_eq_true, ↓reduceIte]
  have h1 := request_succeeds orc .arenaTmp a1 0 (hx _) (fun e => by cases e)
  have h2 := request_succeeds orc .arenaTmp (a1.request orc .arenaTmp).2 0 (hx _) (fun e => by cases e)
  simp only [h1, h2, Bool.not_true, Bool.false_eq_true, ↓reduceIte]
  exact lineGrowA_nofault orc hx _ _ _ _

theorem readA_nofault (cfg : Cfg) (opts : Opts) (orc : Nat → Bool) (hx : ∀ n, orc n = false) (input : Bytes)
    (grow : Nat → Nat) (handlerReq : String → Bool) (sortTouch : Nat → List Nat) :
    (readA cfg opts orc input grow handlerReq sortTouch).result = Edn.Model.read cfg opts input := by
  unfold readA Edn.Model.read ResultA.result
  simp only
  obtain ⟨-, c2⟩ := arenaCreate_nofault orc hx false {}
  rcases hq0 : ({} : ASt).arenaCreate orc false with ⟨ok0, a0⟩
  rw [hq0] at c2
  simp only at c2 ⊢
  have ha0 := c2 trivial
  obtain ⟨e1, -⟩ := readValueA_nofault
    { ctx := { cfg := cfg, opts := opts }, orc := orc, grow := grow, handlerReq := handlerReq, sortTouch := sortTouch }
    hx (readFuel input) 0 false { rest := input } a0 ha0
  simp only at e1
  rcases hq : readValueA
    { ctx := { cfg := cfg, opts := opts }, orc := orc, grow := grow, handlerReq := handlerReq, sortTouch := sortTouch }
    (readFuel input) 0 false { rest := input } a0 with ⟨r, a⟩
  rw [hq] at e1
  simp only at e1
  rw [← e1]
  cases r with
  | ok v st => rfl
  | closer st => rfl
  | err e st =>
    simp only
    by_cases hf : e.fuelOut = true
    · simp only [if_pos hf]
    · simp only [if_neg hf]
      have hi := lineIndexA_nofault orc hx input a
      rcases hql : lineIndexA orc input a with ⟨haveIdx, a1⟩
      rw [hql] at hi
      simp only at hi ⊢
      subst hi
      by_cases he : (e.code == Err.unexpectedEof && e.eofTop && opts.eofValue) = true
      · simp only [if_pos he]
      · simp only [if_neg he, Bool.not_true, Bool.false_eq_true, ↓reduceIte]

theorem readA_nofault' (cfg : Cfg) (opts : Opts) (input : Bytes) :
    (readA cfg opts (fun _ => false) input).result = Edn.Model.read cfg opts input :=
  readA_nofault cfg opts (fun _ => false) (fun _ => rfl) input _ _ _

end Edn.Proofs.AllocSim
