/-
  The one decomposition of `Edn.Model.readNumber` into stages that every walk through the number
  reader uses (progress: `NumberProgress`; exactness: `NumberParts`/`NumberStages`), the reader behind
  a sign (`readNumber_sign`), and the scanners that are plain runs (`dropWhile`, `ratioDenominator`) as
  equations on split input.
-/
import Edn.Model.Number
import Edn.Proofs.Bytes
import Edn.Spec.Renders

namespace Edn.Proofs.CNum
open Edn.Model Edn.Spec Edn.Proofs

/-! ## the stages of `readNumber` after the sign

The definitions of this section are the text of `Edn.Model.readNumber` cut into pieces, copied
character for character; `readNumber_eq` ties them to the model.  It is proved by unfolding, so it
fails when the two texts drift apart. -/

def radixPart (cfg : Cfg) (neg : Bool) (s : Bytes) : Option NumOut :=
  let c := peek s
  if cfg.clj && is09 c then
    let rpos := s.dropWhile is09
    match rpos with
    | r :: rrest =>
      if r == 0x72 || r == 0x52 then
        let rv := radixPrefixValue 0 (slice s rpos)
        if 2 ≤ rv && rv ≤ 36 then
          let ds := rrest
          if !(digitValue (peek ds) rv).isSome then some (.err ds)
          else match radixDigitsLoop cfg.exp rv true (ds.length + 1) ds with
            | .error cur => some (.err cur)
            | .ok s' => some (radixTail cfg neg rv false ds s')
        else some (.err s)
      else none
    | [] => none
  else none

def zeroRest (cfg : Cfg) (s0 : Bytes) (neg : Bool) (digitsStart s2 : Bytes) : NumOut :=
  let c2 := peek s2
  if c2 == 0x2E then decimalPart cfg s0 neg digitsStart s2
  else if c2 == 0x4E then finishNum (.bigint neg 10 [0x30]) (adv s2)
  else if c2 == 0x4D then finishNum (.bigdec neg [0x30]) (adv s2)
  else if c2 == 0x65 || c2 == 0x45 then exponentPart cfg s0 neg false digitsStart s2
  else if cfg.clj && c2 == 0x2F then
    match ratioDenominator (adv s2) with
    | .error cur => .err cur
    | .ok s' => .ok (.int 0) s'
  else finishNum (.int 0) s2

/-- the Clojure branch behind a leading zero: the answer of a hexadecimal or octal literal (or an
    error), or the cursor behind the run of zeros -/
def cljBranch (cfg : Cfg) (neg : Bool) (digitsStart s1 : Bytes) : Option NumOut × Bytes :=
  let c1 := peek s1
  if cfg.clj then
    let s2 := s1.dropWhile (· == 0x30)
    let c2 := peek s2
    if c2 == 0x78 || c2 == 0x58 then
      let ds := adv s2
      if !(digitValue (peek ds) 16).isSome then (some (.err ds), s2)
      else match radixDigitsLoop cfg.exp 16 false (ds.length + 1) ds with
        | .error cur => (some (.err cur), s2)
        | .ok s' => (some (radixTail cfg neg 16 true ds s'), s2)
    else if 0x31 ≤ c2 && c2 ≤ 0x37 then
      match radixDigitsLoop cfg.exp 8 false (s2.length + 1) s2 with
      | .error cur => (some (.err cur), s2)
      | .ok s' => (some (radixTail cfg neg 8 true digitsStart s'), s2)
    else if c2 == 0x38 || c2 == 0x39 then (some (.err s2), s2)
    else (none, s2)
  else
    if is09 c1 then (some (.err s1), s1) else (none, s1)

def zeroPart (cfg : Cfg) (s0 : Bytes) (neg : Bool) (s : Bytes) : NumOut :=
  match cljBranch cfg neg s (adv s) with
  | (some r, _) => r
  | (none, s2) => zeroRest cfg s0 neg s s2

def afterIp (cfg : Cfg) (s0 : Bytes) (neg : Bool) (digitsStart s1 : Bytes) : NumOut :=
  if peek s1 == 0x2E then decimalPart cfg s0 neg digitsStart s1
  else afterMantissa cfg s0 neg false digitsStart s1

def nonzeroPart (cfg : Cfg) (s0 : Bytes) (neg : Bool) (s : Bytes) : NumOut :=
  match decDigitsLoop cfg.exp (s.length + 1) s with
  | .error cur => .err cur
  | .ok s1 => afterIp cfg s0 neg s s1

def numBody (cfg : Cfg) (s0 : Bytes) (neg : Bool) (s : Bytes) : NumOut :=
  match radixPart cfg neg s with
  | some r => r
  | none => if peek s == 0x30 then zeroPart cfg s0 neg s else nonzeroPart cfg s0 neg s

theorem readNumber_eq (cfg : Cfg) (s0 : Bytes) :
    readNumber cfg s0 =
      match (if peek s0 == 0x2D || peek s0 == 0x2B then (peek s0 == 0x2D, adv s0) else (false, s0)) with
      | (neg, s) => numBody cfg s0 neg s := by
  -- the tactic, not the term `rfl`: the term is unified with both bodies unfolded and is far slower
  unfold numBody radixPart zeroPart cljBranch nonzeroPart zeroRest afterIp
  rfl

theorem decLoop_eq_radixLoop (exp : Bool) : ∀ (f : Nat) (s : Bytes),
    decDigitsLoop exp f s = radixDigitsLoop exp 10 true f s := by
  intro f
  induction f with
  | zero => intro s; rfl
  | succ f ih =>
    intro s
    have e1 : ∀ c, (digitValue c 10).isSome = is09 c := isSome_ten
    unfold decDigitsLoop radixDigitsLoop
    simp only [e1, ih, Bool.true_and, Bool.and_comm]

theorem is09_props {c : UInt8} (h : is09 c = true) :
    c ≠ 0 ∧ isDelim c = false ∧ c ≠ 0x2D ∧ c ≠ 0x2B ∧ c ≠ 0x5F ∧ isPreWs c = false := by
  obtain ⟨h0, hd, hu, -, -, hp, hm⟩ := radix_props (r := 10) (by decide) (isSome_ten c ▸ h)
  exact ⟨h0, hd, hm, hp, hu, isPreWs_of_not_delim hd⟩

theorem is09_not_underscore {c : UInt8} (h : is09 c = true) : c ≠ 0x5F := by
  obtain ⟨-, -, -, -, hu, -⟩ := is09_props h
  exact hu

theorem is09_not_sign {c : UInt8} (h : is09 c = true) : (c == 0x2D) = false ∧ (c == 0x2B) = false := by
  obtain ⟨-, -, hm, hp, -⟩ := is09_props h
  exact ⟨by simpa using hm, by simpa using hp⟩

theorem readNumber_sign (cfg : Cfg) (sg s : Bytes) (neg : Bool) (hs : SignTok sg neg)
    (hd : is09 (peek s) = true) :
    readNumber cfg (sg ++ s) = numBody cfg (sg ++ s) neg s := by
  rw [readNumber_eq]
  rcases hs with ⟨rfl, rfl⟩ | ⟨rfl, rfl⟩ | ⟨rfl, rfl⟩
  · simp only [List.nil_append, is09_not_sign hd, Bool.or_self, Bool.false_eq_true, ↓reduceIte]
  · rfl
  · rfl

/-- where the dispatcher sends a number: an optional sign, then a digit.  The hypothesis is
    `Edn.Spec.NumStart s` written out (that definition stands in the reader's grammar,
    Edn.Spec.GrammarX, which of the number files only NumberExact imports and states it by name); the
    soundness theorems of the three number grammars state it written out as here. -/
theorem start_split {s : Bytes}
    (hstart : ∃ c t, s = c :: t ∧ (is09 c = true ∨ ((c = 0x2B ∨ c = 0x2D) ∧ ∃ nx t', t = nx :: t' ∧ is09 nx = true))) :
    ∃ sg body neg, s = sg ++ body ∧ SignTok sg neg ∧ is09 (peek body) = true := by
  obtain ⟨c, t, rfl, hc | ⟨rfl | rfl, nx, t', rfl, hnx⟩⟩ := hstart
  · exact ⟨[], c :: t, false, rfl, Or.inl ⟨rfl, rfl⟩, hc⟩
  · exact ⟨[0x2B], nx :: t', false, rfl, Or.inr (Or.inl ⟨rfl, rfl⟩), hnx⟩
  · exact ⟨[0x2D], nx :: t', true, rfl, Or.inr (Or.inr ⟨rfl, rfl⟩), hnx⟩

theorem start_join {sg body : Bytes} {neg : Bool} (hs : SignTok sg neg) (hb : is09 (peek body) = true) :
    ∃ c t, sg ++ body = c :: t ∧
      (is09 c = true ∨ ((c = 0x2B ∨ c = 0x2D) ∧ ∃ nx t', t = nx :: t' ∧ is09 nx = true)) := by
  cases body with
  | nil => exact absurd hb (by decide)
  | cons d t =>
    rcases hs with ⟨rfl, -⟩ | ⟨rfl, -⟩ | ⟨rfl, -⟩
    · exact ⟨d, t, rfl, Or.inl hb⟩
    · exact ⟨0x2B, d :: t, rfl, Or.inr ⟨Or.inl rfl, d, t, rfl, hb⟩⟩
    · exact ⟨0x2D, d :: t, rfl, Or.inr ⟨Or.inr rfl, d, t, rfl, hb⟩⟩

/-! ## scanners on split input

A scanner of the number reader consumes the longest run of a class of bytes and then looks at one more
byte.  Each is stated once, as an equation on `run ++ T` with `T` starting outside the class; every input
splits that way (`dropWhile_split`), so what the scanner accepts, what it answers on a literal and where
it leaves the cursor are read off the equation. -/

theorem dropWhile_peek_false (p : UInt8 → Bool) (rest : Bytes) (h : p (peek rest) = false) :
    rest.dropWhile p = rest := by
  cases rest with
  | nil => rfl
  | cons c t =>
    have : p c = false := h
    simp [this]

theorem dropWhile_prefix (p : UInt8 → Bool) (rest : Bytes) (h : p (peek rest) = false) :
    ∀ ds : Bytes, (∀ c ∈ ds, p c = true) → (ds ++ rest).dropWhile p = rest :=
  fun _ hd => (List.dropWhile_append_of_pos hd).trans (dropWhile_peek_false p rest h)

theorem dropWhile_split (p : UInt8 → Bool) (hp0 : p 0 = false) (s : Bytes) :
    ∃ run T, s = run ++ T ∧ (∀ c ∈ run, p c = true) ∧ p (peek T) = false ∧ s.dropWhile p = T := by
  obtain ⟨run, hs, hr, hd⟩ := dropWhile_run p s
  refine ⟨run, _, hs, hr, ?_, rfl⟩
  cases h : s.dropWhile p with
  | nil => exact hp0
  | cons d r => exact hd d r h

theorem ratioDen_eq (run T : Bytes) (hrun : ∀ c ∈ run, is09 c = true) (hT : is09 (peek T) = false) :
    ratioDenominator (run ++ T) =
      if run = [] then .error T
      else if run.head? = some 0x30 then .error (run.tail ++ T)
      else if (peek T == 0x4E || peek T == 0x4D || peek T == 0x2F) = true then .error T
      else if (!T.isEmpty && !isDelim (peek T)) = true then .error T
      else .ok T := by
  have hdw : (run ++ T).dropWhile is09 = T := dropWhile_prefix is09 T hT run hrun
  unfold ratioDenominator
  cases run with
  | nil => simp only [List.nil_append, hT, Bool.not_false, Bool.or_true, ↓reduceIte]
  | cons d t =>
    have h1 : is09 (peek (d :: t ++ T)) = true := hrun d (by simp)
    have hemp : (d :: t ++ T).isEmpty = false := rfl
    simp only [hemp, h1, hdw, Bool.not_true, Bool.or_self, Bool.false_eq_true, ↓reduceIte, reduceCtorEq,
      List.head?_cons, Option.some.injEq, List.tail_cons]
    exact ite_congr (by simp [peek_cons]) (fun _ => rfl) fun _ => rfl

end Edn.Proofs.CNum
