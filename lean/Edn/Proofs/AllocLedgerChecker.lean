/-
  The trace checker: a ledger (`Led`) updated event by event (`Led.step`) from the oldest event of a
  trace of Edn.Model.ReaderA on.  A trace is well formed (`TraceOK`) when the checker never gets
  stuck; an allocation state is in step (`Sync`) when the checker, having read its trace, holds its
  ledger; from one state to a later one the checker reads on (`Cont`) when, holding the ledger of the
  first, it reads the events added since and holds the ledger of the second.
-/
import Edn.Proofs.AllocBasic

namespace Edn.Proofs.AllocLedger
open Edn.Model Edn.Proofs.AllocBasic

@[simp] theorem beq_arena_arena : (ReqKind.arena == ReqKind.arena) = true := rfl
@[simp] theorem beq_arenaTmp_arena : (ReqKind.arenaTmp == ReqKind.arena) = false := rfl
@[simp] theorem beq_arenaNew_arena : (ReqKind.arenaNew == ReqKind.arena) = false := rfl
@[simp] theorem beq_malloc_arena : (ReqKind.malloc == ReqKind.arena) = false := rfl
@[simp] theorem beq_calloc_arena : (ReqKind.calloc == ReqKind.arena) = false := rfl
@[simp] theorem beq_realloc_arena : (ReqKind.realloc == ReqKind.arena) = false := rfl
@[simp] theorem beq_none_alive : (ArenaSt.none == ArenaSt.alive) = false := rfl
@[simp] theorem beq_none_destroyed : (ArenaSt.none == ArenaSt.destroyed) = false := rfl
@[simp] theorem beq_alive_alive : (ArenaSt.alive == ArenaSt.alive) = true := rfl
@[simp] theorem beq_alive_destroyed : (ArenaSt.alive == ArenaSt.destroyed) = false := rfl
@[simp] theorem beq_destroyed_alive : (ArenaSt.destroyed == ArenaSt.alive) = false := rfl
@[simp] theorem beq_destroyed_destroyed : (ArenaSt.destroyed == ArenaSt.destroyed) = true := rfl

structure Led where
  /-- index of the last request seen (requests are numbered 1, 2, 3, … without gaps) -/
  last : Nat := 0
  /-- raw blocks obtained (`malloc`, `calloc`, `realloc`, the `malloc`s of `edn_arena_create`) and
      not yet freed, reallocated away or taken over by a completed arena; newest first -/
  live : List Nat := []
  /-- inside `edn_arena_create`: the arena record, while the first block has not been obtained -/
  pend : Option Nat := none
  /-- arenas created and not yet destroyed -/
  up : Nat := 0
  /-- the parser's arena has been destroyed -/
  dP : Bool := false
  /-- the temporary arena has been destroyed -/
  dT : Bool := false
deriving DecidableEq, Repr, Inhabited

/-- `none` = the trace is not well formed at this event:
    * a request whose index is not the successor of the previous one;
    * a granted request on an arena while no arena exists or after that arena was destroyed;
    * `realloc` of a block that is not live (whether the `realloc` is granted or not);
    * `free` of a block that is not live (never obtained, already freed, reallocated away);
    * `edn_arena_destroy` while no arena exists, or of an arena destroyed before. -/
def Led.step (L : Led) : Ev → Option Led
  | .req k id failed old =>
    if id != L.last + 1 then none
    else
      let L := { L with last := id }
      match k with
      | .arena => if failed || (L.up != 0 && !L.dP) then some L else none
      | .arenaTmp => if failed || (L.up != 0 && !L.dT) then some L else none
      | .malloc | .calloc => if failed then some L else some { L with live := id :: L.live }
      | .realloc =>
        if !L.live.contains old then none
        else if failed then some L
        else some { L with live := id :: L.live.erase old }
      | .arenaNew =>
        if failed then some L
        else match L.pend with
          | none => some { L with live := id :: L.live, pend := some id }
          | some i => some { L with live := L.live.erase i, pend := none, up := L.up + 1 }
  | .free id =>
    if L.live.contains id then
      some { L with live := L.live.erase id, pend := if L.pend == some id then none else L.pend }
    else none
  | .destroy tmp =>
    if L.up == 0 then none
    else if tmp then (if L.dT then none else some { L with up := L.up - 1, dT := true })
    else (if L.dP then none else some { L with up := L.up - 1, dP := true })

inductive Led.Step (L : Led) : Ev → Led → Prop
  /-- a request that returns no raw block: on an arena, or refused -/
  | quiet (k : ReqKind) (failed : Bool) (old : Nat) (hk : failed = true ∨ k = .arena ∨ k = .arenaTmp)
      (ho : k = .realloc → old ∈ L.live) :
      Step L (.req k (L.last + 1) failed old) { L with last := L.last + 1 }
  | alloc (k : ReqKind) (old : Nat) (hk : k = .malloc ∨ k = .calloc) :
      Step L (.req k (L.last + 1) false old) { L with last := L.last + 1, live := (L.last + 1) :: L.live }
  /-- first half of `edn_arena_create` -/
  | record (old : Nat) (hp : L.pend = none) :
      Step L (.req .arenaNew (L.last + 1) false old)
        { L with last := L.last + 1, live := (L.last + 1) :: L.live, pend := some (L.last + 1) }
  /-- second half: the record leaves the list of raw blocks, the arena exists -/
  | arenaDone (old i : Nat) (hp : L.pend = some i) :
      Step L (.req .arenaNew (L.last + 1) false old)
        { L with last := L.last + 1, live := L.live.erase i, pend := none, up := L.up + 1 }
  | realloc (old : Nat) (ho : old ∈ L.live) :
      Step L (.req .realloc (L.last + 1) false old)
        { L with last := L.last + 1, live := (L.last + 1) :: L.live.erase old }
  | free (id : Nat) (h : id ∈ L.live) :
      Step L (.free id) { L with live := L.live.erase id, pend := if L.pend == some id then none else L.pend }
  | destroyTmp (h : L.dT = false) : Step L (.destroy true) { L with up := L.up - 1, dT := true }
  | destroyParser (h : L.dP = false) : Step L (.destroy false) { L with up := L.up - 1, dP := true }

theorem Led.Step.of_step {L L' : Led} {e : Ev} (h : L.step e = some L') : L.Step e L' := by
  cases e with
  | req k id failed old =>
    unfold Led.step at h
    by_cases hid : id = L.last + 1
    · subst hid
      simp only [bne_self_eq_false, Bool.false_eq_true, ↓reduceIte] at h
      cases k with
      | arena =>
        simp only at h
        split at h <;> cases h
        exact .quiet _ _ _ (.inr (.inl rfl)) nofun
      | arenaTmp =>
        simp only at h
        split at h <;> cases h
        exact .quiet _ _ _ (.inr (.inr rfl)) nofun
      | malloc =>
        cases failed <;> simp only [Bool.false_eq_true, ↓reduceIte] at h <;> cases h
        · exact .alloc _ _ (.inl rfl)
        · exact .quiet _ _ _ (.inl rfl) nofun
      | calloc =>
        cases failed <;> simp only [Bool.false_eq_true, ↓reduceIte] at h <;> cases h
        · exact .alloc _ _ (.inr rfl)
        · exact .quiet _ _ _ (.inl rfl) nofun
      | arenaNew =>
        cases failed <;> simp only [Bool.false_eq_true, ↓reduceIte] at h
        · split at h <;> cases h
          · exact .record _ ‹_›
          · exact .arenaDone _ _ ‹_›
        · cases h; exact .quiet _ _ _ (.inl rfl) nofun
      | realloc =>
        simp only at h
        split at h
        · cases h
        · next hold =>
          have hold : old ∈ L.live := by simpa using hold
          cases failed <;> simp only [Bool.false_eq_true, ↓reduceIte] at h <;> cases h
          · exact .realloc _ hold
          · exact .quiet _ _ _ (.inl rfl) (fun _ => hold)
    · simp [hid] at h
  | free id =>
    simp only [Led.step] at h
    split at h
    · next hc => cases h; exact .free id (by simpa using hc)
    · cases h
  | destroy b =>
    simp only [Led.step] at h
    split at h
    · cases h
    · cases b <;> simp only [Bool.false_eq_true, ↓reduceIte] at h <;> split at h <;> cases h
      · exact .destroyParser ((Bool.not_eq_true _).mp ‹_›)
      · exact .destroyTmp ((Bool.not_eq_true _).mp ‹_›)

def run : List Ev → Led → Option Led
  | [], L => some L
  | e :: t, L =>
    match L.step e with
    | none => none
    | some L' => run t L'

/-- The checker, started with the empty ledger, reads the trace (oldest event first) to its end.  So:
    every `free id` is of a block that a granted raw request with that id has returned and that has not
    been freed (or reallocated away) since; `realloc` only of a live block; `edn_arena_destroy` only
    while a created arena exists, and at most once for each of the two arenas; a request on an arena is
    granted only while some created arena exists and that arena has not been destroyed (`Led.up`
    counts both arenas).  (`wellformed_free_once`, `wellformed_free_was_obtained` in
    Edn.Properties.C15 spell this out on positions of the trace.) -/
def TraceOK (t : List Ev) : Prop := (run t {}).isSome = true

instance (t : List Ev) : Decidable (TraceOK t) := inferInstanceAs (Decidable (_ = true))

theorem run_append (t1 t2 : List Ev) (L : Led) : run (t1 ++ t2) L = (run t1 L).bind (run t2) := by
  induction t1 generalizing L with
  | nil => rfl
  | cons e t ih =>
    show run (e :: (t ++ t2)) L = _
    unfold run
    cases L.step e with
    | none => rfl
    | some L' => exact ih L'

theorem run_invariant {P : List Ev → Led → Prop} (init : P [] {})
    (step : ∀ {t : List Ev} {L L' : Led} (e : Ev), P t L → L.step e = some L' → P (t ++ [e]) L')
    {t : List Ev} {L : Led} (hr : run t {} = some L) : P t L := by
  have gen : ∀ t t0 L0, P t0 L0 → run t L0 = some L → P (t0 ++ t) L := by
    intro t
    induction t with
    | nil => intro t0 L0 h hr; cases hr; simpa using h
    | cons e t ih =>
      intro t0 L0 h hr
      unfold run at hr
      cases hs : L0.step e with
      | none => rw [hs] at hr; cases hr
      | some L1 => rw [hs] at hr; simpa using ih (t0 ++ [e]) L1 (step e h hs) hr
  simpa using gen t [] {} init hr

def aliveN (s : ArenaSt) : Nat := if s == .alive then 1 else 0

/-- outside `edn_arena_create`, so nothing is pending -/
def led (a : ASt) : Led :=
  { last := a.reqs, live := a.live, pend := none, up := aliveN a.arena + aliveN a.tmp,
    dP := a.arena == .destroyed, dT := a.tmp == .destroyed }

def Sync (a : ASt) : Prop := run a.trace.reverse {} = some (led a)

theorem Sync.traceOK {a : ASt} (h : Sync a) : TraceOK a.trace.reverse := by
  unfold TraceOK
  rw [h]
  rfl

theorem sync_init : Sync {} := rfl

theorem Led.Step.last_le {L L' : Led} {e : Ev} (h : L.Step e L') : L.last ≤ L'.last := by
  cases h <;> first | exact Nat.le_succ _ | exact Nat.le_refl _

theorem run_last_le {t : List Ev} {L L' : Led} (h : run t L = some L') : L.last ≤ L'.last := by
  induction t generalizing L with
  | nil => cases h; exact Nat.le_refl _
  | cons e t ih =>
    unfold run at h
    cases hs : L.step e with
    | none => rw [hs] at h; cases h
    | some L1 => rw [hs] at h; exact Nat.le_trans (Led.Step.of_step hs).last_le (ih h)

/-- the checker, holding the ledger of `a`, reads the events that `a'` has on top of those of `a` and
    then holds the ledger of `a'`: the two-state form of `Sync` (which is `Cont {}`), and what every
    step of the model is shown to satisfy -/
def Cont (a a' : ASt) : Prop := ∃ es, a'.trace = es.reverse ++ a.trace ∧ run es (led a) = some (led a')

theorem Cont.refl (a : ASt) : Cont a a := ⟨[], rfl, rfl⟩

theorem Cont.trans {a b c : ASt} (h1 : Cont a b) (h2 : Cont b c) : Cont a c := by
  obtain ⟨es1, t1, r1⟩ := h1
  obtain ⟨es2, t2, r2⟩ := h2
  refine ⟨es1 ++ es2, ?_, ?_⟩
  · rw [t2, t1, List.reverse_append, List.append_assoc]
  · rw [run_append, r1]; exact r2

theorem Cont.push {a a' : ASt} (e : Ev) (ht : a'.trace = e :: a.trace) (hs : (led a).step e = some (led a')) :
    Cont a a' :=
  ⟨[e], ht, by unfold run; rw [hs]; rfl⟩

theorem Cont.sync {a a' : ASt} (h : Cont a a') (s : Sync a) : Sync a' := by
  obtain ⟨es, ht, hr⟩ := h
  unfold Sync at s ⊢
  rw [ht, List.reverse_append, List.reverse_reverse, run_append, s]
  exact hr

theorem Cont.le {a a' : ASt} (h : Cont a a') : ASt.Le a a' :=
  have ⟨_, ht, hr⟩ := h
  ⟨run_last_le hr, ht ▸ List.suffix_append _ _⟩

end Edn.Proofs.AllocLedger
