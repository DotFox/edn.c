/-
  C11 (positions half): the line-feed index is sorted and complete,
  `binary_search_line` finds the last line feed before an offset, and the reported line and
  column are one plus the number of line feeds before the offset and one plus the distance
  from the byte after the last of them.
-/
import Edn.Proofs.Scan

namespace Edn.Proofs
open Edn.Model

def SplitAt (offs : Array Nat) (off k : Nat) : Prop :=
  k ≤ offs.size ∧ (∀ i, i < k → offs.getD i 0 < off) ∧ (∀ i, k ≤ i → i < offs.size → off ≤ offs.getD i 0)

/-- what `binary_search_line` tests at an index -/
theorem SplitAt.lt_iff {offs : Array Nat} {off k : Nat} (hk : SplitAt offs off k) {i : Nat} (hi : i < offs.size) :
    offs.getD i 0 < off ↔ i < k :=
  ⟨fun h => Nat.lt_of_not_le fun hc => Nat.not_le_of_lt h (hk.2.2 i hc hi), hk.2.1 i⟩

theorem binarySearchLoop_spec (offs : Array Nat) (off k : Nat) (hk : SplitAt offs off k) :
    ∀ (fuel left right : Nat) (res : Option Nat),
      left ≤ k → k ≤ right + 1 → right < offs.size →
      res = (if left = 0 then none else some (left - 1)) →
      right + 2 ≤ fuel + left →
      binarySearchLoop offs off fuel left right res = if k = 0 then none else some (k - 1)
  | 0, left, right, res, h1, h2, h3, h4, h5 => by omega
  | f + 1, left, right, res, h1, h2, h3, h4, h5 => by
    rw [binarySearchLoop]
    by_cases hlr : left ≤ right
    · rw [if_pos hlr]
      -- the midpoint as a variable: only `left ≤ mid ≤ right` is used
      obtain ⟨mid, hmid, hm⟩ : ∃ mid, (left ≤ mid ∧ mid ≤ right) ∧ left + (right - left) / 2 = mid :=
        ⟨_, by omega, rfl⟩
      simp only [hm, hk.lt_iff (Nat.lt_of_le_of_lt hmid.2 h3)]
      by_cases hmk : mid < k
      · rw [if_pos hmk]
        exact binarySearchLoop_spec offs off k hk f _ _ _ hmk h2 h3 (by simp) (by omega)
      · rw [if_neg hmk]
        by_cases hz : mid = 0
        · rw [if_pos (by simpa using hz), h4, if_pos (by omega), if_pos (by omega)]
        · rw [if_neg (by simpa using hz)]
          exact binarySearchLoop_spec offs off k hk f _ _ _ h1 (by omega) (by omega) h4 (by omega)
    · rw [if_neg hlr, h4, show left = k by omega]

theorem binarySearchLine_spec (offs : Array Nat) (off k : Nat) (hk : SplitAt offs off k) :
    binarySearchLine offs off = if k = 0 then none else some (k - 1) := by
  unfold binarySearchLine
  by_cases h0 : offs.size = 0
  · rw [if_pos (by simp [h0]), if_pos (by have := hk.1; omega)]
  · have hlt := hk.lt_iff (Nat.pos_of_ne_zero h0)
    by_cases hk0 : 0 < k
    · rw [if_neg (by simpa [h0] using hlt.2 hk0)]
      exact binarySearchLoop_spec offs off k hk _ 0 _ none (Nat.zero_le k) (by have := hk.1; omega) (by omega)
        rfl (by omega)
    · rw [if_pos (by simpa [h0] using mt hlt.1 hk0), if_pos (by omega)]

/-- `newline_get_position` in terms of the split point -/
theorem linePos_spec (offs : Array Nat) (off k : Nat) (hk : SplitAt offs off k) :
    linePos offs off = if k = 0 then (1, off + 1) else (k + 1, off - (offs.getD (k - 1) 0 + 1) + 1) := by
  unfold linePos
  rw [binarySearchLine_spec offs off k hk]
  by_cases h : k = 0
  · simp [h]
  · simp only [h, ↓reduceIte]
    have : k - 1 + 2 = k + 1 := by omega
    simp [this]

theorem mem_lfPositionsScalar (i : Nat) (s : Bytes) (p : Nat) :
    p ∈ lfPositionsScalar i s ↔ i ≤ p ∧ s[p - i]? = some 0x0A := by
  have key : ∀ {a : UInt8} {k : Nat}, i ≤ k → ((a, k) ∈ s.zipIdx i ↔ s[k - i]? = some a) := fun h => by
    rw [← List.mk_add_mem_zipIdx_iff_getElem? (k := i), Nat.add_sub_cancel' h]
  rw [lfPositionsScalar_eq, List.mem_map]
  constructor
  · rintro ⟨⟨a, k⟩, hm, rfl⟩
    obtain ⟨hmem, ha⟩ := List.mem_filter.mp hm
    have hk := List.le_snd_of_mem_zipIdx hmem
    exact ⟨hk, eq_of_beq ha ▸ (key hk).mp hmem⟩
  · rintro ⟨h1, h2⟩
    exact ⟨(0x0A, p), List.mem_filter.mpr ⟨(key h1).mpr h2, beq_self_eq_true _⟩, rfl⟩

theorem lfPositionsScalar_sorted (i : Nat) (s : Bytes) : (lfPositionsScalar i s).Pairwise (· < ·) := by
  rw [lfPositionsScalar_eq]
  refine List.Pairwise.sublist (List.filter_sublist.map _) ?_
  rw [List.zipIdx_map_snd]
  exact List.pairwise_lt_range' 1

theorem sorted_split (off : Nat) : ∀ (l : List Nat), l.Pairwise (· < ·) →
    ∃ t, l = l.filter (· < off) ++ t ∧ ∀ y ∈ t, off ≤ y
  | [], _ => ⟨[], rfl, nofun⟩
  | x :: xs, h => by
    rw [List.pairwise_cons] at h
    by_cases hx : x < off
    · obtain ⟨t, e, ht⟩ := sorted_split off xs h.2
      exact ⟨t, by rw [List.filter_cons_of_pos (by simpa using hx), List.cons_append, ← e], ht⟩
    · have hall : ∀ y ∈ x :: xs, off ≤ y := by
        intro y hy
        rcases List.mem_cons.mp hy with rfl | hy
        · exact Nat.le_of_not_lt hx
        · have := h.1 y hy; omega
      refine ⟨x :: xs, ?_, hall⟩
      rw [List.filter_eq_nil_iff.mpr fun y hy => by have := hall y hy; simp; omega]
      rfl

theorem splitAt_append (a t : List Nat) (off : Nat) (ha : ∀ y ∈ a, y < off) (ht : ∀ y ∈ t, off ≤ y) :
    SplitAt (a ++ t).toArray off a.length := by
  refine ⟨by simp, fun i hi => ?_, fun i hki hil => ?_⟩
  · have : (a ++ t).toArray.getD i 0 = a[i] := by simp [Array.getD, hi, List.getElem_append_left, Nat.lt_add_right]
    rw [this]; exact ha _ (List.getElem_mem hi)
  · have hil' : i < (a ++ t).length := by simpa using hil
    rw [List.length_append] at hil'
    have hit : i - a.length < t.length := by omega
    have : (a ++ t).toArray.getD i 0 = t[i - a.length] := by
      simp [Array.getD, hil', List.getElem_append_right hki]
    rw [this]; exact ht _ (List.getElem_mem hit)

/-- C11: line and column as `newline_get_position` reports them, against their specification -/
theorem linePos_eq_spec (s : Bytes) (off : Nat) :
    linePos (lfPositions s).toArray off = linePosSpec s off := by
  rw [lfPositions_eq]
  unfold linePosSpec
  dsimp only
  obtain ⟨t, e, ht⟩ := sorted_split off _ (lfPositionsScalar_sorted 0 s)
  have ha : ∀ y ∈ (lfPositionsScalar 0 s).filter (· < off), y < off :=
    fun y hy => by simpa using (List.mem_filter.mp hy).2
  generalize (lfPositionsScalar 0 s).filter (· < off) = before at e ha
  rw [e, linePos_spec _ off _ (splitAt_append before t off ha ht)]
  cases hbl : before.getLast? with
  | none => rw [List.getLast?_eq_none_iff.mp hbl]; rfl
  | some p =>
    have hk : before.length ≠ 0 := fun h => by rw [List.length_eq_zero_iff.mp h] at hbl; cases hbl
    have hp : p < off := ha p (List.mem_of_getLast? hbl)
    -- the last entry below `off` sits at index `before.length - 1` of the whole index
    have hidx : (before ++ t).toArray.getD (before.length - 1) 0 = p := by
      have hlt : before.length - 1 < before.length := by omega
      rw [List.getLast?_eq_getElem?, List.getElem?_eq_getElem hlt, Option.some.injEq] at hbl
      simp [Array.getD, Nat.lt_add_right, hlt, List.getElem_append_left, hbl]
    rw [if_neg hk, hidx]
    show (before.length + 1, off - (p + 1) + 1) = (before.length + 1, off - p)
    rw [show off - (p + 1) + 1 = off - p by omega]

end Edn.Proofs
