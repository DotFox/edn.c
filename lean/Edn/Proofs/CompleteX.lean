/-
  The converse of `Edn.Proofs.SoundX` (`formX_is_read`): every form of `Edn.Spec.GrammarX` is read, by
  recursion over its derivation.  Neither direction needs the other; `Edn.Proofs.Sound` composes them.
-/
import Edn.Proofs.GrammarXBase
import Edn.Proofs.CharSound

namespace Edn.Proofs.CmplX
open Edn.Model Edn.Spec Edn.Generated Edn.Proofs Edn.Proofs.Cmpl Edn.Proofs.SndX

abbrev ReadsX (cfg : Cfg) (opts : Opts) (d : Nat) (a : Val) (tok rest : Bytes) : Prop :=
  ReadsAs { cfg := cfg, opts := opts } d (stripM · = a) tok rest

theorem numStart_not_preWs {c : UInt8} {P : Prop}
    (hc : is09 c = true ∨ ((c = 0x2B ∨ c = 0x2D) ∧ P)) : isPreWs c = false := by
  rcases hc with hc | ⟨hc, _⟩
  · exact (CNum.is09_props hc).2.2.2.2.2 -- the conjunct `isPreWs c = false`
  · rcases hc with rfl | rfl <;> decide +kernel

theorem readValue_numStart (ctx : Ctx) (f d : Nat) (dm : Bool) (c : UInt8) (t : Bytes) (cl : List Call)
    (hc : is09 c = true ∨ ((c = 0x2B ∨ c = 0x2D) ∧ ∃ nx t', t = nx :: t' ∧ is09 nx = true)) :
    readValue ctx (f + 1) d dm { rest := c :: t, calls := cl } = readNumberRes ctx { rest := c :: t, calls := cl } := by
  rw [readValue_at ctx f d dm c t cl (numStart_not_preWs hc)]
  unfold route
  rcases hc with hc | ⟨hc, nx, t', rfl, hnx⟩
  · simp only [CNum.dispatch_of_digit ctx.cfg hc]
    rfl
  · simp only [dispatch_of_sign ctx.cfg hc, hnx, ↓reduceIte]
    rfl

theorem readsX_number {cfg : Cfg} {N : NumJ} (hN : NumExact cfg N) (opts : Opts) (d : Nat) (tok rest : Bytes) (v : NumVal)
    (hs : NumStart (tok ++ rest)) (hn : N tok v rest) : ReadsX cfg opts d (numToVal hdr0 v) tok rest := by
  refine .of_run fun dm cl => ⟨1, ?_⟩
  have hread : readNumber cfg (tok ++ rest) = .ok v rest := (hN (tok ++ rest) rest v hs).mpr ⟨tok, rfl, hn⟩
  obtain ⟨c, t, hct, hc⟩ := hs
  rw [hct] at hread ⊢
  refine ⟨numToVal (mkHdr (Ctx.pos { cfg := cfg, opts := opts } (c :: t))
        (Ctx.pos { cfg := cfg, opts := opts } rest)) v, ?_, stripM_numToVal _ v⟩
  rw [readValue_numStart _ 0 d dm c t cl hc]
  unfold readNumberRes
  simp only [hread]

theorem readValue_identX (ctx : Ctx) (f d : Nat) (dm : Bool) (tok rest : Bytes) (cl : List Call)
    (hne : tok ≠ []) (hnd : ∀ c ∈ tok, isDelim c = false) (hs : IdentStartX ctx.cfg tok) (hr : DelimStart rest) :
    readValue ctx (f + 1) d dm { rest := tok ++ rest, calls := cl } =
      readIdentifier ctx { rest := tok ++ rest, calls := cl } := by
  cases tok with
  | nil => exact absurd rfl hne
  | cons c t =>
    obtain ⟨hdig, hsign⟩ := hs.1 c t rfl
    have hdc : isDelim c = false := hnd c (by simp)
    have hpw : isPreWs c = false := by
      cases hp : isPreWs c with
      | false => rfl
      | true =>
        rw [isPreWs_iff] at hp
        rw [(ws_or_semi_term hp).2] at hdc
        cases hdc
    have h09 : is09 c = false := by
      rw [← is09_iff] at hdig
      simpa using hdig
    rw [List.cons_append, readValue_at ctx f d dm c _ cl hpw]
    unfold route
    simp only []
    rcases nondelim_dispX (cfg := ctx.cfg) hdc with hd | hd | hd | hd
    · simp only [hd]
      rfl
    · simp only [hd]
      have hsg : c = 0x2B ∨ c = 0x2D := by simpa using dispatch_sign hd
      cases t with
      | nil =>
        rcases hr with rfl | ⟨e, u, rfl, he⟩
        · rfl
        · simp only [List.nil_append, delim_not09 he, Bool.false_eq_true, if_false]
          rfl
      | cons e u =>
        have h9 : is09 e = false := by
          have := hsign hsg e u rfl
          rw [← is09_iff] at this
          simpa using this
        simp only [List.cons_append, h9, Bool.false_eq_true, if_false]
        rfl
    · rw [dispatch_digit hd] at h09
      cases h09
    · obtain ⟨hclj, hc⟩ := (dispX_metadata_iff c).mp hd
      exact absurd (by rw [hc]; rfl) (hs.2 hclj)

theorem readsX_ident (cfg : Cfg) (opts : Opts) (d : Nat) (tok rest : Bytes) (a : Val) (hl : IdentLex tok) (hs : IdentStartX cfg tok)
    (hd : IdentDenotes tok a) (ht : DelimStart rest) : ReadsX cfg opts d a tok rest := by
  refine .of_run fun dm cl => ⟨1, ?_⟩
  rw [readValue_identX { cfg := cfg, opts := opts } 0 d dm tok rest cl hl.1 hl.2.1 hs ht]
  obtain ⟨v, hv, hsv⟩ := readIdentifier_complete { cfg := cfg, opts := opts } tok rest cl a hl ht hd
  exact ⟨v, hv, by rw [readIdentifier_stripM _ _ _ v hv, hsv]⟩

theorem readsX_str {cfg : Cfg} {S : StrJ} (hS : StrExact cfg S) (opts : Opts) (d : Nat) (tok rest data : Bytes) (esc : Bool)
    (hq : (tok ++ rest).head? = some 0x22) (hs : S tok data esc rest) :
    ReadsX cfg opts d (.str hdr0 data esc) tok rest := by
  refine .of_run fun dm cl => ⟨1, ?_⟩
  obtain ⟨h, hr⟩ := (hS { cfg := cfg, opts := opts } rfl (tok ++ rest) rest cl data esc hq).mpr ⟨tok, rfl, hs⟩
  cases hts : tok ++ rest with
  | nil => rw [hts] at hq; cases hq
  | cons c t =>
    rw [hts] at hq hr
    simp only [List.head?_cons, Option.some.injEq] at hq
    subst hq
    rw [readValue_quote, hr]
    exact ⟨_, rfl, rfl⟩

theorem readsX_char (cfg : Cfg) (opts : Opts) (d : Nat) (body rest : Bytes) (cp : Nat) (h : CharTokX cfg body cp)
    (hcp : cp ≤ 0x10FFFF) (hr : DelimStart rest) : ReadsX cfg opts d (.char hdr0 cp) (0x5C :: body) rest := by
  refine .of_run fun dm cl => ⟨1, ?_⟩
  rw [List.cons_append, readValue_backslash, readCharacter_complete { cfg := cfg, opts := opts } 0x5C body rest cl cp h hcp hr]
  exact ⟨_, rfl, rfl⟩

theorem readsX_symbolic (cfg : Cfg) (opts : Opts) (d : Nat) (tok rest : Bytes) (bits : UInt64) (h : SymbolicTok tok bits) :
    ReadsX cfg opts d (.float hdr0 bits) tok rest := by
  refine .of_run fun dm cl => ⟨1, ?_⟩
  obtain ⟨kw, rfl, hn⟩ := Snd.symbolicTok_iff.mp h
  rw [List.cons_append, List.cons_append, Snd.readValue_hashhash]
  exact ⟨_, (readSymbolic_ok_iff ..).mpr ⟨kw, bits, rest, hn, rfl, rfl, rfl⟩, rfl⟩

/-- in every context, the body of a collection in front of `after` (the closing delimiter and what follows)
    is read as values whose contents, metadata included, are `xs`.  `Cmpl.SeqGoal` and `Snd.SeqL` have the
    same shape for contents without metadata (`stripL`). -/
def SeqRX (cfg : Cfg) (opts : Opts) (d : Nat) (xs : List Val) (body after : Bytes) : Prop :=
  ∀ (dm : Bool) (cl : List Call), ∃ ws, stripML ws = xs ∧
    ReadsSeq { cfg := cfg, opts := opts } d dm { rest := body ++ after, calls := cl } ws { rest := after, calls := cl }

theorem trailRX_blank (cfg : Cfg) (opts : Opts) (d : Nat) (tr : Bytes) (c : UInt8) (rest : Bytes) (ht : Blank tr) (hc : IsCloser c) :
    TrailRX cfg opts d tr (c :: rest) := fun dm cl =>
  Evals.blank ht (.intro 0 fun f _ => closer_inside _ f d dm c rest cl hc)

theorem trailRX_discard (cfg : Cfg) (opts : Opts) (d : Nat) (b : Val) (tr tok tr' after : Bytes)
    (hd : d + 1 < Tables.maxNestingDepth) (ht : Blank tr)
    (hdisc : ReadsX cfg opts (d + 2) b tok (tr' ++ after)) (h : TrailRX cfg opts d tr' after) :
    TrailRX cfg opts d (tr ++ 0x23 :: 0x5F :: (tok ++ tr')) after := by
  intro dm cl
  obtain ⟨w, -, hw⟩ := hdisc true cl
  have e : (tr ++ 0x23 :: 0x5F :: (tok ++ tr')) ++ after = tr ++ (0x23 :: 0x5F :: (tok ++ (tr' ++ after))) := by simp
  rw [e]
  exact Evals.blank ht (Evals.discard hd hw (h dm cl))

theorem seqRX_nil (cfg : Cfg) (opts : Opts) (d : Nat) (tr after : Bytes) (h : TrailRX cfg opts d tr after) :
    SeqRX cfg opts d [] tr after := by
  intro dm cl
  exact ⟨[], stripML_nil, .done _ _ (h dm cl)⟩

theorem seqRX_cons (cfg : Cfg) (opts : Opts) (d : Nat) (a : Val) (xs : List Val) (tok body after : Bytes)
    (h : ReadsX cfg opts (d + 1) a tok (body ++ after)) (hr : SeqRX cfg opts d xs body after) :
    SeqRX cfg opts d (a :: xs) (tok ++ body) after := by
  intro dm cl
  obtain ⟨ws, hws, h1⟩ := hr dm cl
  obtain ⟨v, hs, hv⟩ := ReadsSeq.cons_of_readsAs h dm cl h1
  exact ⟨v :: ws, by rw [stripML_cons, hs, hws], by rw [List.append_assoc]; exact hv⟩

theorem readsX_list (cfg : Cfg) (opts : Opts) (d : Nat) (xs : List Val) (body rest : Bytes)
    (hd : d < Tables.maxNestingDepth) (h : SeqRX cfg opts d xs body (0x29 :: rest)) :
    ReadsX cfg opts d (.list hdr0 none xs) (0x28 :: (body ++ [0x29])) rest := by
  intro dm cl
  obtain ⟨ws, hws, hr⟩ := h dm cl
  exact ⟨_, by simp only [stripM, stripMO_none]; rw [hws], opener_append .. ▸ readValue_list_of_body hd hr⟩

theorem readsX_vec (cfg : Cfg) (opts : Opts) (d : Nat) (xs : List Val) (body rest : Bytes)
    (hd : d < Tables.maxNestingDepth) (h : SeqRX cfg opts d xs body (0x5D :: rest)) :
    ReadsX cfg opts d (.vec hdr0 none xs) (0x5B :: (body ++ [0x5D])) rest := by
  intro dm cl
  obtain ⟨ws, hws, hr⟩ := h dm cl
  exact ⟨_, by simp only [stripM, stripMO_none]; rw [hws], opener_append .. ▸ readValue_vec_of_body hd hr⟩

theorem readsX_set (cfg : Cfg) (opts : Opts) (hreg : opts.registry = none) (d : Nat) (xs : List Val) (body rest : Bytes)
    (hd : d < Tables.maxNestingDepth) (h : SeqRX cfg opts d xs body (0x7D :: rest)) (hpd : pairwiseDistinct cfg xs) :
    ReadsX cfg opts d (.set hdr0 none xs) (0x23 :: 0x7B :: (body ++ [0x7D])) rest := by
  intro dm cl
  obtain ⟨ws, hws, hr⟩ := h dm cl
  have e : (0x23 :: 0x7B :: (body ++ [0x7D])) ++ rest = 0x23 :: 0x7B :: (body ++ 0x7D :: rest) := by simp
  exact ⟨_, by simp only [stripM, stripMO_none]; rw [stripML_hasDuplicates, hws],
    e ▸ readValue_set_of_body (ctx := { cfg := cfg, opts := opts }) hreg hd hr ((pairwiseDistinct_stripML cfg ws).mp (hws ▸ hpd))⟩

theorem readMap_body (cfg : Cfg) (opts : Opts) (hreg : opts.registry = none) (d : Nat) (ns : Option Bytes)
    (ks vs : List Val) (body rest : Bytes) (start : Nat)
    (hd : d < Tables.maxNestingDepth) (h : SeqRX cfg opts d (interleaveKV ks vs) body (0x7D :: rest))
    (hl : ks.length = vs.length) (hpd : pairwiseDistinct cfg (qualC ns ks)) (dm : Bool) (cl : List Call) :
    ∃ v, stripM v = .map hdr0 none (qualC ns ks) vs ∧
      Evals { cfg := cfg, opts := opts } (.m d dm start ns { rest := body ++ 0x7D :: rest, calls := cl } [] [])
        (.ok v { rest := rest, calls := cl }) := by
  obtain ⟨ws, hws, hr⟩ := h dm cl
  rw [stripML_eq_map] at hws
  obtain ⟨ks', vs', rfl, hk, hv, hl'⟩ := interleave_split stripM ks vs hl ws hws
  rw [← stripML_eq_map] at hk hv
  -- the keys satisfy the reader invariant as they were read, and so do the qualified keys
  have helq : Elems cfg (ks'.map (qualifyNs ns)) := by
    intro x hx
    obtain ⟨k, hkm, rfl⟩ := List.mem_map.mp hx
    exact AllocSim.El_of_VOK (VOK_qualifyNs ns (by omega) (hr.vok hreg hd k (mem_interleave_left ks' vs' hl' k hkm)))
  have hpw : pairwiseDistinct cfg (ks'.map (qualifyNs ns)) := by
    rw [← pairwiseDistinct_stripML, ← qualC_stripML, hk]; exact hpd
  exact ⟨_, by simp only [stripM, stripMO_none]; rw [stripML_hasDuplicates, ← qualC_stripML, hk, hv],
    readMap_of_body (ctx := { cfg := cfg, opts := opts }) start ns ks' vs' hl' hr helq hpw⟩

theorem readsX_map (cfg : Cfg) (opts : Opts) (hreg : opts.registry = none) (d : Nat) (ks vs : List Val) (body rest : Bytes)
    (hd : d < Tables.maxNestingDepth) (h : SeqRX cfg opts d (interleaveKV ks vs) body (0x7D :: rest))
    (hl : ks.length = vs.length) (hpd : pairwiseDistinct cfg ks) :
    ReadsX cfg opts d (.map hdr0 none ks vs) (0x7B :: (body ++ [0x7D])) rest := by
  intro dm cl
  obtain ⟨v, hs, hv⟩ := readMap_body cfg opts hreg d none ks vs body rest _ hd h hl hpd dm cl
  refine ⟨v, hs, ?_⟩
  rw [opener_append]
  exact hv.of_eq fun f => readValue_mapOpen _ f d dm _ cl hd

theorem readsX_tagged (cfg : Cfg) (opts : Opts) (hreg : opts.registry = none) (d : Nat) (tag : Bytes) (ns : Option Bytes) (nm : Bytes)
    (a : Val) (tok rest : Bytes) (hd : d < Tables.maxNestingDepth)
    (hl : IdentLex tag) (hden : IdentDenotes tag (.sym hdr0 none ns nm)) (hu : tag.head? ≠ some 0x5F)
    (hsep : ∃ c t, tok = c :: t ∧ isDelim c = true) (h : ReadsX cfg opts (d + 1) a tok rest) :
    ReadsX cfg opts d (.tagged hdr0 none tag a) (0x23 :: (tag ++ tok)) rest := by
  intro dm cl
  obtain ⟨c, t, rfl, hcd⟩ := hsep
  obtain ⟨v, hs, hv⟩ := h dm cl
  have := evals_tag hd hl hden hu (.inr ⟨c, t ++ rest, rfl, hcd⟩) hv fun _ _ _ _ _ _ hs hc hid hv => .tOk hs hc hid hv
  rw [tagOut_none hreg, slice_append] at this
  have e : (0x23 :: (tag ++ c :: t)) ++ rest = 0x23 :: (tag ++ c :: (t ++ rest)) := by simp
  exact ⟨_, by simp only [stripM, stripMO_none]; rw [hs], e ▸ this⟩

theorem metaEntries_of_C {m : Val} {nks nvs : List Val} (h : metaEntriesC (stripM m) = some (nks, nvs)) :
    ∃ nks' nvs', metaEntries m = some (nks', nvs') ∧ stripML nks' = nks ∧ stripML nvs' = nvs := by
  rw [metaEntriesC_stripM] at h
  cases hme : metaEntries m with
  | none => rw [hme] at h; cases h
  | some p =>
    obtain ⟨a, b⟩ := p
    rw [hme] at h
    simp only [Option.map_some, Option.some.injEq, Prod.mk.injEq] at h
    exact ⟨a, b, rfl, h.1, h.2⟩

theorem readsX_meta (cfg : Cfg) (opts : Opts)
    (hreg : opts.registry = none) (hclj : cfg.clj = true) (d : Nat) (am af : Val) (nks nvs : List Val) (tokm tokf rest : Bytes)
    (hd : d < Tables.maxNestingDepth)
    (hm : ReadsX cfg opts (d + 1) am tokm (tokf ++ rest)) (he : metaEntriesC am = some (nks, nvs))
    (hf : ReadsX cfg opts (d + 1) af tokf rest) (ht : af.metaTarget = true) :
    ReadsX cfg opts d (attachMetaC cfg af nks nvs) (0x5E :: (tokm ++ tokf)) rest := by
  intro dm cl
  obtain ⟨m, rfl, hmr⟩ := hm dm cl
  obtain ⟨form, rfl, hfr⟩ := hf dm cl
  obtain ⟨nks', nvs', hme, hk, hv⟩ := metaEntries_of_C he
  have hmt : form.metaTarget = true := by rw [← metaTarget_stripM]; exact ht
  have hn : Elems cfg nks' :=
    AllocSim.El_metaEntries (readValue_inv { cfg := cfg, opts := opts } hreg _ (d + 1) dm _ _ m (by omega) (hmr _ (Nat.le_refl _))) hme
  have hmd : AllocSim.MdOK cfg form :=
    readValue_mdOK { cfg := cfg, opts := opts } hreg _ (d + 1) dm _ _ form (by omega) (hfr _ (Nat.le_refl _))
  have hE := evals_meta hclj hd (hmr.rule₂ hfr fun _ a b => .meOk a hme b hmt)
  have e : (0x5E :: (tokm ++ tokf)) ++ rest = 0x5E :: (tokm ++ (tokf ++ rest)) := by simp
  exact ⟨_, (stripM_setHdr _ _).trans (by rw [stripM_attachMeta cfg m form nks' nvs' hn hmd, hk, hv]), e ▸ hE⟩

theorem readsX_nsmap (cfg : Cfg) (opts : Opts) (hreg : opts.registry = none) (hclj : cfg.clj = true) (d : Nat)
    (name tr body rest : Bytes) (ks vs : List Val) (hd : d < Tables.maxNestingDepth)
    (hl : IdentLex (0x3A :: name)) (hden : IdentDenotes (0x3A :: name) (.kw hdr0 none name)) (ht : Blank tr)
    (h : SeqRX cfg opts d (interleaveKV ks vs) body (0x7D :: rest)) (hlen : ks.length = vs.length)
    (hpd : pairwiseDistinct cfg (qualifyKeysC name ks)) :
    ReadsX cfg opts d (.map hdr0 none (qualifyKeysC name ks) vs)
      (0x23 :: 0x3A :: (name ++ (tr ++ 0x7B :: (body ++ [0x7D])))) rest := by
  intro dm cl
  have e : (0x23 :: 0x3A :: (name ++ (tr ++ 0x7B :: (body ++ [0x7D])))) ++ rest =
      0x23 :: 0x3A :: (name ++ (tr ++ 0x7B :: (body ++ 0x7D :: rest))) := by simp
  obtain ⟨_, hk⟩ := evals_kwPrefix { cfg := cfg, opts := opts } d dm cl hl hden
    (delimStart_blank_brace ht (body ++ 0x7D :: rest))
  obtain ⟨v, hs, hv⟩ := readMap_body cfg opts hreg d (some name) ks vs body rest
    ((name ++ (tr ++ 0x7B :: (body ++ 0x7D :: rest))).length + 2) hd h hlen hpd dm cl
  refine ⟨v, hs, ?_⟩
  rw [e]
  exact evals_ns hclj hd (hk.rule₂ hv fun _ h1 h2 => .nNext h1 (skipWs_blank_brace ht _) h2)

end Edn.Proofs.CmplX

namespace Edn.Proofs
open Edn.Model Edn.Spec

section
variable {cfg : Cfg} {N : NumJ} {S : StrJ}

theorem depth_below {d k M : Nat} (h : d + (k + 1) ≤ M) : d < M ∧ d + 1 + k ≤ M := by omega

theorem readsX_all (opts : Opts) (hreg : opts.registry = none) (hN : NumExact cfg N) (hS : StrExact cfg S) :
    (∀ {k a tok rest}, FormX cfg N S k a tok rest →
      ∀ d, d + k ≤ Edn.Generated.Tables.maxNestingDepth → CmplX.ReadsX cfg opts d a tok rest) ∧
    (∀ {k xs body after}, FormSeqX cfg N S k xs body after → ∀ (c : UInt8) (rest : Bytes), after = c :: rest → Cmpl.IsCloser c →
      ∀ d, d + 1 + k ≤ Edn.Generated.Tables.maxNestingDepth → CmplX.SeqRX cfg opts d xs body after) ∧
    (∀ {k tr after}, TrailX cfg N S k tr after → ∀ (c : UInt8) (rest : Bytes), after = c :: rest → Cmpl.IsCloser c →
      ∀ d, d + 1 + k ≤ Edn.Generated.Tables.maxNestingDepth → CmplX.TrailRX cfg opts d tr after) := by
  apply SndX.formX_induct
  case blank => exact fun _ a tr tok rest ht ih d hd => (ih d hd).blank ht
  case discard =>
    exact fun _ a b tok1 tok2 rest ihd ih d hd =>
      Cmpl.ReadsAs.discard (depth_below hd).1 (ihd (d + 1) (depth_below hd).2) (ih d hd)
  case number => exact fun _ tok rest v hs hn d _ => CmplX.readsX_number hN opts d tok rest v hs hn
  case ident => exact fun _ tok rest a hl hs hden ht d _ => CmplX.readsX_ident cfg opts d tok rest a hl hs hden ht
  case str => exact fun _ tok rest data esc hq hs d _ => CmplX.readsX_str hS opts d tok rest data esc hq hs
  case char => exact fun _ body rest cp h hcp ht d _ => CmplX.readsX_char cfg opts d body rest cp h hcp ht
  case symbolic => exact fun _ tok rest bits h d _ => CmplX.readsX_symbolic cfg opts d tok rest bits h
  case list =>
    exact fun _ xs body rest ih d hd =>
      CmplX.readsX_list cfg opts d xs body rest (depth_below hd).1 (ih 0x29 rest rfl (.inl rfl) d (depth_below hd).2)
  case vec =>
    exact fun _ xs body rest ih d hd =>
      CmplX.readsX_vec cfg opts d xs body rest (depth_below hd).1 (ih 0x5D rest rfl (.inr (.inl rfl)) d (depth_below hd).2)
  case set =>
    exact fun _ xs body rest ih hpd d hd =>
      CmplX.readsX_set cfg opts hreg d xs body rest (depth_below hd).1
        (ih 0x7D rest rfl (.inr (.inr rfl)) d (depth_below hd).2) hpd
  case map =>
    exact fun _ ks vs body rest ih hl hpd d hd =>
      CmplX.readsX_map cfg opts hreg d ks vs body rest (depth_below hd).1
        (ih 0x7D rest rfl (.inr (.inr rfl)) d (depth_below hd).2) hl hpd
  case tagged =>
    exact fun _ tag ns nm a tok rest hl hden hu hsep ih d hd =>
      CmplX.readsX_tagged cfg opts hreg d tag ns nm a tok rest (depth_below hd).1 hl hden hu hsep
        (ih (d + 1) (depth_below hd).2)
  case withMeta =>
    exact fun _ am af nks nvs tokm tokf rest hc ihm he ihf ht d hd =>
      CmplX.readsX_meta cfg opts hreg hc d am af nks nvs tokm tokf rest (depth_below hd).1
        (ihm (d + 1) (depth_below hd).2) he (ihf (d + 1) (depth_below hd).2) ht
  case nsmap =>
    exact fun _ name tr body rest ks vs hc hl hden ht ih hlen hpd d hd =>
      CmplX.readsX_nsmap cfg opts hreg hc d name tr body rest ks vs (depth_below hd).1 hl hden ht
        (ih 0x7D rest rfl (.inr (.inr rfl)) d (depth_below hd).2) hlen hpd
  case nil => exact fun _ tr after ih c rest he hc d hd => CmplX.seqRX_nil cfg opts d tr after (ih c rest he hc d hd)
  case cons =>
    exact fun _ a xs tok body after ih ihr c rest he hc d hd =>
      CmplX.seqRX_cons cfg opts d a xs tok body after (ih (d + 1) hd) (ihr c rest he hc d hd)
  case trailBlank =>
    intro _ tr after ht c rest he hc d _
    subst he
    exact CmplX.trailRX_blank cfg opts d tr c rest ht hc
  case trailDiscard =>
    exact fun _ b tr tok tr' after ht ihd ihr c rest he hc d hd =>
      CmplX.trailRX_discard cfg opts d b tr tok tr' after (depth_below hd).1 ht (ihd (d + 2) (depth_below hd).2)
        (ihr c rest he hc d hd)

theorem formX_reads (opts : Opts) (hreg : opts.registry = none) (hN : NumExact cfg N) (hS : StrExact cfg S) :
    ∀ {k : Nat} {a : Val} {tok rest : Bytes}, FormX cfg N S k a tok rest →
      ∀ d, d + k ≤ Edn.Generated.Tables.maxNestingDepth → CmplX.ReadsX cfg opts d a tok rest :=
  (readsX_all opts hreg hN hS).1

theorem formSeqX_reads (opts : Opts) (hreg : opts.registry = none) (hN : NumExact cfg N) (hS : StrExact cfg S) :
    ∀ {k : Nat} {xs : List Val} {body after : Bytes}, FormSeqX cfg N S k xs body after →
      ∀ (c : UInt8) (rest : Bytes), after = c :: rest → Cmpl.IsCloser c →
      ∀ d, d + 1 + k ≤ Edn.Generated.Tables.maxNestingDepth → CmplX.SeqRX cfg opts d xs body after :=
  (readsX_all opts hreg hN hS).2.1

theorem trailX_reads (opts : Opts) (hreg : opts.registry = none) (hN : NumExact cfg N) (hS : StrExact cfg S) :
    ∀ {k : Nat} {tr after : Bytes}, TrailX cfg N S k tr after →
      ∀ (c : UInt8) (rest : Bytes), after = c :: rest → Cmpl.IsCloser c →
      ∀ d, d + 1 + k ≤ Edn.Generated.Tables.maxNestingDepth → CmplX.TrailRX cfg opts d tr after :=
  (readsX_all opts hreg hN hS).2.2

end

/-- **Completeness in every configuration**: a form whose nesting fits the limit is read, in every
    context (depth, discard mode, call log, sufficient fuel), as the value it denotes -/
theorem formX_is_read (cfg : Cfg) (opts : Opts) (hreg : opts.registry = none) (N : NumJ) (S : StrJ)
    (hN : NumExact cfg N) (hS : StrExact cfg S) (k : Nat) (a : Val) (tok rest : Bytes)
    (h : FormX cfg N S k a tok rest) (d : Nat) (hd : d + k ≤ Edn.Generated.Tables.maxNestingDepth) (dm : Bool) (cl : List Call) (f : Nat)
    (hf : 2 * (tok.length + rest.length) + 2 ≤ f) :
    ∃ v, readValue { cfg := cfg, opts := opts } f d dm { rest := tok ++ rest, calls := cl }
          = .ok v { rest := rest, calls := cl } ∧ stripM v = a :=
  (formX_reads opts hreg hN hS h d hd).run dm cl f hf

end Edn.Proofs
