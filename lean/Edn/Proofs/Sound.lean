/-
  Soundness (`SoundX`) and completeness (`CompleteX`) composed at top level, for every configuration
  (`read_iff_X`).  The reader of the core configuration accepts exactly the language of `Edn.Spec.Grammar`:
  first the grammar of all configurations specialised to the core one: with both flags off, core numbers and
  ordinary strings, `FormX Cfg.core coreNumJ rawStrJ` is `Form` (no metadata, no namespaced maps, the
  core character names; `formX_core_iff_form`).  The rest is the theorems of every configuration
  (`SoundX`, `CompleteX`) at `Cfg.core`, carried over by it; contents with metadata (`stripM`) and
  without (`strip`) agree on what this grammar names, because `strip` fixes it (`Snd.grammar_strip`).
-/
import Edn.Proofs.SoundX
import Edn.Proofs.CompleteX
import Edn.Proofs.NumberExact

namespace Edn.Proofs
open Edn.Model Edn.Spec

/-- top level, both directions, every configuration: `edn_read` (no registry) returns a tree with
    content `a` (metadata included) exactly when the input starts with a form of the grammar that
    denotes `a` and whose nesting is within the limit -/
theorem read_iff_X (cfg : Cfg) (opts : Opts) (hreg : opts.registry = none) (N : NumJ) (S : StrJ)
    (hN : NumExact cfg N) (hS : StrExact cfg S) (input : Bytes) (a : Val) :
    (∃ v, (read cfg opts input).out = .value v ∧ stripM v = a) ↔
    ∃ k tok rest, k ≤ Edn.Generated.Tables.maxNestingDepth ∧ input = tok ++ rest ∧ FormX cfg N S k a tok rest := by
  constructor
  · rintro ⟨v, h, rfl⟩
    obtain ⟨st, hr⟩ := read_out_value h
    obtain ⟨k, tok, hk, h1, -, h2⟩ := readValue_sound_X cfg opts hreg N S hN hS _ 0 false _ st v hr (Nat.zero_le _)
    exact ⟨k, tok, st.rest, by omega, h1, h2⟩
  · rintro ⟨k, tok, rest, hk, rfl, h⟩
    obtain ⟨v, hv, hs⟩ := formX_is_read cfg opts hreg N S hN hS k a tok rest h 0 (by omega) false [] (readFuel (tok ++ rest))
      (by simp only [readFuel, List.length_append]; omega)
    exact ⟨v, read_out_of_ok hv, hs⟩

theorem charTok_iff_X (body : Bytes) (cp : Nat) : CharTokX Cfg.core body cp ↔ CharTok body cp := by
  constructor
  · intro h
    cases h with
    | newline => exact .newline
    | ret => exact .ret
    | space => exact .space
    | tab => exact .tab
    | formfeed h => cases h
    | backspace h => cases h
    | octal h ds ho => cases h
    | unicode ds hd hl =>
      have hl4 : ds.length = 4 := by
        rcases hl with h | ⟨h, -⟩
        · exact h
        · cases h
      match ds, hl4 with
      | [a, b, c, d], _ =>
        have ha := hd a (by simp)
        have hb := hd b (by simp)
        have hc := hd c (by simp)
        have hd' := hd d (by simp)
        obtain ⟨w, hw⟩ := Option.isSome_iff_exists.mp ha
        obtain ⟨x, hx⟩ := Option.isSome_iff_exists.mp hb
        obtain ⟨y, hy⟩ := Option.isSome_iff_exists.mp hc
        obtain ⟨z, hz⟩ := Option.isSome_iff_exists.mp hd'
        rw [hexValue_four hw hx hy hz [], List.foldl_nil]
        refine .unicode a b c d _ ?_
        simp [hex4?, hw, hx, hy, hz]
    | single c hc => exact .single c hc
  · intro h
    cases h with
    | newline => exact .newline
    | ret => exact .ret
    | space => exact .space
    | tab => exact .tab
    | unicode a b c d cp hx =>
      obtain ⟨w, x, y, z, hw, hx', hy, hz, hv, _⟩ := hex4?_cons_some hx
      have := CharTokX.unicode (cfg := Cfg.core) [a, b, c, d] (by
        intro e he
        simp only [List.mem_cons, List.mem_nil_iff, or_false] at he
        rcases he with rfl | rfl | rfl | rfl <;> simp [hw, hx', hy, hz]) (.inl rfl)
      rwa [hexValue_four hw hx' hy hz [], List.foldl_nil, ← hv] at this
    | single c hc => exact .single c hc

theorem Snd.readCharacter_sound (ctx : Ctx) (hc : ctx.cfg = Cfg.core) (c : UInt8) (cs : Bytes) (cl : List Call) (v : Val) (st' : St)
    (h : readCharacter ctx { rest := c :: cs, calls := cl } = .ok v st') :
    ∃ body cp, cs = body ++ st'.rest ∧ st'.calls = cl ∧ CharTok body cp ∧ cp ≤ 0x10FFFF ∧ DelimStart st'.rest ∧
      strip v = .char hdr0 cp := by
  obtain ⟨c0, body, cp, hs, hcl, htok, hcp, hds, rfl⟩ := Edn.Proofs.readCharacter_sound ctx _ st' v h
  rw [hc] at htok
  exact ⟨body, cp, (List.cons.inj hs).2, hcl, (charTok_iff_X body cp).mp htok, hcp, hds, by simp only [strip]⟩

theorem core_to_form_all :
    (∀ {k a tok rest}, FormX Cfg.core coreNumJ rawStrJ k a tok rest → Form k a tok rest) ∧
    (∀ {k xs body after}, FormSeqX Cfg.core coreNumJ rawStrJ k xs body after → FormSeq k xs body after) ∧
    (∀ {k tr after}, TrailX Cfg.core coreNumJ rawStrJ k tr after → Trail k tr after) := by
  apply SndX.formX_induct
  case blank => exact fun k a tr tok rest ht ih => .blank k a tr tok rest ht ih
  case discard => exact fun k a b tok1 tok2 rest ihd ih => .discard k a b tok1 tok2 rest ihd ih
  case number => exact fun k tok rest v _ hn => .number k tok rest v hn.1 hn.2
  case ident => exact fun k tok rest a hl hs hd ht => .ident k tok rest a hl hs.1 hd ht
  case str =>
    rintro k tok rest data esc _ ⟨hraw, rfl, rfl⟩
    exact .str k data rest hraw
  case char => exact fun k body rest cp h hcp ht => .char k body rest cp ((charTok_iff_X body cp).mp h) hcp ht
  case symbolic => exact fun k tok rest bits h => .symbolic k tok rest bits h
  case list => exact fun k xs body rest ih => .list k xs body rest ih
  case vec => exact fun k xs body rest ih => .vec k xs body rest ih
  case set => exact fun k xs body rest ih hd => .set k xs body rest ih hd
  case map => exact fun k ks vs body rest ih hl hd => .map k ks vs body rest ih hl hd
  case tagged => exact fun k tag ns nm a tok rest hl hd hu hsep ih => .tagged k tag ns nm a tok rest hl hd hu hsep ih
  case withMeta => exact fun _ _ _ _ _ _ _ _ hc => nomatch hc
  case nsmap => exact fun _ _ _ _ _ _ _ hc => nomatch hc
  case nil => exact fun k tr after ih => .nil k tr after ih
  case cons => exact fun k a xs tok body after ih ihr => .cons k a xs tok body after ih ihr
  case trailBlank => exact fun k tr after ht => .blank k tr after ht
  case trailDiscard => exact fun k b tr tok tr' after ht ihd ihr => .discard k b tr tok tr' after ht ihd ihr

theorem formSeqX_core_to_form : ∀ {k : Nat} {xs : List Val} {body after : Bytes},
    FormSeqX Cfg.core coreNumJ rawStrJ k xs body after → FormSeq k xs body after :=
  core_to_form_all.2.1

theorem trailX_core_to_form : ∀ {k : Nat} {tr after : Bytes},
    TrailX Cfg.core coreNumJ rawStrJ k tr after → Trail k tr after :=
  core_to_form_all.2.2

theorem form_to_core_all :
    (∀ {k a tok rest}, Form k a tok rest → FormX Cfg.core coreNumJ rawStrJ k a tok rest) ∧
    (∀ {k xs body after}, FormSeq k xs body after → FormSeqX Cfg.core coreNumJ rawStrJ k xs body after) ∧
    (∀ {k tr after}, Trail k tr after → TrailX Cfg.core coreNumJ rawStrJ k tr after) := by
  refine (fun blank discard number ident str char symbolic list vec set map tagged nil cons trailBlank trailDiscard =>
    ⟨fun h => Form.rec (motive_1 := fun k a tok rest _ => FormX Cfg.core coreNumJ rawStrJ k a tok rest)
        (motive_2 := fun k xs body after _ => FormSeqX Cfg.core coreNumJ rawStrJ k xs body after)
        (motive_3 := fun k tr after _ => TrailX Cfg.core coreNumJ rawStrJ k tr after)
        blank discard number ident str char symbolic list vec set map tagged nil cons trailBlank trailDiscard h,
     fun h => FormSeq.rec (motive_1 := fun k a tok rest _ => FormX Cfg.core coreNumJ rawStrJ k a tok rest)
        (motive_2 := fun k xs body after _ => FormSeqX Cfg.core coreNumJ rawStrJ k xs body after)
        (motive_3 := fun k tr after _ => TrailX Cfg.core coreNumJ rawStrJ k tr after)
        blank discard number ident str char symbolic list vec set map tagged nil cons trailBlank trailDiscard h,
     fun h => Trail.rec (motive_1 := fun k a tok rest _ => FormX Cfg.core coreNumJ rawStrJ k a tok rest)
        (motive_2 := fun k xs body after _ => FormSeqX Cfg.core coreNumJ rawStrJ k xs body after)
        (motive_3 := fun k tr after _ => TrailX Cfg.core coreNumJ rawStrJ k tr after)
        blank discard number ident str char symbolic list vec set map tagged nil cons trailBlank trailDiscard h⟩)
    ?blank ?discard ?number ?ident ?str ?char ?symbolic ?list ?vec ?set ?map ?tagged ?nil ?cons ?trailBlank ?trailDiscard
  case blank => exact fun k a tr tok rest ht _ ih => .blank k a tr tok rest ht ih
  case discard => exact fun k a b tok1 tok2 rest _ _ ihd ih => .discard k a b tok1 tok2 rest ihd ih
  case number => exact fun k tok rest v hn ht => .number k tok rest v ((Snd.coreNum_first hn).append rest) ⟨hn, ht⟩
  case ident => exact fun k tok rest a hl hs hd ht => .ident k tok rest a hl ⟨hs, fun h => nomatch h⟩ hd ht
  case str => exact fun k sp rest h => .str k _ rest sp _ rfl ⟨h, rfl, rfl⟩
  case char => exact fun k body rest cp h hcp ht => .char k body rest cp ((charTok_iff_X body cp).mpr h) hcp ht
  case symbolic => exact fun k tok rest bits h => .symbolic k tok rest bits h
  case list => exact fun k xs body rest _ ih => .list k xs body rest ih
  case vec => exact fun k xs body rest _ ih => .vec k xs body rest ih
  case set => exact fun k xs body rest _ hd ih => .set k xs body rest ih hd
  case map => exact fun k ks vs body rest _ hl hd ih => .map k ks vs body rest ih hl hd
  case tagged => exact fun k tag ns nm a tok rest hl hd hu hsep _ ih => .tagged k tag ns nm a tok rest hl hd hu hsep ih
  case nil => exact fun k tr after _ ih => .nil k tr after ih
  case cons => exact fun k a xs tok body after _ _ ih ihr => .cons k a xs tok body after ih ihr
  case trailBlank => exact fun k tr after ht => .blank k tr after ht
  case trailDiscard => exact fun k b tr tok tr' after ht _ _ ihd ihr => .discard k b tr tok tr' after ht ihd ihr

theorem formSeq_to_formSeqX_core : ∀ {k : Nat} {xs : List Val} {body after : Bytes},
    FormSeq k xs body after → FormSeqX Cfg.core coreNumJ rawStrJ k xs body after :=
  form_to_core_all.2.1

theorem trail_to_trailX_core : ∀ {k : Nat} {tr after : Bytes},
    Trail k tr after → TrailX Cfg.core coreNumJ rawStrJ k tr after :=
  form_to_core_all.2.2

theorem formX_core_iff_form (k : Nat) (a : Val) (tok rest : Bytes) :
    FormX Cfg.core coreNumJ rawStrJ k a tok rest ↔ Form k a tok rest :=
  ⟨core_to_form_all.1, form_to_core_all.1⟩

namespace Snd
open Cmpl

theorem form_of_core {k : Nat} {v : Val} {tok rest : Bytes}
    (h : FormX Cfg.core coreNumJ rawStrJ k (stripM v) tok rest) : Form k (strip v) tok rest := by
  have hf := (formX_core_iff_form k _ tok rest).mp h
  rwa [← SndX.strip_stripM v, grammar_strip.1 hf]

theorem strip_of_stripM {k : Nat} {a v : Val} {tok rest : Bytes} (h : Form k a tok rest) (hs : stripM v = a) :
    strip v = a := by
  rw [← SndX.strip_stripM v, hs]
  exact grammar_strip.1 h

def SeqL (opts : Opts) (d : Nat) (xs : List Val) (body after : Bytes) : Prop :=
  ∀ (dm : Bool) (cl : List Call), ∃ ws, stripL ws = xs ∧
    ReadsSeq { cfg := Cfg.core, opts := opts } d dm { rest := body ++ after, calls := cl } ws { rest := after, calls := cl }

end Snd

/-- in every context (any fuel, discard mode, call log): at a depth within the limit, a returned
    value means that a form of the grammar was consumed, exactly its bytes, no handler call was
    recorded, the value's content is the form's, and the form's nesting fits the rest of the limit —
    exactly the hypothesis of the converse `Edn.Properties.C03.core_form_is_read` -/
theorem readValue_core_sound_fits (opts : Opts) (hreg : opts.registry = none) (f d : Nat) (dm : Bool) (st st' : St) (v : Val)
    (hd : d ≤ Edn.Generated.Tables.maxNestingDepth)
    (h : readValue { cfg := Cfg.core, opts := opts } f d dm st = .ok v st') :
    ∃ k tok, d + k ≤ Edn.Generated.Tables.maxNestingDepth ∧ st.rest = tok ++ st'.rest ∧ st'.calls = st.calls ∧
      Form k (strip v) tok st'.rest := by
  obtain ⟨k, tok, hk, h1, h2, h3⟩ :=
    readValue_sound_X Cfg.core opts hreg coreNumJ rawStrJ numExact_core (strExact_raw Cfg.core rfl) f d dm st st' v h hd
  exact ⟨k, tok, hk, h1, h2, Snd.form_of_core h3⟩

theorem readValue_core_closer (opts : Opts) (hreg : opts.registry = none) (f d : Nat) (dm : Bool) (st st' : St)
    (h : readValue { cfg := Cfg.core, opts := opts } f d dm st = .closer st') :
    ∃ k tr, st.rest = tr ++ st'.rest ∧ st'.calls = st.calls ∧ Trail k tr st'.rest ∧ 0 < d ∧
      ∃ c t, st'.rest = c :: t ∧ (c = 0x29 ∨ c = 0x5D ∨ c = 0x7D) := by
  obtain ⟨k, tr, h1, h2, h3, h4⟩ :=
    readValue_closer_X Cfg.core opts hreg coreNumJ rawStrJ numExact_core (strExact_raw Cfg.core rfl) f d dm st st' h
  exact ⟨k, tr, h1, h2, trailX_core_to_form h3, h4⟩

/-- top level: whatever `edn_read` accepts starts with a form of the grammar, whose content is
    the content of the returned tree -/
theorem read_core_sound (opts : Opts) (hreg : opts.registry = none) (input : Bytes) (v : Val)
    (h : (read Cfg.core opts input).out = .value v) :
    ∃ k tok rest, input = tok ++ rest ∧ Form k (strip v) tok rest := by
  obtain ⟨st, hr⟩ := read_out_value h
  obtain ⟨k, tok, -, h1, -, h2⟩ := readValue_core_sound_fits opts hreg _ 0 false _ st v (Nat.zero_le _) hr
  exact ⟨k, tok, st.rest, h1, h2⟩

theorem formSeq_reads (opts : Opts) (hreg : opts.registry = none) :
    ∀ {k : Nat} {xs : List Val} {body after : Bytes}, FormSeq k xs body after →
      ∀ (c : UInt8) (rest : Bytes), after = c :: rest → Cmpl.IsCloser c →
      ∀ d, d + 1 + k ≤ Edn.Generated.Tables.maxNestingDepth → Snd.SeqL opts d xs body after := by
  intro k xs body after h c rest he hc d hd dm cl
  obtain ⟨ws, hws, hr⟩ := formSeqX_reads opts hreg numExact_core (strExact_raw Cfg.core rfl)
    (formSeq_to_formSeqX_core h) c rest he hc d hd dm cl
  refine ⟨ws, ?_, hr⟩
  rw [← SndX.stripL_stripML ws, hws]
  exact Snd.grammar_strip.2.1 h

theorem trail_reads (opts : Opts) (hreg : opts.registry = none) :
    ∀ {k : Nat} {tr after : Bytes}, Trail k tr after →
      ∀ (c : UInt8) (rest : Bytes), after = c :: rest → Cmpl.IsCloser c →
      ∀ d, d + 1 + k ≤ Edn.Generated.Tables.maxNestingDepth → CmplX.TrailRX Cfg.core opts d tr after :=
  fun h c rest he hc d hd =>
    trailX_reads opts hreg numExact_core (strExact_raw Cfg.core rfl) (trail_to_trailX_core h) c rest he hc d hd

/-- top level, both directions: `edn_read` (core configuration, no registry) returns a tree with
    content `a` exactly when the input starts with a form of the liberal grammar that denotes `a`
    and whose nesting is within the limit -/
theorem read_core_iff (opts : Opts) (hreg : opts.registry = none) (input : Bytes) (a : Val) :
    (∃ v, (read Cfg.core opts input).out = .value v ∧ strip v = a) ↔
    ∃ k tok rest, k ≤ Edn.Generated.Tables.maxNestingDepth ∧ input = tok ++ rest ∧ Form k a tok rest := by
  have hX := read_iff_X Cfg.core opts hreg coreNumJ rawStrJ numExact_core (strExact_raw Cfg.core rfl) input
  constructor
  · rintro ⟨v, h, rfl⟩
    obtain ⟨k, tok, rest, hk, e, hf⟩ := (hX (stripM v)).mp ⟨v, h, rfl⟩
    exact ⟨k, tok, rest, hk, e, Snd.form_of_core hf⟩
  · rintro ⟨k, tok, rest, hk, e, h⟩
    obtain ⟨v, hv, hs⟩ := (hX a).mpr ⟨k, tok, rest, hk, e, (formX_core_iff_form k a tok rest).mpr h⟩
    exact ⟨v, hv, Snd.strip_of_stripM h hs⟩

theorem validSingleChar_core (c : UInt8) :
    isValidSingleChar Cfg.core c = true ↔ (c ≠ 0x09 ∧ c ≠ 0x0A ∧ c ≠ 0x0D ∧ c ≠ 0x20) :=
  (validSingleChar_iff Cfg.core c).trans
    ⟨fun ⟨h1, h2, h3, h4, _⟩ => ⟨h1, h2, h3, h4⟩,
      fun ⟨h1, h2, h3, h4⟩ => ⟨h1, h2, h3, h4, fun h => absurd h Bool.false_ne_true⟩⟩

end Edn.Proofs
