/-
  `stripM` (content of a tree with its metadata): its equations on lists and options, that it is transparent
  (`transp_stripM`: structural equality and the duplicate check do not see it) and idempotent, and how
  it commutes with `setHdr`, `setMd`, the metadata merge (`stripM_attachMeta`: `attachMeta` against the
  specification's `attachMetaC`) and key qualification (`stripM_qualifyKey`; `qualC`).  Last, induction over
  the three judgements of `Edn.Spec.GrammarX` at once (`formX_induct`).
-/
import Edn.Spec.GrammarX
import Edn.Proofs.MetaMerge
import Edn.Proofs.GrammarTok

namespace Edn.Proofs.SndX
open Edn.Model Edn.Spec Edn.Generated Edn.Proofs Edn.Proofs.Cmpl
open Edn.Proofs.AllocSim (MdOK MdOK_of_none MdOK_setHdr MdOK_attachMeta)

theorem stripML_nil : stripML [] = [] := by rw [stripML]
theorem stripML_cons (x : Val) (xs : List Val) : stripML (x :: xs) = stripM x :: stripML xs := by rw [stripML]
theorem stripMO_none : stripMO none = none := by rw [stripMO]
theorem stripMO_some (m : Val) : stripMO (some m) = some (stripM m) := by rw [stripMO]

theorem stripML_eq_map : ∀ xs : List Val, stripML xs = xs.map stripM := by
  intro xs
  induction xs with
  | nil => rw [stripML_nil]; rfl
  | cons x xs ih => rw [stripML_cons, ih]; rfl

theorem length_stripML (xs : List Val) : (stripML xs).length = xs.length := by
  rw [stripML_eq_map, List.length_map]

theorem stripML_append (xs ys : List Val) : stripML (xs ++ ys) = stripML xs ++ stripML ys := by
  rw [stripML_eq_map, stripML_eq_map, stripML_eq_map, List.map_append]

theorem stripML_reverse (xs : List Val) : stripML xs.reverse = (stripML xs).reverse := by
  rw [stripML_eq_map, stripML_eq_map, List.map_reverse]

theorem stripML_snoc (acc : List Val) (v : Val) (xs : List Val) :
    stripML (v :: acc).reverse ++ xs = stripML acc.reverse ++ stripM v :: xs := by
  rw [List.reverse_cons, stripML_append, stripML_cons, stripML_nil]
  simp

mutual
theorem strip_stripM (a : Val) : strip (stripM a) = strip a :=
  match a with
  | .list _ _ xs | .vec _ _ xs | .set _ _ xs => by simp only [stripM, strip, stripL_stripML xs]
  | .map _ _ ks vs => by simp only [stripM, strip, stripL_stripML ks, stripL_stripML vs]
  | .tagged _ _ _ v => by simp only [stripM, strip, strip_stripM v]
  | .nil _ | .bool .. | .int .. | .bigint .. | .float .. | .bigdec .. | .ratio .. | .bigratio .. | .char .. | .str ..
  | .sym .. | .kw .. | .ext .. => by simp only [stripM, strip]

theorem stripL_stripML (xs : List Val) : stripL (stripML xs) = stripL xs :=
  match xs with
  | [] => by rw [stripML_nil]
  | x :: xs => by rw [stripML_cons, stripL_cons, stripL_cons, strip_stripM x, stripL_stripML xs]
end

theorem transp_stripM : Transp stripM := by
  intro v
  cases v <;> try rfl
  all_goals simp only [stripM, view, stripML_eq_map, List.map_id]

theorem Eqv_stripM_left (cfg : Cfg) (a b : Val) : Eqv cfg (stripM a) b ↔ Eqv cfg a b :=
  transp_stripM.Eqv Transp.id cfg a b

theorem Eqv_stripM_right (cfg : Cfg) (a b : Val) : Eqv cfg a (stripM b) ↔ Eqv cfg a b :=
  Transp.id.Eqv transp_stripM cfg a b

theorem Eqv_stripM_iff (cfg : Cfg) (a b : Val) : Eqv cfg (stripM a) (stripM b) ↔ Eqv cfg a b :=
  transp_stripM.Eqv transp_stripM cfg a b

theorem pairwiseDistinct_stripML (cfg : Cfg) (xs : List Val) :
    pairwiseDistinct cfg (stripML xs) ↔ pairwiseDistinct cfg xs := by
  rw [stripML_eq_map]; exact transp_stripM.pairwiseDistinct cfg xs

theorem stripM_setHdr (v : Val) (h : Hdr) : stripM (v.setHdr h) = stripM v := by
  cases v <;> rfl

theorem stripM_numToVal (h : Hdr) (v : NumVal) : stripM (numToVal h v) = numToVal hdr0 v := by
  cases v <;> rfl

theorem md_stripM (v : Val) : (stripM v).md = stripMO v.md := by
  cases v <;> rfl

theorem metaTarget_stripM (v : Val) : (stripM v).metaTarget = v.metaTarget := by
  cases v <;> rfl

theorem stripM_setMd (v : Val) (m : Option Val) : stripM (v.setMd m) = (stripM v).setMd (stripMO m) := by
  cases v <;> rfl

theorem stripML_hasDuplicates (cfg : Cfg) (xs : List Val) :
    stripML (hasDuplicates cfg xs).2 = stripML xs := by
  rw [stripML_eq_map, stripML_eq_map]
  exact map_hasDuplicates stripM stripM_setHdr cfg xs

mutual
theorem stripM_idem (a : Val) : stripM (stripM a) = stripM a :=
  match a with
  | .sym _ md _ _ => by simp only [stripM, stripMO_idem md]
  | .list _ md xs | .vec _ md xs | .set _ md xs => by simp only [stripM, stripMO_idem md, stripML_idem xs]
  | .map _ md ks vs => by simp only [stripM, stripMO_idem md, stripML_idem ks, stripML_idem vs]
  | .tagged _ md _ v => by simp only [stripM, stripMO_idem md, stripM_idem v]
  | .nil _ | .bool .. | .int .. | .bigint .. | .float .. | .bigdec .. | .ratio .. | .bigratio .. | .char .. | .str ..
  | .kw .. | .ext .. => by simp only [stripM]

theorem stripML_idem (xs : List Val) : stripML (stripML xs) = stripML xs :=
  match xs with
  | [] => by simp only [stripML_nil]
  | x :: xs => by rw [stripML_cons, stripML_cons, stripM_idem x, stripML_idem xs]

theorem stripMO_idem (m : Option Val) : stripMO (stripMO m) = stripMO m :=
  match m with
  | none => by simp only [stripMO_none]
  | some x => by rw [stripMO_some, stripMO_some, stripM_idem x]
end

theorem metaEntriesC_stripM (m : Val) :
    metaEntriesC (stripM m) = (metaEntries m).map (fun p => (stripML p.1, stripML p.2)) := by
  cases m <;> rfl

theorem metaEntriesC_of_some {m : Val} {nks nvs : List Val} (h : metaEntries m = some (nks, nvs)) :
    metaEntriesC (stripM m) = some (stripML nks, stripML nvs) := by
  rw [metaEntriesC_stripM, h]; rfl

theorem metaEntriesC_of_none {m : Val} (h : metaEntries m = none) : metaEntriesC (stripM m) = none := by
  rw [metaEntriesC_stripM, h]; rfl

theorem keepOldC_cons (cfg : Cfg) (newKs : List Val) (k v : Val) (ks vs : List Val) :
    keepOldC cfg newKs (k :: ks) (v :: vs) =
      if newKs.any (fun nk => decide (Eqv cfg k nk)) then keepOldC cfg newKs ks vs
      else (k :: (keepOldC cfg newKs ks vs).1, v :: (keepOldC cfg newKs ks vs).2) := by
  rw [keepOldC]

theorem keepOldC_nil_left (cfg : Cfg) (newKs vs : List Val) : keepOldC cfg newKs [] vs = ([], []) := by
  rw [keepOldC]; intros; contradiction

theorem keepOldC_nil_right (cfg : Cfg) (newKs ks : List Val) : keepOldC cfg newKs ks [] = ([], []) := by
  rw [keepOldC]; intros; contradiction

theorem keepOldC_eq_keepBy (cfg : Cfg) (nks : List Val) : ∀ (ks vs : List Val),
    keepOldC cfg nks ks vs = keepBy (fun k => nks.any fun nk => decide (Eqv cfg k nk)) ks vs
  | [], _ => by rw [keepOldC_nil_left, keepBy]; intros; contradiction
  | _ :: _, [] => by rw [keepOldC_nil_right, keepBy]; intros; contradiction
  | k :: ks, v :: vs => by rw [keepOldC_cons, keepBy, keepOldC_eq_keepBy cfg nks ks vs]

/-- on operands of the equality theorems the model's test on a key and the specification's test
    on its content agree -/
theorem keepOld_stripM (cfg : Cfg) (nks : List Val) (hn : Elems cfg nks) (ks vs : List Val) (ho : Elems cfg ks) :
    keepOldC cfg (stripML nks) (stripML ks) (stripML vs) =
      (stripML (keepOld cfg nks ks vs).1, stripML (keepOld cfg nks ks vs).2) := by
  rw [keepOldC_eq_keepBy, keepOld_eq_keepBy]
  simp only [stripML_eq_map]
  refine keepBy_map stripM ks vs fun k hk => ?_
  rw [List.any_map]
  refine any_congr_mem nks fun nk hnk => Bool.eq_iff_iff.mpr ?_
  rw [ho.equal_iff hn hk hnk, Function.comp_apply, decide_eq_true_iff, Eqv_stripM_iff]

theorem stripM_attachMeta (cfg : Cfg) (m form : Val) (nks nvs : List Val) (hn : Elems cfg nks) (ho : MdOK cfg form) :
    stripM (attachMeta cfg m form nks nvs) = attachMetaC cfg (stripM form) (stripML nks) (stripML nvs) := by
  unfold attachMeta attachMetaC
  rw [md_stripM]
  cases hmd : form.md with
  | none =>
    simp only [stripMO_none]
    rw [stripM_setMd, stripMO_some]
    simp only [stripM, stripMO_none]
  | some x =>
    rw [stripMO_some]
    cases x <;> simp only [stripM] <;> try (rw [stripM_setMd, stripMO_some]; simp only [stripM, stripMO_none])
    case map h md ks vs =>
      have hks := ho h md ks vs hmd
      rw [keepOld_stripM cfg nks hn ks vs hks]
      simp only [stripML_append]

theorem stripM_qualifyKey (n : Bytes) (k : Val) : stripM (qualifyKey n k) = stripM (qualifyKey n (stripM k)) := by
  cases k <;> try rfl
  case kw h ns nm =>
    cases ns with
    | none => rfl
    | some x =>
      simp only [stripM, qualifyKey]
      split <;> rfl
  case sym h md ns nm =>
    cases ns with
    | none => rfl
    | some x =>
      simp only [stripM, qualifyKey]
      split
      · rfl
      · simp only [stripM]
        congr 1
        cases md with
        | none => rfl
        | some mm => rw [stripMO_some, stripMO_some, stripM_idem]
  all_goals (show stripM _ = stripM (stripM _); rw [stripM_idem]; rfl)

theorem qualifyKeysC_stripML (n : Bytes) (ks : List Val) :
    qualifyKeysC n (stripML ks) = stripML (ks.map (qualifyKey n)) := by
  unfold qualifyKeysC
  rw [stripML_eq_map, stripML_eq_map, stripML_eq_map, List.map_map, List.map_map, List.map_map]
  apply List.map_congr_left
  intro k _
  exact (stripM_qualifyKey n k).symm

theorem md_qualifyKey_of_none (n : Bytes) (k : Val) (h : k.md = none) : (qualifyKey n k).md = none := by
  rcases qualifyKey_cases n k with e | ⟨_, _, e⟩ | ⟨_, _, e⟩ <;> rw [e]
  · exact h
  · rfl
  · rfl

/-- the keys a map body contributes, as contents: those of `{…}` as they stand, those of `#:ns{…}` qualified
    (`qualifyKeysC`); one statement then serves `readMap` with and without a namespace -/
def qualC (ns : Option Bytes) (ks : List Val) : List Val :=
  match ns with
  | none => ks
  | some n => qualifyKeysC n ks

theorem qualC_nil (ns : Option Bytes) : qualC ns [] = [] := by
  cases ns with
  | none => rfl
  | some n => simp [qualC, qualifyKeysC, stripML_nil]

theorem qualC_cons (ns : Option Bytes) (kv : Val) (ks' : List Val) :
    qualC ns (stripM kv :: ks') =
      stripM (match ns with | some n => qualifyKey n kv | none => kv) :: qualC ns ks' := by
  cases ns with
  | none => rfl
  | some n =>
    simp only [qualC, qualifyKeysC, List.map_cons, stripML_cons]
    rw [← stripM_qualifyKey]

theorem qualC_stripML (ns : Option Bytes) (ks : List Val) : qualC ns (stripML ks) = stripML (ks.map (qualifyNs ns)) := by
  cases ns with
  | none => rw [map_qualV_none]; rfl
  | some n => exact qualifyKeysC_stripML n ks

theorem stripM_eq_strip_of_leaf {v : Val} (hl : leaf v = true) (hm : v.md = none) : stripM v = strip v := by
  cases v <;> first
    | rfl
    | (exact absurd hl Bool.false_ne_true)
    | (simp only [Val.md] at hm; subst hm; rfl)

theorem readIdentifier_stripM (ctx : Ctx) (st st' : St) (v : Val) (h : readIdentifier ctx st = .ok v st') :
    stripM v = strip v := by
  have h1 : freshLeaf v = true := okP_elim (readIdentifier_fresh ctx st) h
  have hl : leaf v = true := by
    simp only [freshLeaf, Bool.and_eq_true] at h1
    exact h1.1
  exact stripM_eq_strip_of_leaf hl (readIdentifier_mdNone h)

variable {cfg : Cfg} {N : NumJ} {S : StrJ}

/-- For predicates that do not look at the derivation.  Structural recursion over the three mutually
    inductive judgements is slow to check; the theorems by induction on a derivation go through here. -/
theorem formX_induct {P : Nat → Val → Bytes → Bytes → Prop} {Q : Nat → List Val → Bytes → Bytes → Prop}
    {R : Nat → Bytes → Bytes → Prop}
    (blank : ∀ k a tr tok rest, Blank tr → P k a tok rest → P k a (tr ++ tok) rest)
    (discard : ∀ k a b tok1 tok2 rest, P k b tok1 (tok2 ++ rest) → P (k + 1) a tok2 rest →
      P (k + 1) a (0x23 :: 0x5F :: (tok1 ++ tok2)) rest)
    (number : ∀ k tok rest v, NumStart (tok ++ rest) → N tok v rest → P k (numToVal hdr0 v) tok rest)
    (ident : ∀ k tok rest a, IdentLex tok → IdentStartX cfg tok → IdentDenotes tok a → DelimStart rest → P k a tok rest)
    (str : ∀ k tok rest data esc, (tok ++ rest).head? = some 0x22 → S tok data esc rest → P k (.str hdr0 data esc) tok rest)
    (char : ∀ k body rest cp, CharTokX cfg body cp → cp ≤ 0x10FFFF → DelimStart rest →
      P k (.char hdr0 cp) (0x5C :: body) rest)
    (symbolic : ∀ k tok rest bits, SymbolicTok tok bits → P k (.float hdr0 bits) tok rest)
    (list : ∀ k xs body rest, Q k xs body (0x29 :: rest) → P (k + 1) (.list hdr0 none xs) (0x28 :: (body ++ [0x29])) rest)
    (vec : ∀ k xs body rest, Q k xs body (0x5D :: rest) → P (k + 1) (.vec hdr0 none xs) (0x5B :: (body ++ [0x5D])) rest)
    (set : ∀ k xs body rest, Q k xs body (0x7D :: rest) → pairwiseDistinct cfg xs →
      P (k + 1) (.set hdr0 none xs) (0x23 :: 0x7B :: (body ++ [0x7D])) rest)
    (map : ∀ k ks vs body rest, Q k (interleaveKV ks vs) body (0x7D :: rest) → ks.length = vs.length →
      pairwiseDistinct cfg ks → P (k + 1) (.map hdr0 none ks vs) (0x7B :: (body ++ [0x7D])) rest)
    (tagged : ∀ k tag ns nm a tok rest, IdentLex tag → IdentDenotes tag (.sym hdr0 none ns nm) → tag.head? ≠ some 0x5F →
      (∃ c t, tok = c :: t ∧ isDelim c = true) → P k a tok rest →
      P (k + 1) (.tagged hdr0 none tag a) (0x23 :: (tag ++ tok)) rest)
    (withMeta : ∀ k am af nks nvs tokm tokf rest, cfg.clj = true → P k am tokm (tokf ++ rest) →
      metaEntriesC am = some (nks, nvs) → P k af tokf rest → af.metaTarget = true →
      P (k + 1) (attachMetaC cfg af nks nvs) (0x5E :: (tokm ++ tokf)) rest)
    (nsmap : ∀ k name tr body rest ks vs, cfg.clj = true → IdentLex (0x3A :: name) →
      IdentDenotes (0x3A :: name) (.kw hdr0 none name) → Blank tr → Q k (interleaveKV ks vs) body (0x7D :: rest) →
      ks.length = vs.length → pairwiseDistinct cfg (qualifyKeysC name ks) →
      P (k + 1) (.map hdr0 none (qualifyKeysC name ks) vs) (0x23 :: 0x3A :: (name ++ (tr ++ 0x7B :: (body ++ [0x7D])))) rest)
    (nil : ∀ k tr after, R k tr after → Q k [] tr after)
    (cons : ∀ k a xs tok body after, P k a tok (body ++ after) → Q k xs body after → Q k (a :: xs) (tok ++ body) after)
    (trailBlank : ∀ k tr after, Blank tr → R k tr after)
    (trailDiscard : ∀ k b tr tok tr' after, Blank tr → P k b tok (tr' ++ after) → R (k + 1) tr' after →
      R (k + 1) (tr ++ 0x23 :: 0x5F :: (tok ++ tr')) after) :
    (∀ {k a tok rest}, FormX cfg N S k a tok rest → P k a tok rest) ∧
    (∀ {k xs body after}, FormSeqX cfg N S k xs body after → Q k xs body after) ∧
    (∀ {k tr after}, TrailX cfg N S k tr after → R k tr after) := by
  refine (fun c1 c2 c3 c4 c5 c6 c7 c8 c9 c10 c11 c12 c13 c14 c15 c16 c17 c18 =>
    ⟨fun h => FormX.rec (motive_1 := fun k a tok rest _ => P k a tok rest) (motive_2 := fun k xs body after _ => Q k xs body after)
        (motive_3 := fun k tr after _ => R k tr after) c1 c2 c3 c4 c5 c6 c7 c8 c9 c10 c11 c12 c13 c14 c15 c16 c17 c18 h,
     fun h => FormSeqX.rec (motive_1 := fun k a tok rest _ => P k a tok rest) (motive_2 := fun k xs body after _ => Q k xs body after)
        (motive_3 := fun k tr after _ => R k tr after) c1 c2 c3 c4 c5 c6 c7 c8 c9 c10 c11 c12 c13 c14 c15 c16 c17 c18 h,
     fun h => TrailX.rec (motive_1 := fun k a tok rest _ => P k a tok rest) (motive_2 := fun k xs body after _ => Q k xs body after)
        (motive_3 := fun k tr after _ => R k tr after) c1 c2 c3 c4 c5 c6 c7 c8 c9 c10 c11 c12 c13 c14 c15 c16 c17 c18 h⟩)
    (fun k a tr tok rest ht _ ih => blank k a tr tok rest ht ih)
    (fun k a b tok1 tok2 rest _ _ ihd ih => discard k a b tok1 tok2 rest ihd ih)
    number ident str char symbolic
    (fun k xs body rest _ ih => list k xs body rest ih)
    (fun k xs body rest _ ih => vec k xs body rest ih)
    (fun k xs body rest _ hd ih => set k xs body rest ih hd)
    (fun k ks vs body rest _ hl hd ih => map k ks vs body rest ih hl hd)
    (fun k tag ns nm a tok rest hl hd hu hsep _ ih => tagged k tag ns nm a tok rest hl hd hu hsep ih)
    (fun k am af nks nvs tokm tokf rest hc _ he _ ht ihm ihf => withMeta k am af nks nvs tokm tokf rest hc ihm he ihf ht)
    (fun k name tr body rest ks vs hc hl hden ht _ hlen hd ih => nsmap k name tr body rest ks vs hc hl hden ht ih hlen hd)
    (fun k tr after _ ih => nil k tr after ih)
    (fun k a xs tok body after _ _ ih ihr => cons k a xs tok body after ih ihr)
    trailBlank
    (fun k b tr tok tr' after ht _ _ ihd ihr => trailDiscard k b tr tok tr' after ht ihd ihr)

theorem trailX_blank {k : Nat} {tr tr' after : Bytes} (hb : Blank tr) (h : TrailX cfg N S k tr' after) :
    TrailX cfg N S k (tr ++ tr') after := by
  cases h with
  | blank _ _ _ ht => exact .blank k _ after (Snd.blank_append hb ht)
  | discard k b tr0 tok tr1 _ ht hd hr =>
    have e : tr ++ (tr0 ++ 0x23 :: 0x5F :: (tok ++ tr1)) = (tr ++ tr0) ++ 0x23 :: 0x5F :: (tok ++ tr1) := by simp
    rw [e]
    exact .discard k b (tr ++ tr0) tok tr1 after (Snd.blank_append hb ht) hd hr

end Edn.Proofs.SndX
