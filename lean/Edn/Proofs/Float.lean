/-
  C05: the fast path of `parse_double_from_buffer` returns the
  correctly rounded double; the table of powers of ten extracted from the source is exact.

  Structure of `Spec.rne`: the binade index is the unique integer `e` with 2^e ≤ n/d < 2^(e+1);
  everything after it is a function of (e, num, den) that is invariant under scaling numerator
  and denominator by a common factor.  Hence `(double) m` is exact below 2^53, and exact
  operands make `fmul`/`fdiv` a single rounding of the exact result.  After that, the two ends of the
  range (`rne_overflow`, `rne_underflow`): the cut-off form `Spec.ofDecC`, which never raises ten to a
  huge exponent, equals `Spec.ofDec` (`ofDecC_eq`, used by DoubleSpec).
-/
import Edn.Model.Number

namespace Edn.Proofs
open Edn.Model Edn.Spec Edn.Generated

namespace FloatAux

/- `geB`, `binade`, `numOf`, `denOf`, `roundQ` and `pack` are the `let`s of `Edn.Spec.rne` copied out, so that
   each has lemmas of its own; `rne_eq` (by `rfl`) ties them to it. -/
def geB (n d : Nat) (e : Int) : Bool :=
  if e ≥ 0 then n ≥ d * 2 ^ e.toNat else n * 2 ^ (-e).toNat ≥ d

theorem geB_iff (n d : Nat) (e : Int) (a b : Nat) (h : (a : Int) - (b : Int) = e) :
    geB n d e = true ↔ d * 2 ^ a ≤ n * 2 ^ b := by
  unfold geB
  by_cases he : e ≥ 0
  · have ha : a = b + e.toNat := by omega
    simp only [he, if_true, decide_eq_true_eq, ge_iff_le]
    rw [ha, Nat.pow_add, ← Nat.mul_assoc, Nat.mul_right_comm]
    exact (Nat.mul_le_mul_right_iff (Nat.two_pow_pos b)).symm
  · have hb : b = a + (-e).toNat := by omega
    simp only [he, if_false, decide_eq_true_eq, ge_iff_le]
    rw [hb, Nat.pow_add, ← Nat.mul_assoc, Nat.mul_right_comm n]
    exact (Nat.mul_le_mul_right_iff (Nat.two_pow_pos a)).symm

theorem geB_mono {n d : Nat} {e e' : Int} (h : geB n d e = true) (hle : e' ≤ e) :
    geB n d e' = true := by
  have h1 := (geB_iff n d e e.toNat (-e).toNat (by omega)).mp h
  refine (geB_iff n d e' e.toNat ((-e).toNat + (e - e').toNat) (by omega)).mpr ?_
  refine Nat.le_trans h1 (Nat.mul_le_mul_left _ ?_)
  exact Nat.pow_le_pow_right (by decide) (by omega)

theorem geB_scale (n d c : Nat) (hc : 0 < c) (e : Int) : geB (n * c) (d * c) e = geB n d e := by
  have h1 := geB_iff (n * c) (d * c) e e.toNat (-e).toNat (by omega)
  have h2 := geB_iff n d e e.toNat (-e).toNat (by omega)
  have : d * c * 2 ^ e.toNat ≤ n * c * 2 ^ (-e).toNat ↔ d * 2 ^ e.toNat ≤ n * 2 ^ (-e).toNat := by
    rw [Nat.mul_right_comm d, Nat.mul_right_comm n]
    exact Nat.mul_le_mul_right_iff hc
  rw [this] at h1
  exact Bool.eq_iff_iff.mpr (h1.trans h2.symm)

def binade (n d : Nat) : Int :=
  let e0 : Int := (Nat.log2 n : Int) - (Nat.log2 d : Int)
  if geB n d e0 then e0 else e0 - 1

theorem geB_log_pred {n d : Nat} (hn : n ≠ 0) :
    geB n d ((Nat.log2 n : Int) - (Nat.log2 d : Int) - 1) = true := by
  refine (geB_iff n d _ (Nat.log2 n) (Nat.log2 d + 1) (by omega)).mpr ?_
  rw [Nat.mul_comm d]
  exact Nat.mul_le_mul (Nat.log2_self_le hn) (Nat.le_of_lt Nat.lt_log2_self)

theorem not_geB_log_succ {n d : Nat} (hd : d ≠ 0) :
    geB n d ((Nat.log2 n : Int) - (Nat.log2 d : Int) + 1) = false := by
  cases h : geB n d ((Nat.log2 n : Int) - (Nat.log2 d : Int) + 1)
  · rfl
  · exfalso
    have h1 := (geB_iff n d _ (Nat.log2 n + 1) (Nat.log2 d) (by omega)).mp h
    have h2 : n * 2 ^ Nat.log2 d < 2 ^ (Nat.log2 n + 1) * d :=
      Nat.mul_lt_mul_of_lt_of_le Nat.lt_log2_self (Nat.log2_self_le hd) (Nat.pos_of_ne_zero hd)
    rw [Nat.mul_comm d] at h1
    omega

theorem binade_spec {n d : Nat} (hn : n ≠ 0) (hd : d ≠ 0) :
    geB n d (binade n d) = true ∧ geB n d (binade n d + 1) = false := by
  unfold binade
  by_cases h : geB n d ((Nat.log2 n : Int) - (Nat.log2 d : Int)) = true
  · simp only [h, if_true, true_and]
    exact not_geB_log_succ hd
  · rw [if_neg h, Int.sub_add_cancel]
    exact ⟨geB_log_pred hn, by simpa using h⟩

theorem binade_unique {n d : Nat} {e e' : Int}
    (h1 : geB n d e = true) (h2 : geB n d (e + 1) = false)
    (h1' : geB n d e' = true) (h2' : geB n d (e' + 1) = false) : e = e' := by
  by_cases hlt : e < e'
  · have := geB_mono h1' (show e + 1 ≤ e' by omega)
    simp [this] at h2
  · by_cases hgt : e' < e
    · have := geB_mono h1 (show e' + 1 ≤ e by omega)
      simp [this] at h2'
    · omega

theorem binade_eq {n d : Nat} (hn : n ≠ 0) (hd : d ≠ 0) {e : Int}
    (h1 : geB n d e = true) (h2 : geB n d (e + 1) = false) : binade n d = e :=
  binade_unique (binade_spec hn hd).1 (binade_spec hn hd).2 h1 h2

theorem binade_scale (n d c : Nat) (hn : n ≠ 0) (hd : 0 < d) (hc : 0 < c) :
    binade (n * c) (d * c) = binade n d := by
  have hnc : n * c ≠ 0 := Nat.mul_ne_zero hn (by omega)
  have hdc : d * c ≠ 0 := Nat.mul_ne_zero (by omega) (by omega)
  have s := binade_spec hnc hdc
  rw [geB_scale _ _ _ hc, geB_scale _ _ _ hc] at s
  exact (binade_eq hn (by omega) s.1 s.2).symm

def numOf (n : Nat) (e : Int) : Nat :=
  let ee : Int := if e < -1022 then -1022 else e
  let sh : Int := 52 - ee
  if sh ≥ 0 then n * 2 ^ sh.toNat else n
def denOf (d : Nat) (e : Int) : Nat :=
  let ee : Int := if e < -1022 then -1022 else e
  let sh : Int := 52 - ee
  if sh ≥ 0 then d else d * 2 ^ (-sh).toNat

def roundQ (num den : Nat) : Nat :=
  let q := num / den
  let r := num % den
  if 2 * r > den then q + 1 else if 2 * r = den then (if q % 2 = 1 then q + 1 else q) else q

def pack (e : Int) (q' : Nat) : UInt64 :=
  let ee : Int := if e < -1022 then -1022 else e
  if e < -1022 then UInt64.ofNat q'
  else
    let m := if q' = 2 ^ 53 then 2 ^ 52 else q'
    let ex := if q' = 2 ^ 53 then ee + 1 else ee
    if ex > 1023 then 0x7FF0000000000000
    else UInt64.ofNat ((ex + 1023).toNat * 2 ^ 52 + (m - 2 ^ 52))

theorem rne_eq (n d : Nat) :
    rne n d = if n = 0 then 0 else
      pack (binade n d) (roundQ (numOf n (binade n d)) (denOf d (binade n d))) := rfl

theorem numOf_scale (n c : Nat) (e : Int) : numOf (n * c) e = numOf n e * c := by
  unfold numOf
  simp only
  generalize (if e < -1022 then (-1022 : Int) else e) = ee
  by_cases h : 52 - ee ≥ 0
  · simp only [h, if_true]; exact Nat.mul_right_comm _ _ _
  · simp only [h, if_false]

theorem denOf_scale (d c : Nat) (e : Int) : denOf (d * c) e = denOf d e * c := by
  unfold denOf
  simp only
  generalize (if e < -1022 then (-1022 : Int) else e) = ee
  by_cases h : 52 - ee ≥ 0
  · simp only [h, if_true]
  · simp only [h, if_false]; exact Nat.mul_right_comm _ _ _

theorem roundQ_scale (num den c : Nat) (hc : 0 < c) :
    roundQ (num * c) (den * c) = roundQ num den := by
  unfold roundQ
  simp only [Nat.mul_div_mul_right _ _ hc, Nat.mul_mod_mul_right]
  have e1 : (2 * (num % den * c) > den * c) ↔ (2 * (num % den) > den) := by
    rw [← Nat.mul_assoc]; exact Nat.mul_lt_mul_right hc
  have e2 : (2 * (num % den * c) = den * c) ↔ (2 * (num % den) = den) := by
    rw [← Nat.mul_assoc]
    constructor
    · intro h; exact Nat.eq_of_mul_eq_mul_right hc h
    · intro h; rw [h]
  simp only [e1, e2]

theorem _root_.Edn.Proofs.rne_scale (n d c : Nat) (hd : 0 < d) (hc : 0 < c) : rne (n * c) (d * c) = rne n d := by
  rw [rne_eq, rne_eq]
  by_cases hn : n = 0
  · subst hn; simp
  · have hnc : n * c ≠ 0 := Nat.mul_ne_zero hn (by omega)
    simp only [hn, hnc, if_false]
    rw [binade_scale n d c hn hd hc, numOf_scale, denOf_scale, roundQ_scale _ _ _ hc]

theorem rne_congr {n d n' d' : Nat} (hd : 0 < d) (hd' : 0 < d') (h : n * d' = n' * d) :
    rne n d = rne n' d' := by
  rw [← rne_scale n d d' hd hd', ← rne_scale n' d' d hd' hd, h, Nat.mul_comm d d']

theorem and_two_pow_of_lt {x k : Nat} (h : x < 2 ^ k) : x &&& 2 ^ k = 0 := by
  apply Nat.eq_of_testBit_eq
  intro i
  rw [Nat.testBit_and, Nat.testBit_two_pow, Nat.zero_testBit]
  by_cases hi : k = i
  · subst hi; rw [Nat.testBit_lt_two_pow h]; rfl
  · simp [hi]

theorem decode_pack (ex fr : Nat) (h1 : 1 ≤ ex) (h2 : ex ≤ 1075) (hfr : fr < 2 ^ 52) :
    decode (UInt64.ofNat (ex * 2 ^ 52 + fr)) = (false, fr + 2 ^ 52, 2 ^ (1075 - ex)) := by
  generalize hb : UInt64.ofNat (ex * 2 ^ 52 + fr) = b
  have ht : b.toNat = ex * 2 ^ 52 + fr := by
    rw [← hb, UInt64.toNat_ofNat']
    exact Nat.mod_eq_of_lt (by omega)
  have hs : ((b &&& signBit) != 0) = false := by
    have : b &&& signBit = 0 := by
      apply UInt64.toNat_inj.mp
      rw [UInt64.toNat_and]
      show b.toNat &&& 2 ^ 63 = 0
      exact and_two_pow_of_lt (by omega)
    rw [this]; rfl
  have hex : ((b >>> 52) &&& 0x7FF).toNat = ex := by
    rw [UInt64.toNat_and, UInt64.toNat_shiftRight]
    show (b.toNat >>> 52) &&& (2 ^ 11 - 1) = _
    rw [Nat.and_two_pow_sub_one_eq_mod, Nat.shiftRight_eq_div_pow, ht, Nat.mul_comm,
      Nat.mul_add_div (Nat.two_pow_pos 52), Nat.div_eq_of_lt hfr, Nat.add_zero,
      Nat.mod_eq_of_lt (Nat.lt_of_le_of_lt h2 (by decide))]
  have hfr' : (b &&& 0xFFFFFFFFFFFFF).toNat = fr := by
    rw [UInt64.toNat_and]
    show b.toNat &&& (2 ^ 52 - 1) = _
    rw [Nat.and_two_pow_sub_one_eq_mod, ht, Nat.mul_comm, Nat.mul_add_mod, Nat.mod_eq_of_lt hfr]
  unfold decode
  simp only [hs, hex, hfr']
  rw [if_neg (by omega)]
  split
  · obtain rfl : ex = 1075 := by omega
    simp
  · rfl

theorem pack_normal {e : Int} {q : Nat} (h1 : -1022 ≤ e) (h2 : e ≤ 1023) (hq : q < 2 ^ 53) :
    pack e q = UInt64.ofNat ((e + 1023).toNat * 2 ^ 52 + (q - 2 ^ 52)) := by
  unfold pack
  have a : ¬ e < -1022 := by omega
  have b : q ≠ 2 ^ 53 := by omega
  have c : ¬ e > 1023 := by omega
  simp only [a, b, c, if_false]

theorem pack_overflow {e : Int} (q : Nat) (h : 1023 < e) : pack e q = 0x7FF0000000000000 := by
  unfold pack
  have a : ¬ e < -1022 := by omega
  simp only [a, if_false]
  by_cases hq : q = 2 ^ 53
  · simp only [hq, if_true]; exact if_pos (by omega)
  · simp only [hq, if_false]; exact if_pos (by omega)

theorem pack_subnormal {e : Int} (q : Nat) (h : e < -1022) : pack e q = UInt64.ofNat q := by
  unfold pack
  simp only [h, if_true]

theorem roundQ_one (x : Nat) : roundQ x 1 = x := by
  unfold roundQ
  simp only [Nat.div_one, Nat.mod_one]
  rfl

/-- the finite, non-negative bit pattern `b` is exactly the natural number `v` -/
def Exact (b : UInt64) (v : Nat) : Prop := ∃ d, 0 < d ∧ decode b = (false, v * d, d)

def pow10Ok (k : Nat) : Bool :=
  let t := decode (UInt64.ofNat (Tables.pow10Positive.getD k 0))
  t.1 == false && t.2.1 == 10 ^ k * t.2.2 && decide (0 < t.2.2)

theorem pow10_exact (k : Nat) (hk : k ≤ 22) : Exact (UInt64.ofNat (Tables.pow10Positive.getD k 0)) (10 ^ k) := by
  have h : (List.range 23).all pow10Ok = true := by decide +kernel
  have := List.all_eq_true.mp h k (by simp; omega)
  unfold pow10Ok at this
  generalize ht : decode (UInt64.ofNat (Tables.pow10Positive.getD k 0)) = t at this
  obtain ⟨s, n, d⟩ := t
  simp only [Bool.and_eq_true, beq_iff_eq, decide_eq_true_eq] at this
  obtain ⟨⟨rfl, rfl⟩, hd⟩ := this
  exact ⟨d, hd, ht⟩

theorem binade_nat {m : Nat} (hm : m ≠ 0) : binade m 1 = (Nat.log2 m : Int) := by
  apply binade_eq hm (by decide)
  · refine (geB_iff m 1 _ (Nat.log2 m) 0 (by omega)).mpr ?_
    have := Nat.log2_self_le hm
    omega
  · cases h : geB m 1 ((Nat.log2 m : Int) + 1)
    · rfl
    · exfalso
      have h1 := (geB_iff m 1 _ (Nat.log2 m + 1) 0 (by omega)).mp h
      have := @Nat.lt_log2_self m
      omega

theorem ofNat_exact (m : Nat) (h : m < 2 ^ 53) : Exact (Spec.ofNat m) m := by
  unfold Spec.ofNat
  rw [rne_eq]
  by_cases hm : m = 0
  · subst hm
    have h0 : decode 0 = (false, 0 * 2 ^ 1074, 2 ^ 1074) := by decide +kernel
    exact ⟨2 ^ 1074, Nat.two_pow_pos _, (if_pos rfl).symm ▸ h0⟩
  · rw [if_neg hm, binade_nat hm]
    have hlo := Nat.log2_self_le hm
    have hhi := @Nat.lt_log2_self m
    have he : Nat.log2 m < 53 := (Nat.log2_lt hm).mpr h
    generalize Nat.log2 m = e at *
    have hnum : numOf m (e : Int) = m * 2 ^ (52 - e) := by
      unfold numOf
      have a : ¬ (e : Int) < -1022 := by omega
      have b : (52 : Int) - (e : Int) ≥ 0 := by omega
      have c : ((52 : Int) - (e : Int)).toNat = 52 - e := by omega
      simp only [a, b, c, if_true, if_false]
    have hden : denOf 1 (e : Int) = 1 := by
      unfold denOf
      have a : ¬ (e : Int) < -1022 := by omega
      have b : (52 : Int) - (e : Int) ≥ 0 := by omega
      simp only [a, b, if_true, if_false]
    rw [hnum, hden, roundQ_one]
    -- the quotient `m · 2^(52-e)` lies in [2^52, 2^53): a normal number, nothing is rounded away
    have hp : 2 ^ e * 2 ^ (52 - e) = 2 ^ 52 := by
      rw [← Nat.pow_add, Nat.add_sub_of_le (Nat.le_of_lt_succ he)]
    have hp' : 2 ^ (e + 1) * 2 ^ (52 - e) = 2 ^ 53 := by
      rw [Nat.pow_succ, Nat.mul_right_comm, hp]
    have hq1 : 2 ^ 52 ≤ m * 2 ^ (52 - e) := by
      rw [← hp]; exact Nat.mul_le_mul_right _ hlo
    have hq2 : m * 2 ^ (52 - e) < 2 ^ 53 := by
      rw [← hp']; exact Nat.mul_lt_mul_of_lt_of_le hhi (Nat.le_refl _) (Nat.two_pow_pos _)
    refine ⟨2 ^ (52 - e), Nat.two_pow_pos _, ?_⟩
    rw [pack_normal (by omega) (by omega) hq2, show ((e : Int) + 1023).toNat = e + 1023 by omega,
      decode_pack _ _ (by omega) (by omega) (by omega),
      show 1075 - (e + 1023) = 52 - e by omega, Nat.sub_add_cancel hq1]

theorem withSign_false (b : UInt64) : withSign false b = b := rfl

theorem fmul_exact {a b : UInt64} {m k : Nat} (ha : Exact a m) (hb : Exact b k) :
    fmul a b = rne (m * k) 1 := by
  obtain ⟨da, hda, ha⟩ := ha
  obtain ⟨db, hdb, hb⟩ := hb
  unfold fmul
  rw [ha, hb]
  dsimp only
  rw [show (false != false) = false from rfl, withSign_false]
  exact rne_congr (Nat.mul_pos hda hdb) Nat.one_pos (by rw [Nat.mul_one]; ac_rfl)

theorem fdiv_exact {a b : UInt64} {m k : Nat} (ha : Exact a m) (hb : Exact b k) (hk : 0 < k) :
    fdiv a b = rne m k := by
  obtain ⟨da, hda, ha⟩ := ha
  obtain ⟨db, hdb, hb⟩ := hb
  unfold fdiv
  rw [ha, hb]
  dsimp only
  rw [show (false != false) = false from rfl, withSign_false]
  exact rne_congr (Nat.mul_pos hda (Nat.mul_pos hk hdb)) hk (by ac_rfl)

-- stated with variable exponents so that no proof has to evaluate a large power
theorem mul_two_pow_mono (n a b : Nat) (h : a ≤ b) : n * 2 ^ a ≤ n * 2 ^ b :=
  Nat.mul_le_mul_left _ (Nat.pow_le_pow_right (by decide) h)
theorem mul_two_pow_succ (n k : Nat) : n * 2 ^ (k + 1) = 2 * (n * 2 ^ k) := by
  rw [Nat.pow_succ, ← Nat.mul_assoc, Nat.mul_comm]
theorem ten_pow_mono (a b : Nat) (h : a ≤ b) : 10 ^ a ≤ 10 ^ b :=
  Nat.pow_le_pow_right (by decide) h
theorem ten_pow_pos (k : Nat) : 0 < 10 ^ k := Nat.pow_pos (by decide)

theorem rne_overflow {n : Nat} (h : 2 ^ 1024 ≤ n) : rne n 1 = 0x7FF0000000000000 := by
  have hn : n ≠ 0 := by
    intro h0; subst h0
    have := Nat.two_pow_pos 1024
    omega
  rw [rne_eq, if_neg hn]
  have hb : binade n 1 = (Nat.log2 n : Int) := binade_nat hn
  have hl : 1024 ≤ Nat.log2 n := (Nat.le_log2 hn).mpr h
  rw [hb]
  exact pack_overflow _ (by omega)

/-- anything below half the smallest subnormal rounds to zero -/
theorem rne_underflow {n d : Nat} (hn : n ≠ 0) (h : n * 2 ^ 1075 < d) : rne n d = 0 := by
  have hd : d ≠ 0 := by omega
  rw [rne_eq, if_neg hn]
  have hlt : binade n d < -1022 := by
    apply Int.lt_of_not_ge
    intro hge
    have h1 := geB_mono (binade_spec hn hd).1 hge
    have h2 := (geB_iff n d (-1022) 0 1022 (by omega)).mp h1
    have h3 := mul_two_pow_mono n 1022 1075 (by decide)
    rw [Nat.pow_zero, Nat.mul_one] at h2
    exact Nat.lt_irrefl _ (Nat.lt_of_lt_of_le h (Nat.le_trans h2 h3))
  generalize binade n d = e at hlt
  rw [pack_subnormal _ hlt]
  have hnum : numOf n e = n * 2 ^ 1074 := by
    unfold numOf
    simp only [hlt, if_true]
    rw [if_pos (by decide), show ((52 : Int) - -1022).toNat = 1074 from rfl]
  have hden : denOf d e = d := by
    unfold denOf
    simp only [hlt, if_true]
    rfl
  rw [hnum, hden]
  have hp : n * 2 ^ 1075 = 2 * (n * 2 ^ 1074) := by
    rw [show (1075 : Nat) = 1074 + 1 from rfl]
    exact mul_two_pow_succ n 1074
  rw [hp] at h
  generalize n * 2 ^ 1074 = x at h
  have hq : roundQ x d = 0 := by
    unfold roundQ
    have a : x / d = 0 := Nat.div_eq_of_lt (by omega)
    have b : x % d = x := Nat.mod_eq_of_lt (by omega)
    simp only [a, b]
    rw [if_neg (by omega), if_neg (by omega)]
  rw [hq]
  rfl

theorem ofDec_eq (m : Nat) {e : Int} (a b : Nat) (h : (a : Int) - (b : Int) = e) :
    ofDec m e = rne (m * 10 ^ a) (10 ^ b) := by
  unfold ofDec
  by_cases he : e ≥ 0
  · obtain rfl : a = e.toNat + b := by omega
    rw [if_pos he]
    exact rne_congr Nat.one_pos (ten_pow_pos b) (by rw [Nat.mul_one, Nat.pow_add, Nat.mul_assoc])
  · obtain rfl : b = a + (-e).toNat := by omega
    rw [if_neg he]
    exact rne_congr (ten_pow_pos _) (ten_pow_pos _) (by rw [Nat.pow_add, Nat.mul_assoc])

theorem ofDec_shift (m k : Nat) (e : Int) : ofDec (m * 10 ^ k) e = ofDec m (e + k) := by
  rw [ofDec_eq _ e.toNat (-e).toNat (by omega), ofDec_eq m (k + e.toNat) (-e).toNat (by omega),
    Nat.pow_add, Nat.mul_assoc]

theorem ofDec_zero (e : Int) : ofDec 0 e = 0 := by
  unfold ofDec
  split
  · rw [Nat.zero_mul, rne_eq, if_pos rfl]
  · rw [rne_eq, if_pos rfl]

theorem pow10_401_ge : 2 ^ 1024 ≤ 10 ^ 401 := by decide +kernel
theorem pow10_401_gt : 2 ^ 1075 < 10 ^ 401 := by decide +kernel

theorem ofDec_overflow {mant : Nat} {e : Int} (hm : mant ≠ 0) (he : e > 400) :
    ofDec mant e = 0x7FF0000000000000 := by
  unfold ofDec
  rw [if_pos (by omega)]
  apply rne_overflow
  have h1 : 10 ^ 401 ≤ 10 ^ e.toNat := ten_pow_mono 401 e.toNat (by omega)
  have h2 : 1 * 10 ^ e.toNat ≤ mant * 10 ^ e.toNat := Nat.mul_le_mul_right _ (by omega)
  rw [Nat.one_mul] at h2
  exact Nat.le_trans pow10_401_ge (Nat.le_trans h1 h2)

theorem lt_ten_pow_digits (m : Nat) : m < 10 ^ (Nat.log2 m / 3 + 1) := by
  have h1 : m < 2 ^ (Nat.log2 m + 1) := Nat.lt_log2_self
  have h2 : 2 ^ (Nat.log2 m + 1) ≤ 2 ^ (3 * (Nat.log2 m / 3 + 1)) :=
    Nat.pow_le_pow_right (by decide) (by omega)
  have h3 : 2 ^ (3 * (Nat.log2 m / 3 + 1)) ≤ 10 ^ (Nat.log2 m / 3 + 1) := by
    rw [Nat.pow_mul]
    exact Nat.pow_le_pow_left (by decide) _
  omega

theorem ofDec_underflow {mant : Nat} {e : Int} (hm : mant ≠ 0)
    (he : e + ((Nat.log2 mant / 3 + 1 : Nat) : Int) < -400) : ofDec mant e = 0 := by
  unfold ofDec
  rw [if_neg (by omega)]
  apply rne_underflow hm
  have hD := lt_ten_pow_digits mant
  generalize Nat.log2 mant / 3 + 1 = D at he hD
  have hk : D + 401 ≤ (-e).toNat := by omega
  have h1 : 10 ^ (D + 401) ≤ 10 ^ (-e).toNat := Nat.pow_le_pow_right (by decide) hk
  rw [Nat.pow_add] at h1
  have h2 : mant * 2 ^ 1075 < 10 ^ D * 10 ^ 401 :=
    Nat.mul_lt_mul_of_lt_of_le hD (Nat.le_of_lt pow10_401_gt) (ten_pow_pos 401)
  exact Nat.lt_of_lt_of_le h2 h1

theorem _root_.Edn.Proofs.ofDecC_eq (mant : Nat) (e : Int) : ofDecC mant e = ofDec mant e := by
  unfold ofDecC
  by_cases hm : mant = 0
  · subst hm; rw [if_pos rfl, ofDec_zero]
  · rw [if_neg hm]
    by_cases h1 : e > 400
    · rw [if_pos h1, ofDec_overflow hm h1]
    · rw [if_neg h1]
      by_cases h2 : e + ((Nat.log2 mant / 3 + 1 : Nat) : Int) < -400
      · rw [if_pos h2, ofDec_underflow hm h2]
      · rw [if_neg h2]

end FloatAux

/-- the Clinger fast path is correctly rounded: for a mantissa below 2^53 and a decimal
    exponent in [-22, 22] it returns the double nearest to mant · 10^e (ties to even) -/
theorem fast_path_correct (mant : Nat) (e : Int) (neg : Bool)
    (hm : mant ≤ 9007199254740991) (he : -22 ≤ e ∧ e ≤ 22) :
    parseDoubleFast mant e neg = some (withSign neg (ofDec mant e)) := by
  have ha := FloatAux.ofNat_exact mant (by omega)
  have hb := FloatAux.pow10_exact e.natAbs (by omega)
  -- both operands are exact, so the single machine operation is one rounding of mant·10^e
  have key : (if e < 0 then fdiv (Spec.ofNat mant) (UInt64.ofNat (Tables.pow10Positive.getD e.natAbs 0))
      else fmul (Spec.ofNat mant) (UInt64.ofNat (Tables.pow10Positive.getD e.natAbs 0))) = ofDec mant e := by
    by_cases hneg : e < 0
    · rw [if_pos hneg, FloatAux.ofDec_eq mant 0 e.natAbs (by omega), Nat.pow_zero, Nat.mul_one]
      exact FloatAux.fdiv_exact ha hb (Nat.pow_pos (by decide))
    · rw [if_neg hneg, FloatAux.ofDec_eq mant e.natAbs 0 (by omega), Nat.pow_zero]
      exact FloatAux.fmul_exact ha hb
  unfold parseDoubleFast
  have h1 : (decide (e < -22) || decide (e > 22)) = false := by
    simp only [Bool.or_eq_false_iff, decide_eq_false_iff_not]; omega
  have h2 : ¬ mant > 9007199254740991 := by omega
  rw [h1, if_neg (by decide), if_neg h2]
  dsimp only
  rw [key]

end Edn.Proofs
