/-
  What a token reader sees of the bytes that follow the token: their first byte, or that there are
  none (`TermStart`, `DelimStart`).  Hence a token followed by `u ++ r` is the same token followed by
  `u` (`TermStart.cut`, `DelimStart.cut`), which is what the continuation independence of every leaf
  reader comes down to once the reader is known to accept exactly a token grammar.
-/
import Edn.Spec.Renders
import Edn.Proofs.Bytes

namespace Edn.Proofs
open Edn.Model Edn.Spec

theorem TermStart.delimStart {rest : Bytes} (h : TermStart rest) : DelimStart rest :=
  h.imp id fun ⟨c, t, e, hc⟩ => ⟨c, t, e, by simpa [numTermIsDelim, hc] using numTerm_isDelim c⟩

theorem DelimStart.peek {rest : Bytes} (h : DelimStart rest) : peek rest = 0 ∨ isDelim (peek rest) = true := by
  rcases h with rfl | ⟨c, t, rfl, h⟩
  · exact .inl rfl
  · exact .inr h

theorem TermStart.cut {u r : Bytes} (h : TermStart (u ++ r)) : TermStart u := by
  cases u with
  | nil => exact .inl rfl
  | cons c t =>
    rcases h with h | ⟨c', t', h, hc⟩
    · cases h
    · exact .inr ⟨c, t, rfl, (List.cons.inj h).1 ▸ hc⟩

theorem DelimStart.cut {u r : Bytes} (h : DelimStart (u ++ r)) : DelimStart u := by
  cases u with
  | nil => exact .inl rfl
  | cons c t =>
    rcases h with h | ⟨c', t', h, hc⟩
    · cases h
    · exact .inr ⟨c, t, rfl, (List.cons.inj h).1 ▸ hc⟩

/-- a run on `t ++ r` that consumed `tok` and left at least `r` unread consumed a prefix of `t` -/
theorem append_split {t r tok rest : Bytes} (e : t ++ r = tok ++ rest) (hl : r.length ≤ rest.length) :
    ∃ u, rest = u ++ r ∧ t = tok ++ u := by
  rcases List.append_eq_append_iff.mp e with ⟨a, rfl, rfl⟩ | ⟨u, rfl, rfl⟩
  · cases a with
    | nil => exact ⟨[], rfl, by simp⟩
    | cons _ _ => simp only [List.length_append, List.length_cons] at hl; omega
  · exact ⟨u, rfl, rfl⟩

end Edn.Proofs
