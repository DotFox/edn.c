/-
  C10 for whole documents (core configuration, no reader registry): which error *class* `edn_read`
  reports for a malformed document, stated on the bytes of the input.  First a form position holding
  a defective token: the token-level rejection theorems are lifted through the dispatcher to
  `readValue`, uniformly in the call log.  Then `first_defect_decides`; each class theorem of
  `Edn.Properties.C10` is it applied to what `readValue` makes of the defect at the innermost position
  (a token site of this file, a frame of `RejectFrames` at a closing delimiter, `EofSite.err`).
  Positions are `posOf input offset` (offset, line and column as `edn_read` computes them).
-/
import Edn.Proofs.RejectDocTrivX
import Edn.Proofs.RejectDocX

namespace Edn.Proofs.RejectDoc
open Edn.Model Edn.Spec Edn.Generated Edn.Proofs Edn.Proofs.Cmpl Edn.Proofs.Snd Edn.Proofs.RejectDocClj

theorem site_bad_identifier (opts : Opts) (d : Nat) (dm : Bool) (tok rest : Bytes)
    (hne : tok ≠ []) (hnd : ∀ c ∈ tok, isDelim c = false) (hs : IdentStart tok) (hr : DelimStart rest)
    (hbad : ¬ (IdentLex tok ∧ ∃ a, IdentDenotes tok a)) :
    ∃ b r, SiteErr opts d dm (tok ++ rest) (mkErr .invalidSyntax (some (tok ++ rest).length) (some b)) r := by
  obtain ⟨b, r, h⟩ := readIdentifier_rejected (cctx opts) tok rest hnd hr hbad
  exact ⟨b, r, SiteErrX.of_evals fun cl => .intro 0 fun f _ =>
    (CmplX.readValue_identX _ f d dm tok rest cl hne hnd ⟨hs, fun h => Bool.noConfusion h⟩ hr).trans (h cl)⟩

theorem readNumber_core_rejects (s : Bytes)
    (hstart : ∃ c t, s = c :: t ∧ (is09 c = true ∨ ((c = 0x2B ∨ c = 0x2D) ∧ ∃ nx t', t = nx :: t' ∧ is09 nx = true)))
    (hnot : ¬ ∃ tok rest v, s = tok ++ rest ∧ CoreNum Cfg.core tok v ∧ TermStart rest) :
    ∃ cur, readNumber Cfg.core s = .err cur := by
  cases h : readNumber Cfg.core s with
  | err cur => exact ⟨cur, rfl⟩
  | ok v rest =>
    obtain ⟨tok, h1, h2, h3⟩ := readNumber_core_sound s rest v hstart h
    exact absurd ⟨tok, rest, v, h1, h2, h3⟩ hnot

theorem site_bad_number (opts : Opts) (d : Nat) (dm : Bool) (s : Bytes)
    (hstart : ∃ c t, s = c :: t ∧ (is09 c = true ∨ ((c = 0x2B ∨ c = 0x2D) ∧ ∃ nx t', t = nx :: t' ∧ is09 nx = true)))
    (hnot : ¬ ∃ tok rest v, s = tok ++ rest ∧ CoreNum Cfg.core tok v ∧ TermStart rest) :
    ∃ cur, SiteErr opts d dm s (mkErr .invalidNumber (some s.length) (some cur.length)) cur := by
  obtain ⟨cur, h⟩ := readNumber_core_rejects s hstart hnot
  obtain ⟨c, t, rfl, hc⟩ := hstart
  refine ⟨cur, SiteErrX.of_evals fun cl => .intro 0 fun f _ => (CmplX.readValue_numStart _ f d dm c t cl hc).trans ?_⟩
  unfold readNumberRes
  simp only [h, Ctx.pos]

theorem site_unterminated_string (opts : Opts) (d : Nat) (dm : Bool) (cs : Bytes)
    (hnot : ¬ ∃ sp rest, cs = sp ++ 0x22 :: rest ∧ RawStr sp) :
    SiteErr opts d dm (0x22 :: cs) (mkErr .invalidString (some (cs.length + 1)) (some 0)) (0x22 :: cs) := by
  have hq : findQuote cs = none := by
    cases hq : findQuote cs with
    | none => rfl
    | some p =>
      obtain ⟨sp, t, hr, h1, -, -⟩ := (findQuote_some_iff _ _ _).mp hq
      exact absurd ⟨sp, t, h1, hr⟩ hnot
  exact SiteErrX.of_evals fun cl => .intro 0 fun f _ => by
    rw [run_v, readValue_quote _ f d dm cs cl, readString_literal_eq (cctx opts) 0x22 cs cl rfl, hq]

theorem site_bad_character (opts : Opts) (d : Nat) (dm : Bool) (cs : Bytes)
    (hnot : ¬ ∃ body rest cp, cs = body ++ rest ∧ CharTok body cp ∧ cp ≤ 0x10FFFF ∧ DelimStart rest) :
    ∃ e, SiteErr opts d dm (0x5C :: cs) e (0x5C :: cs) ∧ e.code = .invalidCharacter ∧ e.es = some (cs.length + 1) := by
  cases hr : readCharacter (cctx opts) { rest := 0x5C :: cs, calls := [] } with
  | ok v st' =>
    obtain ⟨body, cp, h1, -, h2, h3, h4, -⟩ := Snd.readCharacter_sound (cctx opts) rfl 0x5C cs [] v st' hr
    exact absurd ⟨body, st'.rest, cp, h1, h2, h3, h4⟩ hnot
  | closer st' =>
    have := (readCharacter_leafRes (cctx opts) { rest := 0x5C :: cs, calls := [] }).closer
    rw [hr] at this; cases this
  | err e st' =>
    obtain ⟨h1, h2, h3⟩ := readCharacter_err _ _ _ _ hr
    subst h3
    refine ⟨e, SiteErrX.of_evals fun cl => .intro 0 fun f _ => ?_, h1, h2⟩
    rw [run_v, readValue_backslash _ f d dm cs cl, readCharacter_calls Cfg.core opts opts { rest := 0x5C :: cs, calls := [] } cl, hr]; rfl

open Edn.Proofs.RejectDoc.Ex

theorem eofTop_iff (opts : Opts) (hreg : opts.registry = none) (input : Bytes) :
    (∃ e st, readValue (cctx opts) (readFuel input) 0 false { rest := input } = .err e st ∧ e.eofTop = true) ↔
      TopTrivia input :=
  (RejectDocTrivX.eofTopX_iff Cfg.core opts hreg input).trans (RejectDocTrivX.topTriviaX_core_iff input)

theorem eofValue_inv (opts : Opts) (hreg : opts.registry = none) (input : Bytes)
    (h : (read Cfg.core opts input).out = .eofValue) : opts.eofValue = true ∧ TopTrivia input :=
  (RejectDocTrivX.eofValueX_inv Cfg.core opts hreg input h).imp_right (RejectDocTrivX.topTriviaX_core_iff input).1

/-- with an end-of-input value supplied: `edn_read` returns it **iff** the input consists
    of blanks, comments (the last one possibly unclosed) and complete discarded forms only -/
theorem eof_iff_trivia_only (opts : Opts) (hreg : opts.registry = none) (hev : opts.eofValue = true) (input : Bytes) :
    (read Cfg.core opts input).out = .eofValue ↔ TopTrivia input :=
  (RejectDocTrivX.eofX_iff_trivia_only Cfg.core opts hreg hev input).trans (RejectDocTrivX.topTriviaX_core_iff input)

/-- `#_1 ;c` (a discarded form, a blank, an unclosed comment) holds no form -/
example : TopTrivia [0x23, 0x5F, 0x31, 0x20, 0x3B, 0x63] := by
  obtain ⟨a, h⟩ := form_digit 0 0x31 (by decide) [0x20, 0x3B, 0x63] (term_sp _)
  exact .discard [] [0x31] [0x20, 0x3B, 0x63] 0 a .nil (by decide) h
    (.eof _ (.ws 0x20 _ (by decide +kernel) (.unclosed [0x63] (by decide))))

/-- an input no prefix of which is a form of `Edn.Spec.Form` within the nesting limit is
    rejected: the result is an error with a code other than OK, or - only when the caller supplied
    an end-of-input value and the input holds no form at all - that value.  Never a tree. -/
theorem core_not_in_grammar_rejected (opts : Opts) (hreg : opts.registry = none) (input : Bytes)
    (hnot : ¬ ∃ k a tok rest, k ≤ Tables.maxNestingDepth ∧ input = tok ++ rest ∧ Form k a tok rest) :
    (∃ code es ee, (read Cfg.core opts input).out = .error code es ee ∧ code ≠ .ok) ∨
    ((read Cfg.core opts input).out = .eofValue ∧ opts.eofValue = true ∧ TopTrivia input) := by
  have hnotX : ¬ ∃ k a tok rest, k ≤ Tables.maxNestingDepth ∧ input = tok ++ rest ∧
      FormX Cfg.core (RejectDocX.numJOf Cfg.core) (RejectDocX.strJOf Cfg.core) k a tok rest :=
    fun ⟨k, a, tok, rest, hk, e, h⟩ => hnot ⟨k, a, tok, rest, hk, e, (formX_core_iff_form k a tok rest).1 h⟩
  rcases RejectDocX.not_in_grammarX_rejected Cfg.core opts hreg input hnotX with h | ⟨h1, h2⟩
  · exact .inl h
  · exact .inr ⟨h1, h2, (eofValue_inv opts hreg input h1).2⟩

/-- no prefix of `)` is a form (the reader rejects it, so by completeness there is none) -/
example : ¬ ∃ k a tok rest, k ≤ Tables.maxNestingDepth ∧ [0x29] = tok ++ rest ∧ Form k a tok rest := by
  rintro ⟨k, a, tok, rest, hk, e, h⟩
  obtain ⟨v, hv, -⟩ := (read_core_iff {} rfl [0x29] a).2 ⟨k, tok, rest, hk, e, h⟩
  have hb : (match (read Cfg.core {} [0x29]).out with | .value _ => false | _ => true) = true := by decide +kernel
  rw [hv] at hb
  cases hb

/-- **The first defect decides the class.**  If `pre` is a well-formed open context and the reader,
    expecting a form after it, fails on `s` with `e` (any error through a flat context; any error
    but UNEXPECTED_EOF when collections are open), then `edn_read (pre ++ s)` reports `e`'s
    code and range. -/
theorem first_defect_decides (opts : Opts) (hreg : opts.registry = none) {s : Bytes} {c : Bool} {pre : Bytes} {d : Nat} {dm : Bool}
    (h : Desc s c 0 false pre d dm) (e : ErrInfo) (r : Bytes)
    (hs : SiteErr opts d dm s e r) (hc : c = false ∨ e.code ≠ .unexpectedEof) (hf : e.fuelOut = false)
    (hn : (e.code == .unexpectedEof && e.eofTop && opts.eofValue) = false) :
    (read Cfg.core opts (pre ++ s)).out =
      .error e.code (posOf (pre ++ s) ((pre ++ s).length - e.es.getD r.length))
        (posOf (pre ++ s) ((pre ++ s).length - e.ee.getD r.length)) :=
  RejectDocClj.readX_of_site Cfg.core opts (pre ++ s) e r (desc_err opts hreg h e r hs hc) hn

theorem len_sub_cancel (pre x : Bytes) : (pre ++ x).length - x.length = pre.length := by
  rw [List.length_append]; omega

/-- the same for an error that starts where the context ends and whose end `ee` is known in bytes
    remaining: it is reported from the offset `pre.length` -/
theorem doc_range (opts : Opts) (hreg : opts.registry = none) {s : Bytes} {c : Bool} {pre : Bytes} {d : Nat} {dm : Bool}
    (h : Desc s c 0 false pre d dm) (code : Err) (ee : Nat) (r : Bytes)
    (hs : SiteErr opts d dm s (mkErr code (some s.length) (some ee)) r) (hcode : code ≠ .unexpectedEof) :
    (read Cfg.core opts (pre ++ s)).out =
      .error code (posOf (pre ++ s) pre.length) (posOf (pre ++ s) ((pre ++ s).length - ee)) := by
  have := first_defect_decides opts hreg h _ r hs (Or.inr hcode) rfl (by simp only [mkErr, Bool.and_false, Bool.false_and])
  simpa only [mkErr, Option.getD_some, len_sub_cancel] using this

theorem trail_desc : ∀ {k : Nat} {tr after : Bytes}, Trail k tr after → ∀ (d : Nat) (dm : Bool),
    d + k ≤ Tables.maxNestingDepth → Desc after false d dm tr d dm
  | _, _, _, .blank k tr after ht, d, dm, _ => by
    have := Desc.blank (s := after) false d dm tr [] d dm ht (.here false d dm)
    simpa using this
  | _, _, _, .discard k b tr tok tr' after ht hd hr, d, dm, hk =>
    .blank false d dm tr _ d dm ht
      (.skip false d dm k b tok tr' d dm (by omega) hd (trail_desc hr d dm hk))

/-- what may be left when the input ends where a form is expected: blanks and comments (the
    last one possibly unclosed), or those followed by a lone `#` -/
inductive EofSite : Bytes → Prop
  | blank (s : Bytes) (h : skipWsScalar s = []) : EofSite s
  | hash (tr : Bytes) (ht : Blank tr) : EofSite (tr ++ [0x23])

theorem site_hash (opts : Opts) (d : Nat) (dm : Bool) (tr : Bytes) (ht : Blank tr) :
    SiteErr opts d dm (tr ++ [0x23]) (mkErr .unexpectedEof (some 1) (some 0)) [] := by
  refine site_blank ht (SiteErrX.of_evals fun cl =>
    (Evals.intro (c := .t d dm 1 { rest := [], calls := cl }) 0 fun f _ => run_of_rule (.tEof rfl)).of_eq fun f => ?_)
  rw [run_v, readValue_at _ _ _ _ _ _ _ (by decide)]
  unfold route
  simp only [dispatch_hash]
  rfl

theorem EofSite.err (opts : Opts) (d : Nat) (dm : Bool) {s : Bytes} (h : EofSite s) :
    ∃ e, SiteErr opts d dm s e [] ∧ e.code = .unexpectedEof ∧
      (e.eofTop = true → d = 0 ∧ skipWsScalar s = []) ∧ (e.eofTop = false → e.es.getD 0 ≤ 1 ∧ e.ee.getD 0 = 0) := by
  cases h with
  | blank s h =>
    refine ⟨eofE d, site_eofX h, rfl, ?_, ?_⟩
    · intro ht
      simp only [eofE, beq_iff_eq] at ht
      exact ⟨ht, h⟩
    · intro _; exact ⟨Nat.zero_le _, rfl⟩
  | hash tr ht =>
    refine ⟨_, site_hash opts d dm tr ht, rfl, ?_, ?_⟩
    · intro h; cases h
    · intro _; exact ⟨Nat.le_refl _, rfl⟩

theorem trail_delimStart {k : Nat} {tr : Bytes} {c : UInt8} {rest : Bytes} (h : Trail k tr (c :: rest)) (hc : IsCloser c) :
    DelimStart (tr ++ c :: rest) := by
  have hcd : isDelim c = true := by rcases hc with rfl | rfl | rfl <;> decide +kernel
  have hb : ∀ {t : Bytes} (x : Bytes), Blank t → t ≠ [] → DelimStart (t ++ x) := by
    intro t x ht hne
    cases t with
    | nil => exact absurd rfl hne
    | cons c0 t0 => exact Or.inr ⟨c0, t0 ++ x, rfl, (blank_head_term ht).2⟩
  cases h with
  | blank _ _ _ ht =>
    by_cases hn : tr = []
    · subst hn; exact Or.inr ⟨c, rest, rfl, hcd⟩
    · exact hb _ ht hn
  | discard k b tr0 tok tr1 _ ht hd hr =>
    by_cases hn : tr0 = []
    · subst hn
      exact Or.inr ⟨0x23, _, rfl, by decide +kernel⟩
    · rw [List.append_assoc]
      exact hb _ ht hn

end Edn.Proofs.RejectDoc
