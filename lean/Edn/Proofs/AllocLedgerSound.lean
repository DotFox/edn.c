/-
  What a well-formed trace (`TraceOK`) means on the positions of the trace; `all_released` is the
  accounting half: when the checker ends with an empty list of live blocks nothing is leaked.
-/
import Edn.Proofs.AllocLedgerChecker
namespace Edn.Proofs.AllocLedger
open Edn.Model

def rawKind (k : ReqKind) : Prop := k = .malloc ∨ k = .calloc ∨ k = .realloc ∨ k = .arenaNew

def Obtained (i : Nat) (t : List Ev) : Prop := ∃ k old, rawKind k ∧ Ev.req k i false old ∈ t

def Takes (e : Ev) (i : Nat) : Prop := e = .free i ∨ ∃ n, e = .req .realloc n false i

def Gone (i : Nat) (t : List Ev) : Prop := Ev.free i ∈ t ∨ ∃ n, Ev.req .realloc n false i ∈ t

theorem Obtained.snoc {i : Nat} {t : List Ev} (h : Obtained i t) (e : Ev) : Obtained i (t ++ [e]) := by
  obtain ⟨k, old, hk, hm⟩ := h
  exact ⟨k, old, hk, List.mem_append_left _ hm⟩

theorem Gone.snoc {i : Nat} {t : List Ev} (h : Gone i t) (e : Ev) : Gone i (t ++ [e]) := by
  rcases h with h | ⟨n, h⟩
  · exact Or.inl (List.mem_append_left _ h)
  · exact Or.inr ⟨n, List.mem_append_left _ h⟩

theorem Takes.gone {e : Ev} {i : Nat} (h : Takes e i) (t : List Ev) : Gone i (t ++ [e]) := by
  rcases h with rfl | ⟨n, rfl⟩
  · exact Or.inl (List.mem_append_right _ List.mem_cons_self)
  · exact Or.inr ⟨n, List.mem_append_right _ List.mem_cons_self⟩

theorem gone_snoc {i : Nat} {t : List Ev} {e : Ev} (h : Gone i (t ++ [e])) : Gone i t ∨ Takes e i := by
  rcases h with h | ⟨n, h⟩
  · rcases List.mem_append.mp h with h | h
    · exact Or.inl (Or.inl h)
    · exact Or.inr (Or.inl (List.mem_singleton.mp h).symm)
  · rcases List.mem_append.mp h with h | h
    · exact Or.inl (Or.inr ⟨n, h⟩)
    · exact Or.inr (Or.inr ⟨n, (List.mem_singleton.mp h).symm⟩)

/-- invariant of the checker's run (`run_invariant`; `t` the events read so far, `L` the ledger held):
    what `L.live`, `L.dT` and `L.dP` say about the positions of `t` -/
structure LInv (t : List Ev) (L : Led) : Prop where
  live : ∀ i ∈ L.live, i ≤ L.last ∧ Obtained i t ∧ ¬ Gone i t
  gone : ∀ i, Gone i t → i ≤ L.last
  nodup : L.live.Nodup
  dT : L.dT = false → Ev.destroy true ∉ t
  dP : L.dP = false → Ev.destroy false ∉ t

theorem LInv.snoc {t : List Ev} {L L' : Led} {e : Ev} (h : LInv t L) (hlast : L.last ≤ L'.last)
    (hnew : ∀ i ∈ L'.live, i ∈ L.live ∨ (L.last < i ∧ i = L'.last ∧ ∃ k o, rawKind k ∧ e = .req k i false o))
    (htake : ∀ i, Takes e i → i ∈ L.live ∧ i ∉ L'.live) (hn : L'.live.Nodup)
    (hdT : L'.dT = false → L.dT = false ∧ e ≠ .destroy true)
    (hdP : L'.dP = false → L.dP = false ∧ e ≠ .destroy false) : LInv (t ++ [e]) L' := by
  have gone_le : ∀ i, Gone i (t ++ [e]) → i ≤ L.last := fun i hg =>
    (gone_snoc hg).elim (h.gone i) (fun ht => (h.live i (htake i ht).1).1)
  refine ⟨fun i hi => ?_, fun i hg => Nat.le_trans (gone_le i hg) hlast, hn, fun hf hm => ?_, fun hf hm => ?_⟩
  · rcases hnew i hi with hi' | ⟨hlt, rfl, k, o, hk, rfl⟩
    · obtain ⟨h1, h2, h3⟩ := h.live i hi'
      exact ⟨Nat.le_trans h1 hlast, h2.snoc e, fun hg => (gone_snoc hg).elim h3 (fun ht => (htake i ht).2 hi)⟩
    · exact ⟨Nat.le_refl _, ⟨k, o, hk, List.mem_append_right _ List.mem_cons_self⟩,
        fun hg => Nat.lt_irrefl _ (Nat.lt_of_le_of_lt (gone_le _ hg) hlt)⟩
  · rcases List.mem_append.mp hm with hm | hm
    · exact h.dT (hdT hf).1 hm
    · exact (hdT hf).2 (List.mem_singleton.mp hm).symm
  · rcases List.mem_append.mp hm with hm | hm
    · exact h.dP (hdP hf).1 hm
    · exact (hdP hf).2 (List.mem_singleton.mp hm).symm

theorem LInv.step {t : List Ev} {L L' : Led} (e : Ev) (h : LInv t L) (hs : L.step e = some L') : LInv (t ++ [e]) L' := by
  have fresh : L.last + 1 ∉ L.live := fun hm => Nat.not_succ_le_self _ (h.live _ hm).1
  have hl := (Led.Step.of_step hs).last_le
  cases Led.Step.of_step hs with
  | quiet k failed old hk ho =>
    refine h.snoc hl (fun i hi => .inl hi) ?_ h.nodup (fun hf => ⟨hf, nofun⟩) (fun hf => ⟨hf, nofun⟩)
    rintro i (ht | ⟨n, ht⟩) <;> cases ht
    rcases hk with hk | hk | hk <;> cases hk
  | alloc k old hk =>
    refine h.snoc hl (fun i hi => ?_) ?_ (List.nodup_cons.mpr ⟨fresh, h.nodup⟩)
      (fun hf => ⟨hf, nofun⟩) (fun hf => ⟨hf, nofun⟩)
    · rcases List.mem_cons.mp hi with rfl | hi
      · exact .inr ⟨Nat.lt_succ_self _, rfl, k, old, hk.elim .inl (.inr ∘ .inl), rfl⟩
      · exact .inl hi
    · rintro i (ht | ⟨n, ht⟩) <;> cases ht
      rcases hk with hk | hk <;> cases hk
  | record old hp =>
    refine h.snoc hl (fun i hi => ?_) ?_ (List.nodup_cons.mpr ⟨fresh, h.nodup⟩)
      (fun hf => ⟨hf, nofun⟩) (fun hf => ⟨hf, nofun⟩)
    · rcases List.mem_cons.mp hi with rfl | hi
      · exact .inr ⟨Nat.lt_succ_self _, rfl, _, old, .inr (.inr (.inr rfl)), rfl⟩
      · exact .inl hi
    · rintro i (ht | ⟨n, ht⟩) <;> cases ht
  | arenaDone old p hp =>
    refine h.snoc hl (fun i hi => .inl (List.mem_of_mem_erase hi)) ?_ (h.nodup.erase _)
      (fun hf => ⟨hf, nofun⟩) (fun hf => ⟨hf, nofun⟩)
    rintro i (ht | ⟨n, ht⟩) <;> cases ht
  | realloc old ho =>
    refine h.snoc hl (fun i hi => ?_) ?_
      (List.nodup_cons.mpr ⟨fun hm => fresh (List.mem_of_mem_erase hm), h.nodup.erase _⟩)
      (fun hf => ⟨hf, nofun⟩) (fun hf => ⟨hf, nofun⟩)
    · rcases List.mem_cons.mp hi with rfl | hi
      · exact .inr ⟨Nat.lt_succ_self _, rfl, _, old, .inr (.inr (.inl rfl)), rfl⟩
      · exact .inl (List.mem_of_mem_erase hi)
    · rintro i (ht | ⟨n, ht⟩) <;> cases ht
      refine ⟨ho, fun hm => ?_⟩
      rcases List.mem_cons.mp hm with hm | hm
      · exact fresh (hm ▸ ho)
      · exact ((h.nodup.mem_erase_iff).mp hm).1 rfl
  | free id hid =>
    refine h.snoc hl (fun i hi => .inl (List.mem_of_mem_erase hi)) ?_ (h.nodup.erase _)
      (fun hf => ⟨hf, nofun⟩) (fun hf => ⟨hf, nofun⟩)
    rintro i (ht | ⟨n, ht⟩) <;> cases ht
    exact ⟨hid, fun hm => ((h.nodup.mem_erase_iff).mp hm).1 rfl⟩
  | destroyTmp hd =>
    refine h.snoc hl (fun i hi => .inl hi) ?_ h.nodup nofun (fun hf => ⟨hf, nofun⟩)
    rintro i (ht | ⟨n, ht⟩) <;> cases ht
  | destroyParser hd =>
    refine h.snoc hl (fun i hi => .inl hi) ?_ h.nodup (fun hf => ⟨hf, nofun⟩) nofun
    rintro i (ht | ⟨n, ht⟩) <;> cases ht


theorem LInv.init : LInv [] {} :=
  ⟨nofun, (fun i h => by rcases h with h | ⟨n, h⟩ <;> cases h), List.nodup_nil, fun _ => nofun, fun _ => nofun⟩

theorem traceOK_split {t1 t2 : List Ev} {e : Ev} (h : TraceOK (t1 ++ e :: t2)) :
    ∃ L1 L2 L, LInv t1 L1 ∧ L1.Step e L2 ∧ run t2 L2 = some L := by
  unfold TraceOK at h
  rw [run_append] at h
  cases h1 : run t1 {} with
  | none => rw [h1] at h; cases h
  | some L1 =>
    rw [h1] at h
    have h : (run (e :: t2) L1).isSome = true := h
    unfold Edn.Proofs.AllocLedger.run at h
    cases hs : L1.step e with
    | none => rw [hs] at h; cases h
    | some L2 =>
      rw [hs] at h
      obtain ⟨L, h2⟩ := Option.isSome_iff_exists.mp h
      exact ⟨L1, L2, L, run_invariant LInv.init LInv.step h1, .of_step hs, h2⟩

def Uses (e : Ev) (i : Nat) : Prop := e = .free i ∨ ∃ n f, e = .req .realloc n f i

theorem Led.Step.uses_live {L L' : Led} {e : Ev} {i : Nat} (hs : L.Step e L') (hu : Uses e i) : i ∈ L.live := by
  rcases hu with rfl | ⟨n, f, rfl⟩
  · cases hs with
    | free _ h => exact h
  · cases hs with
    | quiet _ _ _ _ ho => exact ho rfl
    | alloc _ _ hk => rcases hk with hk | hk <;> cases hk
    | realloc _ ho => exact ho

theorem used_is_live {t1 t2 : List Ev} {e : Ev} {i : Nat} (h : TraceOK (t1 ++ e :: t2)) (hu : Uses e i) :
    Obtained i t1 ∧ ¬ Gone i t1 := by
  obtain ⟨L1, L2, L, hinv, hs, _⟩ := traceOK_split h
  exact (hinv.live i (hs.uses_live hu)).2

/-- the "after" half of every positional statement is the "before" half (`used_is_live`) at the later
    position: an event that used the block after the one that took it would find it gone -/
theorem taken_is_gone {t1 t2 : List Ev} {e : Ev} {i : Nat} (h : TraceOK (t1 ++ e :: t2)) (ht : Takes e i) :
    ∀ e' ∈ t2, ¬ Uses e' i := by
  intro e' hm hu
  obtain ⟨u, w, rfl⟩ := List.append_of_mem hm
  have h' : TraceOK ((t1 ++ e :: u) ++ e' :: w) := by simpa using h
  refine (used_is_live h' hu).2 ?_
  rcases ht with rfl | ⟨n, rfl⟩
  · exact .inl (List.mem_append_right _ List.mem_cons_self)
  · exact .inr ⟨n, List.mem_append_right _ List.mem_cons_self⟩

theorem destroy_once {t1 t2 : List Ev} {b : Bool} (h : TraceOK (t1 ++ .destroy b :: t2)) :
    Ev.destroy b ∉ t1 := by
  obtain ⟨L1, L2, L, hinv, hs, _⟩ := traceOK_split h
  cases hs with
  | destroyTmp hd => exact hinv.dT hd
  | destroyParser hd => exact hinv.dP hd

/-- `rawKind` without the two `malloc`s of `edn_arena_create`: the blocks that no arena takes over, so
    that each is freed or reallocated away by the time nothing is live (`all_released`) -/
def plainKind (k : ReqKind) : Prop := k = .malloc ∨ k = .calloc ∨ k = .realloc

/-- second invariant of the checker's run, for `all_released`: every block of a granted `plainKind`
    request is live or gone -/
structure AInv (t : List Ev) (L : Led) : Prop where
  ids : ∀ k id f o, Ev.req k id f o ∈ t → id ≤ L.last
  /-- the pending arena record is a block of `edn_arena_create` -/
  pend : ∀ p, L.pend = some p → p ≤ L.last ∧ ∀ k f o, plainKind k → Ev.req k p f o ∉ t
  acct : ∀ k i o, plainKind k → Ev.req k i false o ∈ t → i ∈ L.live ∨ Gone i t

theorem AInv.snoc {t : List Ev} {L L' : Led} {e : Ev} (h : AInv t L) (hlast : L.last ≤ L'.last)
    (hlive : ∀ i ∈ L.live, i ∈ L'.live ∨ Takes e i ∨ L.pend = some i)
    (hreq : ∀ k id f o, e = .req k id f o → id = L'.last ∧ L.last < id ∧ (plainKind k → f = false → id ∈ L'.live))
    (hpend : ∀ p, L'.pend = some p → L.pend = some p ∨ (p = L'.last ∧ L.last < p ∧ ∃ f o, e = .req .arenaNew p f o)) :
    AInv (t ++ [e]) L' := by
  refine ⟨fun k id f o hm => ?_, fun p hp => ?_, fun k i o hk hm => ?_⟩
  · rcases List.mem_append.mp hm with hm | hm
    · exact Nat.le_trans (h.ids k id f o hm) hlast
    · exact Nat.le_of_eq (hreq k id f o (List.mem_singleton.mp hm).symm).1
  · rcases hpend p hp with hp | ⟨hp1, hp2, f', o', he⟩
    · obtain ⟨h1, h2⟩ := h.pend p hp
      refine ⟨Nat.le_trans h1 hlast, fun k f o hk hm => ?_⟩
      rcases List.mem_append.mp hm with hm | hm
      · exact h2 k f o hk hm
      · have := (hreq k p f o (List.mem_singleton.mp hm).symm).2.1
        omega
    · refine ⟨Nat.le_of_eq hp1, fun k f o hk hm => ?_⟩
      rcases List.mem_append.mp hm with hm | hm
      · have := h.ids k p f o hm; omega
      · have he2 := List.mem_singleton.mp hm
        rw [he] at he2
        cases he2
        rcases hk with hk | hk | hk <;> cases hk
  · rcases List.mem_append.mp hm with hm | hm
    · rcases h.acct k i o hk hm with hl | hg
      · rcases hlive i hl with h1 | h1 | h1
        · exact Or.inl h1
        · exact Or.inr (h1.gone t)
        · exact absurd hm ((h.pend i h1).2 k false o hk)
      · exact Or.inr (hg.snoc e)
    · exact Or.inl ((hreq k i false o (List.mem_singleton.mp hm).symm).2.2 hk rfl)

theorem AInv.step {t : List Ev} {L L' : Led} (e : Ev) (h : AInv t L) (hs : L.step e = some L') : AInv (t ++ [e]) L' := by
  have erase : ∀ (j : Nat) (ht : Takes e j ∨ L.pend = some j), ∀ i ∈ L.live, i ∈ L.live.erase j ∨ Takes e i ∨ L.pend = some i :=
    fun j ht i hi => (Decidable.em (i = j)).elim (fun hij => .inr (hij ▸ ht)) (fun hij => .inl ((List.mem_erase_of_ne hij).mpr hi))
  have hl := (Led.Step.of_step hs).last_le
  cases Led.Step.of_step hs with
  | quiet k failed old hk ho =>
    refine h.snoc hl (fun i hi => .inl hi) (fun k' id' f' o' he => ?_) (fun p hp => .inl hp)
    cases he
    refine ⟨rfl, Nat.lt_succ_self _, fun hp hf => ?_⟩
    subst hf
    rcases hk with hk | hk | hk <;> rcases hp with hp | hp | hp <;> subst hp <;> cases hk
  | alloc k old hk =>
    refine h.snoc hl (fun i hi => .inl (List.mem_cons_of_mem _ hi)) (fun k' id' f' o' he => ?_) (fun p hp => .inl hp)
    cases he
    exact ⟨rfl, Nat.lt_succ_self _, fun _ _ => List.mem_cons_self⟩
  | record old hp0 =>
    refine h.snoc hl (fun i hi => .inl (List.mem_cons_of_mem _ hi)) (fun k' id' f' o' he => ?_) (fun p hp => ?_)
    · cases he
      exact ⟨rfl, Nat.lt_succ_self _, fun _ _ => List.mem_cons_self⟩
    · cases hp
      exact .inr ⟨rfl, Nat.lt_succ_self _, false, old, rfl⟩
  | arenaDone old p hp0 =>
    -- the arena is complete: its record leaves the list without an event of its own
    refine h.snoc hl (erase p (.inr hp0)) (fun k' id' f' o' he => ?_) (fun q hq => by cases hq)
    cases he
    exact ⟨rfl, Nat.lt_succ_self _, fun hk => by rcases hk with hk | hk | hk <;> cases hk⟩
  | realloc old ho =>
    refine h.snoc hl (fun i hi => (erase old (.inl (.inr ⟨_, rfl⟩)) i hi).imp_left (List.mem_cons_of_mem _))
      (fun k' id' f' o' he => ?_) (fun p hp => .inl hp)
    cases he
    exact ⟨rfl, Nat.lt_succ_self _, fun _ _ => List.mem_cons_self⟩
  | free id hid =>
    refine h.snoc hl (erase id (.inl (.inl rfl))) nofun (fun p hp => ?_)
    have hp : (if L.pend == some id then none else L.pend) = some p := hp
    split at hp
    · cases hp
    · exact .inl hp
  | destroyTmp hd => exact h.snoc hl (fun i hi => .inl hi) nofun (fun p hp => .inl hp)
  | destroyParser hd => exact h.snoc hl (fun i hi => .inl hi) nofun (fun p hp => .inl hp)

theorem AInv.init : AInv [] {} := ⟨nofun, nofun, nofun⟩

/-- a block handed to a granted `realloc` counts as gone: the block that `realloc` returned is accounted
    for in turn -/
theorem all_released {t : List Ev} {L : Led} (hr : run t {} = some L) (hl : L.live = []) :
    ∀ k i o, plainKind k → Ev.req k i false o ∈ t → Ev.free i ∈ t ∨ ∃ n, Ev.req .realloc n false i ∈ t := by
  intro k i o hk hm
  rcases (run_invariant AInv.init AInv.step hr).acct k i o hk hm with h1 | h1
  · rw [hl] at h1; cases h1
  · exact h1

end Edn.Proofs.AllocLedger
