/-
  flag independence of the value algebra (C18): on payloads every configuration interprets alike
  (`flagOK`) structural equality depends neither on the configuration nor on cache cells (`eqvF_flag`),
  and the duplicate check gives the same verdict in every configuration (`hasDuplicates_flag`).

  The proof of `eqvF_flag` goes through two simpler facts: `eqvF_erase` (equality of the
  cache-erased operands is equality of the operands, same configuration; in `CacheErase`) and
  `eqvF_cfg` (same operands, `cfg` against the core configuration, under `flagOK`).
-/
import Edn.Proofs.FlagIndepAux0
import Edn.Proofs.CacheErase

namespace Edn.Proofs
open Edn.Model Edn.Spec

theorem flagOKL_iff (cfg : Cfg) : ∀ (xs : List Val), flagOKL cfg xs ↔ ∀ x ∈ xs, flagOK cfg x
  | [] => by unfold flagOKL; simp
  | x :: xs => by
    unfold flagOKL
    rw [flagOKL_iff cfg xs]
    simp

theorem flagOKL_reverse (cfg : Cfg) {xs : List Val} (h : flagOKL cfg xs) : flagOKL cfg xs.reverse :=
  (flagOKL_iff cfg _).mpr fun x hx => (flagOKL_iff cfg xs).mp h x (List.mem_reverse.mp hx)

theorem flagOKL_cons (cfg : Cfg) {x : Val} {xs : List Val} (hx : flagOK cfg x) (h : flagOKL cfg xs) :
    flagOKL cfg (x :: xs) := ⟨hx, h⟩

theorem flagOKL_nil (cfg : Cfg) : flagOKL cfg [] := trivial

theorem coreStringsL_iff : ∀ (xs : List Val), coreStringsL xs = true ↔ ∀ x ∈ xs, coreStrings x = true
  | [] => by unfold coreStringsL; simp
  | x :: xs => by
    unfold coreStringsL
    rw [Bool.and_eq_true, coreStringsL_iff xs]
    simp

theorem coreStringsL_cons {x : Val} {xs : List Val} :
    coreStringsL (x :: xs) = true ↔ coreStrings x = true ∧ coreStringsL xs = true := by
  show (coreStrings x && coreStringsL xs) = true ↔ _
  rw [Bool.and_eq_true]

theorem coreStringsL_reverse {xs : List Val} : coreStringsL xs.reverse = true ↔ coreStringsL xs = true := by
  simp only [coreStringsL_iff, List.mem_reverse]

theorem coreStrings_setHdr (v : Val) (h' : Hdr) : coreStrings (v.setHdr h') = coreStrings v := by
  cases v <;> rfl

theorem flagOK_child (cfg : Cfg) {a x : Val} (hw : flagOK cfg a) (h : x ∈ children a) :
    flagOK cfg x := by
  cases a <;> try (exact absurd h List.not_mem_nil)
  case list hd m xs => exact (flagOKL_iff cfg xs).mp hw x h
  case vec hd m xs => exact (flagOKL_iff cfg xs).mp hw x h
  case set hd m xs => exact (flagOKL_iff cfg xs).mp hw x h
  case map hd m ks vs =>
    have hw' : flagOKL cfg ks ∧ flagOKL cfg vs := hw
    rcases List.mem_append.mp h with h | h
    · exact (flagOKL_iff cfg ks).mp hw'.1 x h
    · exact (flagOKL_iff cfg vs).mp hw'.2 x h
  case tagged hd m t v =>
    rcases List.mem_singleton.mp h with rfl
    exact hw

theorem flagOK_setHdr (cfg : Cfg) (v : Val) (h' : Hdr) : flagOK cfg (v.setHdr h') = flagOK cfg v := by
  cases v <;> rfl

theorem body_cfg (cfg : Cfg) (p : Val → Val → Bool) (a b : Val)
    (ga : flagOK cfg a) (gb : flagOK cfg b) : body cfg p a b = body Cfg.core p a b := by
  cases a
  case bigint h1 n r d =>
    cases b <;> try rfl
    case bigint h2 n' r' d' =>
      have ga' : 0x5F ∉ d := ga
      have gb' : 0x5F ∉ d' := gb
      show (r == r' && n == n' && cleanDigits cfg d == cleanDigits cfg d')
        = (r == r' && n == n' && cleanDigits Cfg.core d == cleanDigits Cfg.core d')
      rw [cleanDigits_noUS cfg d ga', cleanDigits_noUS cfg d' gb',
        cleanDigits_noUS Cfg.core d ga', cleanDigits_noUS Cfg.core d' gb']
  case bigdec h1 n d =>
    cases b <;> try rfl
    case bigdec h2 n' d' =>
      have ga' : 0x5F ∉ d := ga
      have gb' : 0x5F ∉ d' := gb
      show (n == n' && cleanDigits cfg d == cleanDigits cfg d')
        = (n == n' && cleanDigits Cfg.core d == cleanDigits Cfg.core d')
      rw [cleanDigits_noUS cfg d ga', cleanDigits_noUS cfg d' gb',
        cleanDigits_noUS Cfg.core d ga', cleanDigits_noUS Cfg.core d' gb']
  case str h1 d e =>
    cases b <;> try rfl
    case str h2 d' e' =>
      have ga' : stringContent cfg d e = stringContent Cfg.core d e := ga
      have gb' : stringContent cfg d' e' = stringContent Cfg.core d' e' := gb
      show (stringContent cfg d e == stringContent cfg d' e')
        = (stringContent Cfg.core d e == stringContent Cfg.core d' e')
      rw [ga', gb']
  all_goals rfl
theorem eqvF_cfg (cfg : Cfg) : ∀ (f : Nat) (a b : Val), flagOK cfg a → flagOK cfg b →
    eqvF cfg f a b = eqvF Cfg.core f a b := by
  intro f
  induction f with
  | zero => intro a b _ _; rfl
  | succ f ih =>
    intro a b ga gb
    rw [eqvF_succ, eqvF_succ]
    rw [body_congr cfg (p := eqvF cfg f) (q := eqvF Cfg.core f) a b
      fun x hx y hy => ih x y (flagOK_child cfg ga hx) (flagOK_child cfg gb hy)]
    exact body_cfg cfg _ a b ga gb

theorem eqvF_flag (cfg : Cfg) : ∀ (f : Nat) (a b a' b' : Val),
    eraseCache a' = eraseCache a → eraseCache b' = eraseCache b → flagOK cfg a → flagOK cfg b →
    eqvF cfg f a' b' = eqvF Cfg.core f a b := by
  intro f a b a' b' ha hb ga gb
  rw [← eqvF_erase cfg f a' b', ha, hb, eqvF_erase, eqvF_cfg cfg f a b ga gb]

theorem Eqv_flag (cfg : Cfg) (a b a' b' : Val)
    (ha : eraseCache a' = eraseCache a) (hb : eraseCache b' = eraseCache b)
    (ga : flagOK cfg a) (gb : flagOK cfg b) : Eqv cfg a' b' ↔ Eqv Cfg.core a b := by
  unfold Eqv
  rw [depth_of_eraseCache ha, eqvF_flag cfg (depth a + 1) a b a' b' ha hb ga gb]

theorem pairwiseDistinct_flag (cfg : Cfg) (xs xs' : List Val) (he : eraseCacheL xs' = eraseCacheL xs)
    (hg : flagOKL cfg xs) : pairwiseDistinct cfg xs' ↔ pairwiseDistinct Cfg.core xs := by
  have g := (flagOKL_iff cfg xs).mp hg
  refine (pairwiseDistinct_of_erase cfg xs xs' he).trans (List.Pairwise.iff_of_mem fun {a b} ha hb => ?_)
  rw [Eqv_flag cfg a b a b rfl rfl (g a ha) (g b hb), Eqv_flag cfg b a b a rfl rfl (g b hb) (g a ha)]

theorem flagOKL_hasDuplicates (cfg c : Cfg) (xs : List Val) (h : flagOKL cfg xs) :
    flagOKL cfg (hasDuplicates c xs).2 := by
  rw [flagOKL_iff] at h ⊢
  intro y hy
  obtain ⟨x, hx, _, rfl⟩ := (hasDuplicates_elems c xs).mem_left y hy
  rw [flagOK_setHdr]; exact h x hx

theorem coreStringsL_hasDuplicates (cfg : Cfg) (xs : List Val) :
    coreStringsL (hasDuplicates cfg xs).2 = coreStringsL xs := by
  have e := hasDuplicates_elems cfg xs
  have hc : ∀ {y x : Val}, CacheOnly y x → coreStrings y = coreStrings x :=
    fun ⟨_, h⟩ => by rw [h, coreStrings_setHdr]
  refine Bool.eq_iff_iff.mpr ?_
  rw [coreStringsL_iff, coreStringsL_iff]
  exact ⟨fun h x hx => by obtain ⟨y, hy, r⟩ := e.mem_right x hx; rw [← hc r]; exact h y hy,
    fun h y hy => by obtain ⟨x, hx, r⟩ := e.mem_left y hy; rw [hc r]; exact h x hx⟩

theorem hasDuplicates_fst_congr {cfg cfg0 : Cfg} {xs' xs : List Val} (hE' : Elems cfg xs') (hE : Elems cfg0 xs)
    (h : pairwiseDistinct cfg xs' ↔ pairwiseDistinct cfg0 xs) :
    (hasDuplicates cfg xs').1 = (hasDuplicates cfg0 xs).1 :=
  bool_eq_of_false_iff ((hasDuplicates_iff cfg xs' hE').1.trans (h.trans (hasDuplicates_iff cfg0 xs hE).1.symm))

theorem hasDuplicates_flag (cfg : Cfg) (xs xs' : List Val)
    (he : eraseCacheL xs' = eraseCacheL xs) (hE : Elems Cfg.core xs) (hE' : Elems cfg xs')
    (hg : flagOKL cfg xs) :
    (hasDuplicates cfg xs').1 = (hasDuplicates Cfg.core xs).1 ∧
    eraseCacheL (hasDuplicates cfg xs').2 = eraseCacheL (hasDuplicates Cfg.core xs).2 ∧
    flagOKL cfg (hasDuplicates Cfg.core xs).2 :=
  ⟨hasDuplicates_fst_congr hE' hE (pairwiseDistinct_flag cfg xs xs' he hg),
    by rw [hasDuplicates_snd_erase, hasDuplicates_snd_erase, he], flagOKL_hasDuplicates cfg Cfg.core xs hg⟩

end Edn.Proofs
