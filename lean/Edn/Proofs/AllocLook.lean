/-
  Equality, hashing and what they look at, specified once for the simulation (C16) and the request
  bound (C02).  `Look x N c r a v`: started in `a` the function returned `r`; the arena is framed, and
  when it is alive and refused nothing in between, the answer is the pure `v` and the potential
  `reqs + Psi N bufs` grew by at most `c`.  An alive arena whose count of refusals has not moved has
  granted every request (`request_arena_ok`), so the bound holds under the hypothesis of `Sim`, for any
  oracle: `Look.sim` forgets the bound, `Look.stp` reads it off for a fault-free oracle.
  The loops of the duplicate check are specified the same way in Edn.Proofs.AllocSimDup.
-/
import Edn.Proofs.AllocFrame
import Edn.Proofs.AllocBoundLook

namespace Edn.Proofs.AllocLook
open Edn.Model Edn.Proofs Edn.Proofs.AllocBasic Edn.Proofs.AllocSim Edn.Proofs.AllocBound

def Look {α : Type} (x : ACtx) (N c : Nat) (r : α × ASt) (a : ASt) (v : α) : Prop :=
  Fr x a r.2 ∧ (a.arena = .alive → r.2.failedArena = a.failedArena →
    r.1 = v ∧ r.2.reqs + Psi N r.2.bufs ≤ a.reqs + Psi N a.bufs + c)

section
variable {α β : Type} {x : ACtx} {N ℓ c c' c1 c2 : Nat} {a : ASt} {r : α × ASt} {v : α}

theorem Look.sim (h : Look x N c r a v) : Sim x r a v := ⟨h.1, fun ha hc => (h.2 ha hc).1⟩

theorem Look.stp (h : Look x N c r a v) (hx : NoFault x) (ha : a.arena = .alive) : Stp N c a r.2 :=
  ⟨h.1.arena.trans ha, (h.2 ha (h.1.quiet hx)).2⟩

theorem Look.pure (x : ACtx) (N c : Nat) (a : ASt) (v : α) : Look x N c (v, a) a v :=
  ⟨Fr.refl x a, fun _ _ => ⟨rfl, Nat.le_add_right _ _⟩⟩

theorem Look.mono (h : Look x N c r a v) (hc : c ≤ c') : Look x N c' r a v :=
  ⟨h.1, fun ha hf => ⟨(h.2 ha hf).1, Nat.le_trans (h.2 ha hf).2 (Nat.add_le_add_left hc _)⟩⟩

theorem Look.monoL (h : Look x N (ℓ * c) r a v) (hc : c ≤ c') : Look x N (ℓ * c') r a v :=
  h.mono (Nat.mul_le_mul_left _ hc)

theorem Look.mono2 {A B A' B' : Nat} (h : Look x N (ℓ * (2 * (A * B))) r a v) (hA : A ≤ A') (hB : B ≤ B') :
    Look x N (ℓ * (2 * (A' * B'))) r a v :=
  h.monoL (Nat.mul_le_mul_left _ (Nat.mul_le_mul hA hB))

theorem Look.seq {r1 : α × ASt} {v1 : α} {r2 : β × ASt} {w : β} (h1 : Look x N c1 r1 a v1) (hf : Fr x r1.2 r2.2)
    (hv : r1.2.arena = .alive → r1.1 = v1 → r2.2.failedArena = r1.2.failedArena →
      r2.1 = w ∧ r2.2.reqs + Psi N r2.2.bufs ≤ r1.2.reqs + Psi N r1.2.bufs + c2) :
    Look x N (c1 + c2) r2 a w := by
  refine ⟨h1.1.trans hf, fun ha hc => ?_⟩
  obtain ⟨f1, f2⟩ := Fr.squeeze h1.1 hf hc
  obtain ⟨e1, i1⟩ := h1.2 ha f1
  obtain ⟨e2, i2⟩ := hv (h1.1.arena.trans ha) e1 f2
  exact ⟨e2, by omega⟩

theorem Look.bind {r1 : α × ASt} {v1 : α} (h1 : Look x N c1 r1 a v1) {K : α → ASt → β × ASt} (k0 : α → β)
    (h2 : ∀ u a1, Look x N c2 (K u a1) a1 (k0 u)) : Look x N (c1 + c2) (match r1 with | (u, a1) => K u a1) a (k0 v1) :=
  Look.seq h1 (h2 r1.1 r1.2).1 fun ha1 e hc => e ▸ (h2 r1.1 r1.2).2 ha1 hc

/-- `bind` for a continuation that is specified at the pure answer only (it goes on with the answer,
    and what it needs of it is known of the pure one): at any other answer its frame suffices -/
theorem Look.bindV {r1 : α × ASt} {v1 : α} {w : β} (h1 : Look x N c1 r1 a v1) {K : α → ASt → β × ASt}
    (hf : ∀ u a1, Fr x a1 (K u a1).2) (h2 : ∀ a1, Look x N c2 (K v1 a1) a1 w) :
    Look x N (c1 + c2) (match r1 with | (u, a1) => K u a1) a w :=
  Look.seq h1 (hf r1.1 r1.2) fun ha1 e hc => (e ▸ h2 r1.2 : Look x N c2 (K r1.1 r1.2) r1.2 w).2 ha1 hc

theorem Look.bindL {r1 : α × ASt} {v1 : α} (h1 : Look x N (ℓ * c1) r1 a v1) {K : α → ASt → β × ASt} (k0 : α → β)
    (h2 : ∀ u a1, Look x N (ℓ * c2) (K u a1) a1 (k0 u)) :
    Look x N (ℓ * (c1 + c2)) (match r1 with | (u, a1) => K u a1) a (k0 v1) :=
  Nat.mul_add ℓ c1 c2 ▸ h1.bind k0 h2

theorem Look.of_eq {a1 : ASt} {u : α} {w w0 : β} (h : Look x N c (u, a1) a v) (he : u = v → w = w0) :
    Look x N c (w, a1) a w0 :=
  ⟨h.1, fun ha hc => ⟨he (h.2 ha hc).1, (h.2 ha hc).2⟩⟩

/-- after a call whose answer has been taken apart already -/
theorem Look.andThen {u : α} {a1 : ASt} {r2 : β × ASt} {w : β} (h1 : Look x N c1 (u, a1) a v)
    (h2 : Look x N c2 r2 a1 w) : Look x N (c1 + c2) r2 a w :=
  Look.seq h1 h2.1 fun ha1 _ hc => h2.2 ha1 hc

theorem Look.thenL {γ : Type} {a1 a2 : ASt} {u1 v1 : α} {u2 v2 : β} (h1 : Look x N (ℓ * c1) (u1, a1) a v1)
    (h2 : Look x N (ℓ * c2) (u2, a2) a1 v2) (f : α → β → γ) : Look x N (ℓ * (c1 + c2)) (f u1 u2, a2) a (f v1 v2) :=
  Nat.mul_add ℓ c1 c2 ▸ Look.seq h1 h2.1 fun ha1 e hc => ⟨congr (congrArg f e) (h2.2 ha1 hc).1, (h2.2 ha1 hc).2⟩

end

section
variable {α : Type} {x : ACtx} {N ℓ : Nat}

/-- what follows a request on the parser's arena: nothing on a refusal; on a grant a state `a2` with
    the same arena and count of refusals -/
theorem after_request {c : Nat} (a a2 : ASt) (u v : α) (h1 : a2.arena = a.arena)
    (h2 : a2.failedArena = (a.request x.orc .arena).2.failedArena)
    (hi : a2.reqs + Psi N a2.bufs ≤ a.reqs + Psi N a.bufs + c) :
    Look x N c (if (!(a.request x.orc .arena).1) = true then (u, (a.request x.orc .arena).2) else (v, a2)) a v := by
  have hf := request_fr x .arena a 0
  refine ite_ind (P := fun r => Look x N c r a v) (fun hr => ⟨hf, fun ha hq => ?_⟩)
    fun _ => ⟨hf.trans (Fr.of_eq h1 h2), fun _ _ => ⟨rfl, hi⟩⟩
  rw [request_arena_ok x a 0 ha hq] at hr; cases hr

/-- a scratch block: one request, whatever the outcome -/
theorem rawAlloc_look (k : ReqKind) (a : ASt) : Look x N 1 (a.rawAlloc x.orc k) a (a.rawAlloc x.orc k).1 := by
  refine ⟨rawAlloc_fr x k a, fun _ _ => ⟨rfl, ?_⟩⟩
  have hb : (a.rawAlloc x.orc k).2.bufs = a.bufs := by
    unfold ASt.rawAlloc; cases h : (a.request x.orc k).1 <;> simp [h, request_bufs]
  rw [rawAlloc_reqs, hb]; omega

theorem free_look (v : α) (i : Nat) (a : ASt) : Look x N 0 (v, a.free i) a v :=
  ⟨free_fr x i a, fun _ _ => ⟨rfl, Nat.le_refl _⟩⟩

/-- a lazily materialised payload enters `bufs` under a name that was not there: for a name `< N`
    the entry pays for the request -/
theorem lazy_look (a : ASt) (k : Nat) (u v : α) (hc : a.bufs.contains k = false) (hk : ℓ = 0 → k < N) :
    Look x N ℓ (if (!(a.request x.orc .arena).1) = true then (u, (a.request x.orc .arena).2)
      else (v, { (a.request x.orc .arena).2 with bufs := k :: (a.request x.orc .arena).2.bufs })) a v := by
  refine after_request a _ u v rfl rfl ?_
  show a.reqs + 1 + Psi N (k :: a.bufs) ≤ a.reqs + Psi N a.bufs + ℓ
  rcases Nat.eq_zero_or_pos ℓ with h0 | hpos
  · have := Psi_cons_lt N k a.bufs (hk h0) hc; omega
  · have := Psi_cons_le N k a.bufs; omega

theorem strContentA_look (h : Hdr) (d : Bytes) (e : Bool) (a : ASt) (g : Fit x.ctx.cfg N ℓ (.str h d e)) :
    Look x N ℓ (strContentA x h d e a) a (stringContent x.ctx.cfg d e) := by
  unfold strContentA
  cases e with
  | false => exact Look.pure x N ℓ a _
  | true =>
    refine ite_ind (P := fun r => Look x N ℓ r a _) (fun hc => absurd hc Bool.false_ne_true) fun _ =>
      ite_ind (P := fun r => Look x N ℓ r a _) (fun _ => Look.pure x N ℓ a _) fun hc => ?_
    unfold stringContent
    cases hds : decodeString x.ctx.cfg (d.length + 1) d with
    | some t =>
      exact lazy_look a h.s _ _ (by simpa using hc) fun h0 => by cases g h0 with | str _ _ _ hs _ => exact hs
    | none =>
      -- a literal that does not decode is not good: the look is paid for
      have hpos : 1 ≤ ℓ := Nat.pos_of_ne_zero fun h0 => by
        cases g h0 with | str _ _ _ _ hd => rw [hds] at hd; exact absurd (hd rfl) (by decide)
      exact (after_request (c := 1) a (a.request x.orc .arena).2 _ _ rfl rfl
        (Nat.le_of_eq (Nat.add_right_comm ..))).mono hpos

theorem cleanA_look (h : Hdr) (d : Bytes) (a : ASt) (hs : ℓ = 0 → h.s < N) :
    Look x N ℓ (cleanA x h d a) a (some (cleanDigits x.ctx.cfg d)) := by
  unfold cleanA
  refine ite_ind (P := fun r => Look x N ℓ r a _) (fun hc => ?_) fun _ =>
    ite_ind (P := fun r => Look x N ℓ r a _) (fun _ => Look.pure x N ℓ a _) fun hc => ?_
  · rw [cleanDigits_plain x.ctx.cfg d hc]; exact Look.pure x N ℓ a _
  · exact lazy_look a h.s _ _ (by simpa using hc) hs

theorem digitsEqA_look (h h' : Hdr) (d d' : Bytes) (a : ASt) (hs : ℓ = 0 → h.s < N) (hs' : ℓ = 0 → h'.s < N) :
    Look x N (ℓ * 2) (digitsEqA x h d h' d' a) a (cleanDigits x.ctx.cfg d == cleanDigits x.ctx.cfg d') :=
  (Look.bind (c2 := ℓ + 0) (K := fun da a1 => match cleanA x h' d' a1 with
      | (db, a2) => (match da, db with | some p, some q => p == q | _, _ => false, a2))
    (cleanA_look h d a hs) (fun da => match da, some (cleanDigits x.ctx.cfg d') with | some p, some q => p == q | _, _ => false) fun da a1 =>
    Look.bind (K := fun db a2 => (match da, db with | some p, some q => p == q | _, _ => false, a2))
      (cleanA_look h' d' a1 hs') (fun db => match da, db with | some p, some q => p == q | _, _ => false) fun _ a2 =>
      (Look.pure x N 0 a2 _)).mono (by omega)

theorem strEqA_look (h h' : Hdr) (d d' : Bytes) (e e' : Bool) (a : ASt) (g : Fit x.ctx.cfg N ℓ (.str h d e))
    (g' : Fit x.ctx.cfg N ℓ (.str h' d' e')) :
    Look x N (ℓ * 2) (strEqA x h d e h' d' e' a) a (stringContent x.ctx.cfg d e == stringContent x.ctx.cfg d' e') :=
  (Look.bind (c2 := ℓ + 0) (K := fun ca a1 => match strContentA x h' d' e' a1 with | (cb, a2) => (ca == cb, a2))
    (strContentA_look h d e a g) (fun ca => ca == stringContent x.ctx.cfg d' e') fun ca a1 =>
    Look.bind (K := fun cb a2 => (ca == cb, a2)) (strContentA_look h' d' e' a1 g') (fun cb => ca == cb) fun _ a2 =>
      Look.pure x N 0 a2 _).mono (by omega)

end

/-- a comparison of two values whose looks cost `ℓ` each: two looks per pair of nodes at most -/
def LSpec (x : ACtx) (N ℓ : Nat) (p : Val → Val → ASt → Bool × ASt) (q : Val → Val → Bool) : Prop :=
  ∀ u w a, Fit x.ctx.cfg N ℓ u → Fit x.ctx.cfg N ℓ w → Look x N (ℓ * (2 * (sz u * sz w))) (p u w a) a (q u w)

section
variable {x : ACtx} {N ℓ : Nat} {p : Val → Val → ASt → Bool × ASt} {q : Val → Val → Bool} (hp : LSpec x N ℓ p q)
include hp

theorem anyA_look (v : Val) (ys : List Val) (a : ASt) (hv : Fit x.ctx.cfg N ℓ v) (hys : FitL x.ctx.cfg N ℓ ys) :
    Look x N (ℓ * (2 * (sz v * szL ys))) (anyA p v ys a) a (ys.any (q v)) := by
  induction ys generalizing a with
  | nil => exact Look.pure x N _ a _
  | cons y ys ih =>
    refine (Look.bindL (c2 := 2 * (sz v * szL ys)) (K := fun (r : Bool) a1 => if r then (true, a1) else anyA p v ys a1) (hp v y a hv hys.head)
      (fun u => u || ys.any (q v)) fun u a1 => ?_).monoL (by simp only [szL]; grind)
    cases u
    · exact ih a1 hys.tail
    · exact Look.pure x N _ a1 _

theorem allZipA_look (xs ys : List Val) (a : ASt) (hxs : FitL x.ctx.cfg N ℓ xs) (hys : FitL x.ctx.cfg N ℓ ys) :
    Look x N (ℓ * (2 * (szL xs * szL ys))) (allZipA p xs ys a) a (allZip q xs ys) := by
  induction xs generalizing ys a with
  | nil => cases ys <;> exact Look.pure x N _ a _
  | cons v vs ih =>
    cases ys with
    | nil => exact Look.pure x N _ a _
    | cons y ys =>
      refine (Look.bindL (c2 := 2 * (szL vs * szL ys)) (K := fun (r : Bool) a1 => if r then allZipA p vs ys a1 else (false, a1))
        (hp v y a hxs.head hys.head) (fun u => u && allZip q vs ys) fun u a1 => ?_).monoL (by simp only [szL]; grind)
      cases u
      · exact Look.pure x N _ a1 _
      · exact ih ys a1 hxs.tail hys.tail

theorem allAnyA_look (xs ys : List Val) (a : ASt) (hxs : FitL x.ctx.cfg N ℓ xs) (hys : FitL x.ctx.cfg N ℓ ys) :
    Look x N (ℓ * (2 * (szL xs * szL ys))) (allAnyA p xs ys a) a (xs.all fun v => ys.any fun y => q v y) := by
  induction xs generalizing a with
  | nil => exact Look.pure x N _ a _
  | cons v vs ih =>
    refine (Look.bindL (c2 := 2 * (szL vs * szL ys)) (K := fun (r : Bool) a1 => if r then allAnyA p vs ys a1 else (false, a1))
      (anyA_look hp v ys a hxs.head hys) (fun u => u && vs.all fun v => ys.any fun y => q v y) fun u a1 => ?_).monoL
      (by simp only [szL]; grind)
    cases u
    · exact Look.pure x N _ a1 _
    · exact ih a1 hxs.tail

theorem mapEntryA_look (k v : Val) (ks vs : List Val) (a : ASt) (hk : Fit x.ctx.cfg N ℓ k) (hv : Fit x.ctx.cfg N ℓ v)
    (hks : FitL x.ctx.cfg N ℓ ks) (hvs : FitL x.ctx.cfg N ℓ vs) :
    Look x N (ℓ * (2 * ((sz k + sz v) * (szL ks + szL vs)))) (mapEntryA p k v ks vs a) a (mapEntry q k v ks vs) := by
  induction ks generalizing vs a with
  | nil => cases vs <;> exact Look.pure x N _ a _
  | cons k' ks ih =>
    cases vs with
    | nil => exact Look.pure x N _ a _
    | cons v' vs =>
      rw [mapEntry_cons]
      refine (Look.bindL (c2 := 2 * ((sz k + sz v) * (szL ks + szL vs) + sz v * sz v'))
        (K := fun (r : Bool) a1 => if r then p v v' a1 else mapEntryA p k v ks vs a1) (hp k k' a hk hks.head)
        (fun u => if u then q v v' else mapEntry q k v ks vs) fun u a1 => ?_).monoL (by simp only [szL]; grind)
      cases u
      · exact (ih vs a1 hks.tail hvs.tail).monoL (by omega)
      · exact (hp v v' a1 hv hvs.head).monoL (by omega)

theorem mapAllA_look (ks' vs' ks vs : List Val) (a : ASt) (hks' : FitL x.ctx.cfg N ℓ ks') (hvs' : FitL x.ctx.cfg N ℓ vs')
    (hks : FitL x.ctx.cfg N ℓ ks) (hvs : FitL x.ctx.cfg N ℓ vs) :
    Look x N (ℓ * (2 * ((szL ks + szL vs) * (szL ks' + szL vs')))) (mapAllA p ks' vs' ks vs a) a
      (allZip (fun k v => mapEntry q k v ks' vs') ks vs) := by
  induction ks generalizing vs a with
  | nil => cases vs <;> exact Look.pure x N _ a _
  | cons k ks ih =>
    cases vs with
    | nil => exact Look.pure x N _ a _
    | cons v vs =>
      refine (Look.bindL (c2 := 2 * ((szL ks + szL vs) * (szL ks' + szL vs')))
        (K := fun (r : Bool) a1 => if r then mapAllA p ks' vs' ks vs a1 else (false, a1))
        (mapEntryA_look hp k v ks' vs' a hks.head hvs.head hks' hvs')
        (fun u => u && allZip (fun k v => mapEntry q k v ks' vs') ks vs) fun u a1 => ?_).monoL (by simp only [szL]; grind)
      cases u
      · exact Look.pure x N _ a1 _
      · exact ih vs a1 hks.tail hvs.tail

end

section
variable {x : ACtx} {N ℓ : Nat}

theorem guard_look {k : Nat} {r : Bool × ASt} {a : ASt} {c c' v : Bool} (hc : (!c') = c) (h : Look x N k r a v) :
    Look x N k (if c = true then (false, a) else r) a (c' && v) := by
  cases c' <;> simp only [Bool.not_false, Bool.not_true] at hc <;> subst hc
  · exact Look.pure x N k a _
  · simpa using h

theorem equalFA_look (f : Nat) : LSpec x N ℓ (equalFA x f) (equalF x.ctx.cfg f) := by
  induction f with
  | zero => intro u w a _ _; exact Look.pure x N _ a _
  | succ f ih =>
    intro va vb a ga gb
    have one : ∀ {u w : Val}, 2 ≤ 2 * (sz u * sz w) := fun {u w} =>
      Nat.mul_le_mul_left 2 (Nat.mul_le_mul (sz_pos u) (sz_pos w))
    rw [equalF_succ]
    refine ite_rel (R := fun r v => Look x N _ r a v) (fun _ => Look.pure x N _ a _) fun h1 =>
      ite_rel (R := fun r v => Look x N _ r a v) (fun _ => Look.pure x N _ a _) fun h2 => ?_
    -- the kinds that are looked into, in the order of `equalFA`; sizes only shrink
    split
    · next ha n r d hb n' r' d' =>
      show Look x N _ _ a (r == r' && n == n' && cleanDigits x.ctx.cfg d == cleanDigits x.ctx.cfg d')
      rw [Bool.and_assoc]
      exact guard_look (by simp [bne]) (guard_look (by simp [bne])
        ((digitsEqA_look ha hb d d' a (fun h0 => (ga h0).hdr_lt) (fun h0 => (gb h0).hdr_lt)).monoL one))
    · exact guard_look (by simp [bne])
        ((digitsEqA_look _ _ _ _ a (fun h0 => (ga h0).hdr_lt) (fun h0 => (gb h0).hdr_lt)).monoL one)
    · exact (strEqA_look _ _ _ _ _ _ a ga gb).monoL one
    · exact guard_look (by simp [bne])
        ((allZipA_look ih _ _ a ga.list gb.list).mono2 (by simp only [sz]; omega) (by simp only [sz]; omega))
    · exact guard_look (by simp [bne])
        ((allZipA_look ih _ _ a ga.list gb.vec).mono2 (by simp only [sz]; omega) (by simp only [sz]; omega))
    · exact guard_look (by simp [bne])
        ((allZipA_look ih _ _ a ga.vec gb.list).mono2 (by simp only [sz]; omega) (by simp only [sz]; omega))
    · exact guard_look (by simp [bne])
        ((allZipA_look ih _ _ a ga.vec gb.vec).mono2 (by simp only [sz]; omega) (by simp only [sz]; omega))
    · exact guard_look (by simp [bne])
        ((allAnyA_look ih _ _ a ga.set gb.set).mono2 (by simp only [sz]; omega) (by simp only [sz]; omega))
    · exact guard_look (by simp [bne])
        ((mapAllA_look ih _ _ _ _ a gb.map_k gb.map_v ga.map_k ga.map_v).mono2
          (by simp only [sz]; omega) (by simp only [sz]; omega))
    · exact guard_look (by simp [bne])
        ((ih _ _ a ga.tagged gb.tagged).mono2 (by simp only [sz]; omega) (by simp only [sz]; omega))
    · have hs := equalF_succ x.ctx.cfg f va vb
      rw [if_neg h1, if_neg h2] at hs
      rw [← hs]
      exact Look.pure x N _ a _

theorem equalA_look : LSpec x N ℓ (equalA x) (equal x.ctx.cfg) := equalFA_look maxDepthFuel

theorem hash_look :
    (∀ v a, Fit x.ctx.cfg N ℓ v → Look x N (ℓ * sz v) (hashVA x v a) a (hashV x.ctx.cfg v)) ∧
    (∀ ks vs a, FitL x.ctx.cfg N ℓ ks → FitL x.ctx.cfg N ℓ vs →
      Look x N (ℓ * (szL ks + szL vs)) (hashPairsA x ks vs a) a (pairHashes (hashList x.ctx.cfg ks) (hashList x.ctx.cfg vs))) ∧
    (∀ xs a, FitL x.ctx.cfg N ℓ xs → Look x N (ℓ * szL xs) (hashListA x xs a) a (hashList x.ctx.cfg xs)) := by
  have leaf : ∀ {α : Type} {r : α × ASt} {a : ASt} {v : α}, Look x N ℓ r a v → Look x N (ℓ * 1) r a v :=
    fun h => h.mono (by omega)
  apply hashVA.mutual_induct x
    (fun v a => Fit x.ctx.cfg N ℓ v → Look x N (ℓ * sz v) (hashVA x v a) a (hashV x.ctx.cfg v))
    (fun ks vs a => FitL x.ctx.cfg N ℓ ks → FitL x.ctx.cfg N ℓ vs →
      Look x N (ℓ * (szL ks + szL vs)) (hashPairsA x ks vs a) a (pairHashes (hashList x.ctx.cfg ks) (hashList x.ctx.cfg vs)))
    (fun xs a => FitL x.ctx.cfg N ℓ xs → Look x N (ℓ * szL xs) (hashListA x xs a) a (hashList x.ctx.cfg xs))
  -- the cases as `hashVA.mutual_induct` numbers them: 1–3 the payloads looked at (big integer, big
  -- decimal, string), 4–8 the compound values, 19–20 `hashPairsA`, 21–22 `hashListA`; the remaining
  -- ones, values hashed without a look, are closed by the last line
  case case1 =>
    intro h neg radix d a dd a1 e g
    have h1 := cleanA_look (x := x) (N := N) (ℓ := ℓ) h d a fun h0 => (g h0).hdr_lt
    unfold hashVA; rw [e] at h1 ⊢
    exact leaf (h1.of_eq fun e' => by subst e'; rfl)
  case case2 =>
    intro h neg t a dd a1 e g
    have h1 := cleanA_look (x := x) (N := N) (ℓ := ℓ) h t a fun h0 => (g h0).hdr_lt
    unfold hashVA; rw [e] at h1 ⊢
    exact leaf (h1.of_eq fun e' => by subst e'; rfl)
  case case3 =>
    intro h data esc a c a1 e g
    have h1 := strContentA_look h data esc a g
    unfold hashVA; rw [e] at h1 ⊢
    exact leaf (h1.of_eq fun e' => by subst e'; rfl)
  -- a list, a vector, a set: from the hashes of the elements
  case case4 =>
    intro h md xs a hs a1 e ih g; unfold hashVA; rw [e] at ih ⊢
    exact ((ih g.list).of_eq fun e' => by subst e'; rfl).monoL (by simp only [sz]; omega)
  case case5 =>
    intro h md xs a hs a1 e ih g; unfold hashVA; rw [e] at ih ⊢
    exact ((ih g.vec).of_eq fun e' => by subst e'; rfl).monoL (by simp only [sz]; omega)
  case case6 =>
    intro h md xs a hs a1 e ih g; unfold hashVA; rw [e] at ih ⊢
    exact ((ih g.set).of_eq fun e' => by subst e'; rfl).monoL (by simp only [sz]; omega)
  case case7 =>
    intro h md ks vs a hs a1 e ih g; unfold hashVA; rw [e] at ih ⊢
    exact ((ih g.map_k g.map_v).of_eq fun e' => by subst e'; rfl).monoL (by simp only [sz]; omega)
  case case8 =>
    intro h md tag v a hv a1 e ih g; unfold hashVA; rw [e] at ih ⊢
    exact ((ih g.tagged).of_eq fun e' => by subst e'; rfl).monoL (by simp only [sz]; omega)
  case case19 =>
    intro k ks v vs a hv a1 e1 hv2 a2 e2 hs a3 e3 ih1 ih2 ih3 gks gvs
    unfold hashPairsA; rw [e1]; dsimp only; rw [e2]; dsimp only; rw [e3]
    rw [e1] at ih1; rw [e2] at ih2; rw [e3] at ih3
    exact (((ih1 gks.head).thenL (ih2 gvs.head) fun h1 h2 => h1 ^^^ (h2 * fnvPrime)).thenL
      (ih3 gks.tail gvs.tail) List.cons).monoL (by simp only [szL]; omega)
  case case20 =>
    intro ks vs a hne _ _
    unfold hashPairsA
    split
    · next k ks' v vs' _ _ => exact (hne k ks' v vs' rfl rfl).elim
    · have : pairHashes (hashList x.ctx.cfg ks) (hashList x.ctx.cfg vs) = [] := by
        cases ks with
        | nil => simp [hashList, pairHashes]
        | cons k ks' =>
          cases vs with
          | nil => simp [hashList, pairHashes]
          | cons v vs' => exact (hne k ks' v vs' rfl rfl).elim
      rw [this]; exact Look.pure x N _ a _
  case case21 => intro a _; unfold hashListA; exact Look.pure x N _ a _
  case case22 =>
    intro v vs a hv a1 e1 hs a2 e2 ih1 ih2 g
    unfold hashListA; rw [e1]; dsimp only; rw [e2]
    rw [e1] at ih1; rw [e2] at ih2
    exact (ih1 g.head).thenL (ih2 g.tail) List.cons
  all_goals (intros; unfold hashVA; exact Look.pure x N _ _ _)

theorem hashOpA_look (v : Val) (a : ASt) (g : Fit x.ctx.cfg N ℓ v) :
    Look x N (ℓ * sz v) (hashOpA x v a) a (hashOp x.ctx.cfg v) := by
  unfold hashOpA hashOp
  simp only
  split
  · exact Look.pure x N _ a _
  · have h := hash_look.1 v a g
    rcases hq : hashVA x v a with ⟨hv, a1⟩
    rw [hq] at h
    exact h.of_eq fun e => by rw [e]

theorem equalA_flip_look : LSpec x N ℓ (fun e y => equalA x y e) (fun e y => equal x.ctx.cfg y e) :=
  fun u w a gu gw => (equalA_look w u a gw gu).monoL (by rw [Nat.mul_comm (sz w)]; exact Nat.le_refl _)

theorem keepOldA_look (newKeys : List Val) : ∀ (ks vs : List Val) (a : ASt), FitL x.ctx.cfg N ℓ newKeys →
    FitL x.ctx.cfg N ℓ ks →
    Look x N (ℓ * (2 * (szL ks * szL newKeys))) (keepOldA x newKeys ks vs a) a (keepOld x.ctx.cfg newKeys ks vs) := by
  intro ks
  induction ks with
  | nil => intro vs a _ _; cases vs <;> exact Look.pure x N _ a _
  | cons k ks ih =>
    intro vs a gn gk
    cases vs with
    | nil => exact Look.pure x N _ a _
    | cons v vs =>
      refine (Look.bindL (c2 := 2 * (szL ks * szL newKeys))
        (K := fun (found : Bool) a1 => match keepOldA x newKeys ks vs a1 with
          | ((ks', vs'), a2) => (if found then (ks', vs') else (k :: ks', v :: vs'), a2))
        (anyA_look equalA_look k newKeys a gk.head gn)
        (fun found => if found then keepOld x.ctx.cfg newKeys ks vs
          else (k :: (keepOld x.ctx.cfg newKeys ks vs).1, v :: (keepOld x.ctx.cfg newKeys ks vs).2)) fun found a1 => ?_).monoL
        (by simp only [szL]; grind)
      exact Nat.add_zero (ℓ * _) ▸ Look.bind
        (K := fun (r : List Val × List Val) a2 => (if found then (r.1, r.2) else (k :: r.1, v :: r.2), a2))
        (ih vs a1 gn gk.tail) (fun r => if found then (r.1, r.2) else (k :: r.1, v :: r.2)) fun r a2 => Look.pure x N 0 a2 _

end

/-- with `N = 0` and a look that costs one unit nothing is asked of the values: the instance at which
    a `Look` is read as a `Sim` -/
theorem fit1 (cfg : Cfg) (v : Val) : Fit cfg 0 1 v := fun h => absurd h (by decide)

theorem fitL1 (cfg : Cfg) (xs : List Val) : FitL cfg 0 1 xs := fun _ _ => fit1 _ _

end Edn.Proofs.AllocLook
